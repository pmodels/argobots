import ArgoVerif.Proofs.MemPoolSeg
/-
Proofs.MemPoolInv — the invariant of Model.MemPool and the operations of the global pool.
The invariant is used through its parts (`LocOK` for one local pool, `LifoOK`, `PartOK`, `TmpOK`,
`OutOK`, `CarvedOK`): an operation re-establishes the parts it works on and carries the others over
by their frame lemmas (`Frame T s s'`: only headers labelled in `T` are touched).
`returnBucket`, `returnPartial` and `takeBucket` (pop of the LIFO, carving fresh headers out of pages
with no overlap and never outside the page, `ABTI_ASSERT(num_provided != 0)` never firing, the
allocation-failure path) preserve it and leave local pools and handed-out blocks alone (`GStep`).
-/
namespace ArgoVerif.Model.MemPool
open ArgoVerif

/-- geometry of carving: every carved header lies below its page's `p_mem_extra`, inside the
page's usable area; distinct carved headers of one page do not overlap; pages on
`mem_page_lifo` have room for at least one header -/
structure Geo (P : Params) (s : St) : Prop where
  pgIn : ∀ x, s.own x ≠ .unused → x.1 < s.npages ∧ x.2 + P.headerSize ≤ (s.pages x.1).extraOff
  pgSum : ∀ p, p < s.npages → (s.pages p).extraOff + (s.pages p).extraSize = P.pageSize - P.pageStruct
  pgLifo : ∀ p, p ∈ s.pageLifo → p < s.npages ∧ P.headerSize ≤ (s.pages p).extraSize
  pgLifoNd : s.pageLifo.Nodup
  sep : ∀ x y, s.own x ≠ .unused → s.own y ≠ .unused → x.1 = y.1 → x ≠ y →
          x.2 + P.headerSize ≤ y.2 ∨ y.2 + P.headerSize ≤ x.2
  offDvd : ∀ x, s.own x ≠ .unused → P.headerSize ∣ x.2
  pgDvd : ∀ p, p < s.npages → P.headerSize ∣ (s.pages p).extraOff

theorem Geo.congr {P : Params} {s s' : St} (h : Geo P s)
    (ho : ∀ x, s'.own x = .unused ↔ s.own x = .unused) (hp : s'.pages = s.pages)
    (hn : s'.npages = s.npages) (hl : s'.pageLifo = s.pageLifo) : Geo P s' := by
  constructor
  · intro x hx; rw [hp, hn]; exact h.pgIn x (by rwa [ne_eq, ← ho])
  · intro p hp'; rw [hp]; exact h.pgSum p (by rwa [← hn])
  · intro p hp'; rw [hp, hn]; exact h.pgLifo p (by rwa [← hl])
  · rw [hl]; exact h.pgLifoNd
  · intro x y hx hy; exact h.sep x y (by rwa [ne_eq, ← ho]) (by rwa [ne_eq, ← ho])
  · intro x hx; exact h.offDvd x (by rwa [ne_eq, ← ho])
  · intro p hp'; rw [hp]; exact h.pgDvd p (by rwa [← hn])

/-- The invariant.  `th`/`tn`: the bucket in flight (head, number of headers), `lo i`: buckets
`0 .. lo i - 1` of local pool `i` have already been detached by the operation in progress.
Between operations `th = none` and `lo = fun _ => 0`. -/
structure InvG (P : Params) (s : St) (th : Option Hdr) (tn : Nat) (lo : Nat → Nat) : Prop where
  lpBidx : ∀ i lp, s.lp i = some lp → lp.bidx < P.maxLocal
  lpB : ∀ i lp j, s.lp i = some lp → lo i ≤ j → j ≤ lp.bidx →
          IsBucket s.next s.own (lp.buckets j) (s.cnt (lp.buckets j)) (.loc i j) ∧
          1 ≤ s.cnt (lp.buckets j) ∧ s.cnt (lp.buckets j) ≤ P.perBucket ∧
          (j < lp.bidx → s.cnt (lp.buckets j) = P.perBucket)
  locOwn : ∀ x i j, s.own x = .loc i j → ∃ lp, s.lp i = some lp ∧ lo i ≤ j ∧ j ≤ lp.bidx
  lifoB : ∀ b, b ∈ s.lifo → IsBucket s.next s.own b P.perBucket (.lifo b)
  lifoNd : s.lifo.Nodup
  lifoOwn : ∀ x b, s.own x = .lifo b → b ∈ s.lifo
  partB : ∀ p, s.part = some p →
          IsBucket s.next s.own p (s.cnt p) .part ∧ 1 ≤ s.cnt p ∧ s.cnt p < P.perBucket
  partOwn : s.part = none → ∀ x, s.own x ≠ .part
  tmpB : ∀ h, th = some h → IsBucket s.next s.own h tn .tmp ∧ 1 ≤ tn ∧ tn ≤ P.perBucket
  tmpOwn : th = none → ∀ x, s.own x ≠ .tmp
  outOwn : ∀ x, x ∈ s.out ↔ s.own x = .out
  outNd : s.out.Nodup
  carvedOwn : ∀ x, x ∈ s.carved ↔ s.own x ≠ .unused
  carvedNd : s.carved.Nodup
  geo : Geo P s

def Inv (P : Params) (s : St) : Prop := InvG P s none 0 (fun _ => 0)

theorem InvG.perBucket_pos {P s th tn lo} (_h : InvG P s th tn lo) (hP : P.OK) : 0 < P.perBucket := hP.perBucket_pos

/-! ### the invariant in parts -/

/-- the clauses of `InvG` about local pool `i`, whose buckets below `l` are detached -/
structure LocOK (P : Params) (s : St) (l i : Nat) : Prop where
  bidx : ∀ lp, s.lp i = some lp → lp.bidx < P.maxLocal
  B : ∀ lp j, s.lp i = some lp → l ≤ j → j ≤ lp.bidx →
        IsBucket s.next s.own (lp.buckets j) (s.cnt (lp.buckets j)) (.loc i j) ∧
        1 ≤ s.cnt (lp.buckets j) ∧ s.cnt (lp.buckets j) ≤ P.perBucket ∧
        (j < lp.bidx → s.cnt (lp.buckets j) = P.perBucket)
  own : ∀ x j, s.own x = .loc i j → ∃ lp, s.lp i = some lp ∧ l ≤ j ∧ j ≤ lp.bidx

structure LifoOK (P : Params) (s : St) : Prop where
  B : ∀ b, b ∈ s.lifo → IsBucket s.next s.own b P.perBucket (.lifo b)
  nd : s.lifo.Nodup
  own : ∀ x b, s.own x = .lifo b → b ∈ s.lifo

structure PartOK (P : Params) (s : St) : Prop where
  B : ∀ p, s.part = some p → IsBucket s.next s.own p (s.cnt p) .part ∧ 1 ≤ s.cnt p ∧ s.cnt p < P.perBucket
  own : s.part = none → ∀ x, s.own x ≠ .part

structure TmpOK (P : Params) (s : St) (th : Option Hdr) (tn : Nat) : Prop where
  B : ∀ h, th = some h → IsBucket s.next s.own h tn .tmp ∧ 1 ≤ tn ∧ tn ≤ P.perBucket
  own : th = none → ∀ x, s.own x ≠ .tmp

structure OutOK (s : St) : Prop where
  own : ∀ x, x ∈ s.out ↔ s.own x = .out
  nd : s.out.Nodup

structure CarvedOK (P : Params) (s : St) : Prop where
  own : ∀ x, x ∈ s.carved ↔ s.own x ≠ .unused
  nd : s.carved.Nodup
  geo : Geo P s

section Parts
variable {P : Params} {s s' : St} {th : Option Hdr} {tn : Nat} {lo : Nat → Nat}

theorem InvG.locOK (h : InvG P s th tn lo) (i : Nat) : LocOK P s (lo i) i :=
  ⟨h.lpBidx i, h.lpB i, fun x => h.locOwn x i⟩
theorem InvG.lifoOK (h : InvG P s th tn lo) : LifoOK P s := ⟨h.lifoB, h.lifoNd, h.lifoOwn⟩
theorem InvG.partOK (h : InvG P s th tn lo) : PartOK P s := ⟨h.partB, h.partOwn⟩
theorem InvG.tmpOK (h : InvG P s th tn lo) : TmpOK P s th tn := ⟨h.tmpB, h.tmpOwn⟩
theorem InvG.outOK (h : InvG P s th tn lo) : OutOK s := ⟨h.outOwn, h.outNd⟩
theorem InvG.carvedOK (h : InvG P s th tn lo) : CarvedOK P s := ⟨h.carvedOwn, h.carvedNd, h.geo⟩

theorem InvG.of_parts (hl : ∀ i, LocOK P s (lo i) i) (hf : LifoOK P s) (hp : PartOK P s) (ht : TmpOK P s th tn)
    (ho : OutOK s) (hc : CarvedOK P s) : InvG P s th tn lo :=
  ⟨fun i => (hl i).bidx, fun i => (hl i).B, fun x i => (hl i).own x, hf.B, hf.nd, hf.own, hp.B, hp.own, ht.B, ht.own,
   ho.own, ho.nd, hc.own, hc.nd, hc.geo⟩

theorem TmpOK.none (h : ∀ x, s.own x ≠ .tmp) : TmpOK P s none 0 := ⟨nofun, fun _ => h⟩

theorem InvG.tmp_head {b : Hdr} (h : InvG P s (some b) tn lo) : s.own b = .tmp := by
  obtain ⟨hb, h1, _⟩ := h.tmpB b rfl
  exact hb.head_own h1

end Parts

/-! ### frames -/

structure Frame (T : Owner → Prop) (s s' : St) : Prop where
  own : ∀ x o, ¬ T o → (s'.own x = o ↔ s.own x = o)
  heap : ∀ x, ¬ T (s.own x) → s'.next x = s.next x ∧ s'.cnt x = s.cnt x

theorem Frame.bucket {T : Owner → Prop} {s s' : St} (f : Frame T s s') {a : Hdr} {n : Nat} {o : Owner}
    (hb : IsBucket s.next s.own a n o) (ho : ¬ T o) : IsBucket s'.next s'.own a n o :=
  hb.relabel (fun x hx => (f.heap x (by rw [hx]; exact ho)).1) (fun x => f.own x o ho)

section Frames
variable {P : Params} {T : Owner → Prop} {s s' : St}

theorem Frame.cnt (f : Frame T s s') {a : Hdr} {n : Nat} {o : Owner}
    (hb : IsBucket s.next s.own a n o) (hn : 0 < n) (ho : ¬ T o) : s'.cnt a = s.cnt a :=
  (f.heap a (by rw [hb.head_own hn]; exact ho)).2

theorem Frame.of_moves (hown : ∀ x, s'.own x = s.own x ∨ (T (s.own x) ∧ T (s'.own x)))
    (hheap : ∀ x, ¬ T (s.own x) → s'.next x = s.next x ∧ s'.cnt x = s.cnt x) : Frame T s s' := by
  refine ⟨fun x o ho => ?_, hheap⟩
  rcases hown x with e | ⟨a, b⟩
  · rw [e]
  · exact ⟨fun e => absurd (e ▸ b) ho, fun e => absurd (e ▸ a) ho⟩

theorem Frame.mono {T' : Owner → Prop} (f : Frame T s s') (hT : ∀ o, T o → T' o) : Frame T' s s' :=
  ⟨fun x o ho => f.own x o fun h => ho (hT o h), fun x hx => f.heap x fun h => hx (hT _ h)⟩

theorem Frame.trans {s'' : St} (f : Frame T s s') (g : Frame T s' s'') : Frame T s s'' := by
  refine ⟨fun x o ho => (g.own x o ho).trans (f.own x o ho), fun x hx => ?_⟩
  have e : s'.own x = s.own x := (f.own x _ hx).mpr rfl
  obtain ⟨a, b⟩ := g.heap x (e ▸ hx)
  obtain ⟨c, d⟩ := f.heap x hx
  exact ⟨a.trans c, b.trans d⟩

theorem Frame.relabel {a b : Owner} (ho : s'.own = relabel s.own a b)
    (hheap : ∀ x, s.own x ≠ a → s.own x ≠ b → s'.next x = s.next x ∧ s'.cnt x = s.cnt x) :
    Frame (fun o => o = a ∨ o = b) s s' := by
  refine .of_moves (fun x => ?_) fun x hx => hheap x (fun e => hx (.inl e)) fun e => hx (.inr e)
  rw [ho]; unfold MemPool.relabel; split
  · rename_i e; exact .inr ⟨.inl e, .inr rfl⟩
  · exact .inl rfl

theorem Frame.move {c : Hdr} {a b : Owner} (hc : s.own c = a) (ho : s'.own = upd s.own c b)
    (hheap : ∀ x, s.own x ≠ a → s.own x ≠ b → s'.next x = s.next x ∧ s'.cnt x = s.cnt x) :
    Frame (fun o => o = a ∨ o = b) s s' := by
  refine .of_moves (fun x => ?_) fun x hx => hheap x (fun e => hx (.inl e)) fun e => hx (.inr e)
  rw [ho]; by_cases e : x = c
  · subst e; rw [upd_same]; exact .inr ⟨.inl hc, .inr rfl⟩
  · rw [upd_other _ _ _ _ e]; exact .inl rfl

theorem LocOK.bucket_frame {l i j : Nat} {lp : LPool} (h : LocOK P s l i) (f : Frame T s s') (hlp : s.lp i = some lp)
    (h1 : l ≤ j) (h2 : j ≤ lp.bidx) (hT : ¬ T (.loc i j)) :
    IsBucket s'.next s'.own (lp.buckets j) (s'.cnt (lp.buckets j)) (.loc i j) ∧
    1 ≤ s'.cnt (lp.buckets j) ∧ s'.cnt (lp.buckets j) ≤ P.perBucket ∧
    (j < lp.bidx → s'.cnt (lp.buckets j) = P.perBucket) := by
  obtain ⟨k1, k2, k⟩ := h.B lp j hlp h1 h2
  rw [f.cnt k1 k2 hT]; exact ⟨f.bucket k1 hT, k2, k⟩

theorem LocOK.frame {l i : Nat} (h : LocOK P s l i) (f : Frame T s s') (hT : ∀ j, ¬ T (.loc i j))
    (hlp : s'.lp i = s.lp i) : LocOK P s' l i :=
  ⟨by rw [hlp]; exact h.bidx, fun _ j hl h1 h2 => h.bucket_frame f (hlp ▸ hl) h1 h2 (hT j),
   fun x j hx => by rw [hlp]; exact h.own x j ((f.own x _ (hT j)).mp hx)⟩

theorem LifoOK.frame (h : LifoOK P s) (f : Frame T s s') (hT : ∀ b, ¬ T (.lifo b)) (hl : s'.lifo = s.lifo) :
    LifoOK P s' :=
  ⟨fun b hb => f.bucket (h.B b (hl ▸ hb)) (hT b), hl ▸ h.nd, fun x b hx => hl ▸ h.own x b ((f.own x _ (hT b)).mp hx)⟩

theorem PartOK.frame (h : PartOK P s) (f : Frame T s s') (hT : ¬ T .part) (hp : s'.part = s.part) : PartOK P s' := by
  refine ⟨fun p hq => ?_, fun hq x e => h.own (hp ▸ hq) x ((f.own x _ hT).mp e)⟩
  obtain ⟨k1, k2, k3⟩ := h.B p (hp ▸ hq)
  rw [f.cnt k1 k2 hT]; exact ⟨f.bucket k1 hT, k2, k3⟩

theorem TmpOK.frame {th : Option Hdr} {tn : Nat} (h : TmpOK P s th tn) (f : Frame T s s') (hT : ¬ T .tmp) :
    TmpOK P s' th tn :=
  ⟨fun b hb => ⟨f.bucket (h.B b hb).1 hT, (h.B b hb).2⟩, fun e x hx => h.own e x ((f.own x _ hT).mp hx)⟩

theorem OutOK.frame (h : OutOK s) (f : Frame T s s') (hT : ¬ T .out) (ho : s'.out = s.out) : OutOK s' :=
  ⟨fun x => by rw [ho, h.own, f.own x _ hT], ho ▸ h.nd⟩

theorem CarvedOK.frame (h : CarvedOK P s) (f : Frame T s s') (hT : ¬ T .unused) (hc : s'.carved = s.carved)
    (hpg : s'.pages = s.pages) (hnp : s'.npages = s.npages) (hpl : s'.pageLifo = s.pageLifo) : CarvedOK P s' :=
  ⟨fun x => by rw [hc, h.own, ne_eq, ne_eq, f.own x _ hT], hc ▸ h.nd, h.geo.congr (fun x => f.own x _ hT) hpg hnp hpl⟩

end Frames

section Ops
variable {P : Params} {s s' : St} {th : Option Hdr} {tn : Nat} {lo : Nat → Nat}

/-- what an operation of the global pool leaves alone: the local pools and the handed-out blocks with
their links and counts; and no carved header is forgotten -/
structure GStep (s s' : St) : Prop where
  frame : Frame (fun o => o ≠ .out ∧ ∀ i j, o ≠ .loc i j) s s'
  lp : s'.lp = s.lp
  out : s'.out = s.out
  carved : ∀ x, x ∈ s.carved → x ∈ s'.carved

theorem GStep.trans {s s' s'' : St} (a : GStep s s') (b : GStep s' s'') : GStep s s'' :=
  ⟨a.frame.trans b.frame, b.lp.trans a.lp, b.out.trans a.out, fun x hx => b.carved x (a.carved x hx)⟩

theorem GStep.of_eq (ho : s'.own = s.own) (hn : s'.next = s.next) (hc : s'.cnt = s.cnt) (hlp : s'.lp = s.lp)
    (hout : s'.out = s.out) (hcar : s'.carved = s.carved) : GStep s s' :=
  ⟨.of_moves (fun x => .inl (by rw [ho])) fun x _ => ⟨by rw [hn], by rw [hc]⟩, hlp, hout, fun x hx => hcar ▸ hx⟩

theorem InvG.gstep {T : Owner → Prop} {th' : Option Hdr} {tn' : Nat}
    (h : InvG P s th tn lo) (f : Frame T s s') (hT : ∀ o, T o → o ≠ .out ∧ ∀ i j, o ≠ .loc i j)
    (hlp : s'.lp = s.lp) (hout : s'.out = s.out) (hcar : ∀ x, x ∈ s.carved → x ∈ s'.carved)
    (hf : LifoOK P s') (hp : PartOK P s') (ht : TmpOK P s' th' tn') (hc : CarvedOK P s') :
    InvG P s' th' tn' lo ∧ GStep s s' :=
  ⟨.of_parts (fun i => (h.locOK i).frame f (fun j hj => (hT _ hj).2 i j rfl) (by rw [hlp])) hf hp ht
    (h.outOK.frame f (fun ho => (hT _ ho).1 rfl) hout) hc, f.mono hT, hlp, hout, hcar⟩

/-! ### `returnBucket`, `returnPartial` -/

/-- **`ABTI_mem_pool_return_bucket`** of the (full) bucket in flight -/
theorem returnBucket_inv {b : Hdr} (hP : P.OK)
    (h : InvG P s (some b) P.perBucket lo) : InvG P (returnBucket s b) none 0 lo ∧ GStep s (returnBucket s b) := by
  have hb := h.tmp_head
  have hfresh : ∀ x, s.own x ≠ .lifo b := fun x e => by
    have := (h.lifoB b (h.lifoOwn x b e)).head_own hP.perBucket_pos
    rw [hb] at this; cases this
  have hnl : b ∉ s.lifo := fun hm => hfresh b ((h.lifoB b hm).head_own hP.perBucket_pos)
  have f : Frame (fun o => o = .tmp ∨ o = .lifo b) s (returnBucket s b) :=
    .relabel rfl fun x hx _ => ⟨rfl, upd_other _ _ _ _ fun e => hx (e ▸ hb)⟩
  refine h.gstep f (by simp) rfl rfl (fun _ hx => hx)
    ⟨fun b' hb' => ?_, List.nodup_cons.mpr ⟨hnl, h.lifoNd⟩, fun x b' hx => ?_⟩ (h.partOK.frame f (by simp) rfl)
    (.none (relabel_ne_source (by simp))) (h.carvedOK.frame f (by simp) rfl rfl rfl rfl)
  · rcases List.mem_cons.mp hb' with rfl | hb'
    · exact (h.tmpB b' rfl).1.relabel_new hfresh
    · exact f.bucket (h.lifoB b' hb') (by simp; exact fun e => hnl (e ▸ hb'))
  · by_cases e : b' = b
    · simp [returnBucket, e]
    · exact List.mem_cons_of_mem _ (h.lifoOwn x b' ((f.own x _ (by simp [e])).mp hx))

/-- the pointer surgery of `mem_pool_return_partial_bucket`: walk `k` links from the head of the
partial bucket to `t`, cut behind `t`, and hang the other bucket there -/
theorem splice {next : Hdr → Option Hdr} {p b : Hdr} {Lp Lb : List Hdr} (k : Nat)
    (sp : Seg next (some p) Lp none) (hk : k < Lp.length) (ndp : Lp.Nodup)
    (sb : Seg next (some b) Lb none) (hdisj : ∀ x, x ∈ Lp → x ∉ Lb) :
    nthNext next k p ∈ Lp.take (k + 1) ∧
    Seg (upd next (nthNext next k p) (some b)) (some p) (Lp.take (k + 1) ++ Lb) none ∧
    Seg (upd next (nthNext next k p) (some b)) (next (nthNext next k p)) (Lp.drop (k + 1)) none ∧
    Seg next (next (nthNext next k p)) (Lp.drop (k + 1)) none := by
  cases Lp with
  | nil => simp at hk
  | cons x xs =>
    cases sp.1
    have htake : (p :: xs).take (k + 1) = (p :: xs).take k ++ [nthNext next k p] := by
      rw [List.take_add_one, seg_nthNext sp k (by simpa using Nat.lt_succ_iff.mp hk)]; rfl
    obtain ⟨m, s1, s2⟩ := seg_append_iff.mp ((List.take_append_drop (k + 1) (p :: xs)).symm ▸ sp)
    have hnd := (List.take_append_drop (k + 1) (p :: xs)).symm ▸ ndp
    rw [htake] at s1 hnd ⊢
    rw [seg_snoc_iff] at s1
    obtain ⟨hnd1, _, hnd2⟩ := List.nodup_append.mp hnd
    have hnotini : nthNext next k p ∉ (p :: xs).take k :=
      fun hm => (List.nodup_append.mp hnd1).2.2 _ hm _ (by simp) rfl
    have hnotdrop : nthNext next k p ∉ (p :: xs).drop (k + 1) := fun hm => hnd2 _ (by simp) _ hm rfl
    have hnotb : nthNext next k p ∉ Lb := hdisj _ (List.mem_of_mem_take (by rw [htake]; simp))
    exact ⟨by simp, seg_append (seg_set_last (b := m) (seg_snoc_iff.mpr s1) hnotini) ((seg_frame hnotb).mpr sb),
      (seg_frame hnotdrop).mpr (s1.2 ▸ s2), s1.2 ▸ s2⟩

theorem InvG.frame_tp {th' : Option Hdr} {tn' : Nat}
    (h : InvG P s th tn lo) (f : Frame (fun o => o = .tmp ∨ o = .part) s s')
    (hlp : s'.lp = s.lp) (hlifo : s'.lifo = s.lifo) (hout : s'.out = s.out) (hcar : s'.carved = s.carved)
    (hpg : s'.pages = s.pages) (hnp : s'.npages = s.npages) (hpl : s'.pageLifo = s.pageLifo)
    (hp : PartOK P s') (ht : TmpOK P s' th' tn') : InvG P s' th' tn' lo ∧ GStep s s' :=
  h.gstep f (by simp) hlp hout (fun x hx => hcar ▸ hx) (h.lifoOK.frame f (by simp) hlifo) hp ht
    (h.carvedOK.frame f (by simp) hcar hpg hnp hpl)

/-- **`mem_pool_return_partial_bucket`** of the bucket in flight (fewer than `per_bucket` headers,
its count stored in its first header): afterwards nothing is in flight and the invariant holds —
in particular the remaining partial bucket stores its true length (F4). -/
theorem returnPartial_inv {b : Hdr} (hP : P.OK)
    (h : InvG P s (some b) tn lo) (hc : s.cnt b = tn) (hlt : tn < P.perBucket) :
    InvG P (returnPartial P s b) none 0 lo ∧ GStep s (returnPartial P s b) := by
  subst hc
  obtain ⟨hB, tb1, _⟩ := h.tmpB b rfl
  obtain ⟨Lb, sb, lb, ndb, mb⟩ := id hB
  have hnotmp : ∀ x, relabel s.own .tmp .part x ≠ .tmp := relabel_ne_source (by simp)
  unfold returnPartial
  cases hp : s.part with
  | none =>
    exact h.frame_tp (.relabel rfl fun _ _ _ => ⟨rfl, rfl⟩) rfl rfl rfl rfl rfl rfl rfl
      ⟨fun p e => by cases e; exact ⟨hB.relabel_new (h.partOwn hp), tb1, hlt⟩, nofun⟩ (.none hnotmp)
  | some p =>
    obtain ⟨⟨Lp, sp, lp_, ndp, mp⟩, p1, p2⟩ := h.partB p hp
    have hdisj : ∀ x, x ∈ Lp → x ∉ Lb := by
      intro x h1 h2; have := (mp x).mp h1; rw [(mb x).mp h2] at this; cases this
    have hpp : s.own p = .part := (h.partB p hp).1.head_own p1
    simp only
    split
    · -- join: still not a complete bucket
      rename_i hsum
      obtain ⟨hmem, s1, _, _⟩ := splice (s.cnt p - 1) sp (by omega) ndp sb hdisj
      rw [show s.cnt p - 1 + 1 = s.cnt p by omega, List.take_of_length_le (by omega)] at s1 hmem
      refine h.frame_tp (.relabel rfl fun x _ hx => ?_) rfl rfl rfl rfl rfl rfl rfl ⟨fun p' e => ?_, nofun⟩ (.none hnotmp)
      · exact ⟨upd_other _ _ _ _ fun e => hx (e ▸ (mp _).mp hmem), upd_other _ _ _ _ fun e => hx (e ▸ hpp)⟩
      · cases e
        simp only [upd_same]
        refine ⟨⟨Lp ++ Lb, s1, by simp [lp_, lb], ?_, fun x => ?_⟩, by omega, hsum⟩
        · exact List.nodup_append.mpr ⟨ndp, ndb, fun a ha b' hb' e => hdisj a ha (e ▸ hb')⟩
        · rw [List.mem_append, mp, mb, relabel_eq_target, or_comm]
    · -- the first `per_bucket - cnt b` headers of the partial bucket and the bucket in flight make a complete bucket
      rename_i hsum
      generalize hk : P.perBucket - s.cnt b = k
      obtain ⟨hmem, s1, s2, s3⟩ := splice (k - 1) sp (by omega) ndp sb hdisj
      rw [show k - 1 + 1 = k by omega] at hmem s1 s2 s3
      generalize nthNext s.next (k - 1) p = hdr at *
      rw [seg_walk_take sp k (by omega)]
      have hhdrp : s.own hdr = .part := (mp _).mp (List.mem_of_mem_take hmem)
      obtain ⟨hndt, hndd, hndtd⟩ := List.nodup_append.mp ((List.take_append_drop k Lp).symm ▸ ndp)
      have hmemsplit : ∀ x, x ∈ Lp ↔ x ∈ Lp.take k ∨ x ∈ Lp.drop k := fun x => by
        rw [← List.mem_append, List.take_append_drop]
      have hdroplen : (Lp.drop k).length = s.cnt p + s.cnt b - P.perBucket := by rw [List.length_drop]; omega
      -- the rest of the old partial bucket hangs behind `hdr`; it is empty iff the counts add up to `per_bucket`
      have hrest : (s.next hdr = none → Lp.drop k = []) ∧ ∀ q, s.next hdr = some q → q ∈ Lp.drop k := by
        cases hd : Lp.drop k with
        | nil => rw [hd] at s3; simp [show s.next hdr = none from s3]
        | cons q r => rw [hd] at s3; simp [s3.1]
      have hnp : (if s.cnt p + s.cnt b ≠ P.perBucket then s.next hdr else none) = s.next hdr := by
        split
        · rfl
        · cases hq : s.next hdr with
          | none => rfl
          | some q => have := List.length_pos_of_mem (hrest.2 q hq); omega
      simp only [hnp]
      -- the state before the push: the complete bucket is in flight, the rest is the partial bucket
      have key : ∀ cnt1 : Hdr → Nat, (∀ x, s.own x ≠ .part → cnt1 x = s.cnt x) →
          (∀ q, s.next hdr = some q → cnt1 q = s.cnt p + s.cnt b - P.perBucket) →
          ∀ s1, s1 = { s with next := upd s.next hdr (some b), cnt := cnt1, part := s.next hdr,
                              own := fun x => if x ∈ Lp.take k then Owner.tmp else s.own x } →
          InvG P s1 (some p) P.perBucket lo ∧ GStep s s1 := by
        intro cnt1 hcnt hsome s1 hs1
        have f : Frame (fun o => o = .tmp ∨ o = .part) s s1 := by
          subst hs1
          refine .of_moves (fun x => ?_) fun x hx =>
            ⟨upd_other _ _ _ _ fun e => hx (.inr (e ▸ hhdrp)), hcnt x fun e => hx (.inr e)⟩
          simp only; split
          · rename_i hx; exact .inr ⟨.inr ((mp x).mp (List.mem_of_mem_take hx)), .inl rfl⟩
          · exact .inl rfl
        subst hs1
        refine h.frame_tp f rfl rfl rfl rfl rfl rfl rfl ⟨fun q hq => ?_, fun hn x => ?_⟩ ⟨fun b' e => ?_, nofun⟩
        · simp only [hsome q hq]
          refine ⟨⟨Lp.drop k, hq ▸ s2, hdroplen, hndd, fun x => ?_⟩, ?_, by omega⟩
          · simp only; split
            · rename_i hx; exact ⟨fun hd => absurd rfl (hndtd x hx x hd), nofun⟩
            · rename_i hx; rw [← mp, hmemsplit]; simp [hx]
          · have := List.length_pos_of_mem (hrest.2 q hq); omega
        · simp only; split
          · simp
          · rename_i hx
            intro e
            have := (hmemsplit x).mp ((mp x).mpr e)
            rw [hrest.1 hn] at this
            simp [hx] at this
        · cases e
          refine ⟨⟨Lp.take k ++ Lb, s1, by rw [List.length_append, List.length_take, lb]; omega, ?_, fun x => ?_⟩,
            hP.perBucket_pos, Nat.le_refl _⟩
          · exact List.nodup_append.mpr ⟨hndt, ndb, fun a ha b' hb' e => hdisj a (List.mem_of_mem_take ha) (e ▸ hb')⟩
          · rw [List.mem_append, mb]; simp only; split
            · simp_all
            · rename_i hx; simp [hx]
      refine (fun hh => ⟨(returnBucket_inv hP hh.1).1, hh.2.trans (returnBucket_inv hP hh.1).2⟩)
        (key _ (fun x hx => ?_) (fun q hq => ?_) _ rfl)
      · cases hq : s.next hdr with
        | none => rfl
        | some q => exact upd_other _ _ _ _ fun e => hx (e ▸ (mp q).mp (List.mem_of_mem_drop (hrest.2 q hq)))
      · simp only [hq, upd_same]

/-! ### `takeBucket` -/

theorem pickPage_inv {s s1 : St} {p : Nat} (hP : P.OK)
    (h : InvG P s th tn lo) (hpk : pickPage P s = some (s1, p)) :
    InvG P s1 th tn lo ∧ GStep s s1 ∧ p < s1.npages ∧ P.headerSize ≤ (s1.pages p).extraSize ∧ p ∉ s1.pageLifo := by
  unfold pickPage at hpk
  cases hl : s.pageLifo with
  | cons q rest =>
    simp only [hl, Option.some.injEq, Prod.mk.injEq] at hpk
    obtain ⟨rfl, rfl⟩ := hpk
    obtain ⟨hq, hnd⟩ := List.nodup_cons.mp (hl ▸ h.geo.pgLifoNd)
    have hq' := h.geo.pgLifo q (by rw [hl]; simp)
    refine ⟨{ h with geo := ?_ }, .of_eq rfl rfl rfl rfl rfl rfl, hq'.1, hq'.2, hq⟩
    exact { h.geo with pgLifo := fun p hp => h.geo.pgLifo p (by rw [hl]; exact List.mem_cons_of_mem _ hp), pgLifoNd := hnd }
  | nil =>
    simp only [hl] at hpk
    split at hpk
    · cases hpk
    · simp only [Option.some.injEq, Prod.mk.injEq] at hpk
      obtain ⟨rfl, rfl⟩ := hpk
      have hfresh : ∀ q, q < s.npages → upd s.pages s.npages ⟨0, P.pageSize - P.pageStruct⟩ q = s.pages q :=
        fun q hq => upd_other _ _ _ _ (by omega)
      refine ⟨{ h with geo := ⟨fun x hx => ?_, fun p hp => ?_, nofun, List.nodup_nil, h.geo.sep, h.geo.offDvd, fun p hp => ?_⟩ },
        .of_eq rfl rfl rfl rfl rfl rfl, Nat.lt_succ_self _, ?_, by simp⟩
      · have := h.geo.pgIn x hx
        simp only [hfresh _ this.1]; exact ⟨by omega, this.2⟩
      · rcases Nat.lt_succ_iff_lt_or_eq.mp hp with hp | rfl
        · simp only [hfresh _ hp]; exact h.geo.pgSum p hp
        · simp only [upd_same]; omega
      · rcases Nat.lt_succ_iff_lt_or_eq.mp hp with hp | rfl
        · simp only [hfresh _ hp]; exact h.geo.pgDvd p hp
        · simp only [upd_same]; exact Nat.dvd_zero _
      · simp only [upd_same]; have := hP.fits; omega

theorem InvG.tmp_list {head : Option Hdr} {n : Nat}
    (h : InvG P s head n lo) (hhead : head = none → n = 0) :
    ∃ L, Seg s.next head L none ∧ L.length = n ∧ L.Nodup ∧ ∀ x, x ∈ L ↔ s.own x = .tmp := by
  cases head with
  | none => exact ⟨[], rfl, (hhead rfl).symm, List.nodup_nil, fun x => by simp [h.tmpOwn rfl x]⟩
  | some h0 => exact (h.tmpB h0 rfl).1

/-- the area above a page's `p_mem_extra` holds no carved header -/
theorem Geo.run_unused {p np : Nat} {x : Hdr} (h : Geo P s) (hP : P.OK)
    (hx : x ∈ hdrRun p P.headerSize np (s.pages p).extraOff) : s.own x = .unused :=
  Classical.byContradiction fun hu => by
    have h1 := h.pgIn x hu
    have h2 := mem_hdrRun hx
    have := hP.headerSize_pos
    rw [h2.1] at h1
    omega

theorem Geo.carve {p np : Nat} (h : Geo P s) (hp : p < s.npages) (hpl : p ∉ s.pageLifo)
    (hfit : P.headerSize * np ≤ (s.pages p).extraSize)
    (hown : ∀ x, s'.own x ≠ .unused ↔ s.own x ≠ .unused ∨ x ∈ hdrRun p P.headerSize np (s.pages p).extraOff)
    (e_pages : s'.pages = upd s.pages p
        ⟨(s.pages p).extraOff + P.headerSize * np, (s.pages p).extraSize - P.headerSize * np⟩)
    (e_np : s'.npages = s.npages) (e_pl : s'.pageLifo = s.pageLifo) : Geo P s' := by
  have hsum := h.pgSum p hp
  have hself := congrFun e_pages p
  rw [upd_same] at hself
  have hother : ∀ q, q ≠ p → s'.pages q = s.pages q := fun q e => by rw [e_pages, upd_other _ _ _ _ e]
  -- `p_mem_extra` only grows, the page records stay consistent
  have hpage : ∀ q, q < s.npages → (s.pages q).extraOff ≤ (s'.pages q).extraOff ∧
      (s'.pages q).extraOff + (s'.pages q).extraSize = P.pageSize - P.pageStruct ∧
      P.headerSize ∣ (s'.pages q).extraOff := fun q hq => by
    by_cases e : q = p
    · subst e; rw [hself]
      exact ⟨Nat.le_add_right _ _, by simp only; omega, Nat.dvd_add (h.pgDvd q hq) (Nat.dvd_mul_right _ _)⟩
    · rw [hother q e]; exact ⟨Nat.le_refl _, h.pgSum q hq, h.pgDvd q hq⟩
  -- the headers carved earlier from the page of a new one lie below it
  have hlow : ∀ x y, x ∈ hdrRun p P.headerSize np (s.pages p).extraOff → s.own y ≠ .unused → x.1 = y.1 →
      y.2 + P.headerSize ≤ x.2 := fun x y hx hy hxy => by
    have h1 := mem_hdrRun hx
    have h2 := h.pgIn y hy
    rw [← hxy, h1.1] at h2
    omega
  refine ⟨fun x hx => ?_, fun q hq => (hpage q (e_np ▸ hq)).2.1, fun q hq => ?_, e_pl ▸ h.pgLifoNd,
    fun x y hx hy hxy hne => ?_, fun x hx => ?_, fun q hq => (hpage q (e_np ▸ hq)).2.2⟩
  · rw [e_np]
    rcases (hown x).mp hx with hx | hx
    · have := h.pgIn x hx
      exact ⟨this.1, Nat.le_trans this.2 (hpage _ this.1).1⟩
    · have := mem_hdrRun hx
      rw [this.1, hself]; exact ⟨hp, this.2.2⟩
  · rw [e_pl] at hq
    rw [e_np, hother q fun e => hpl (e ▸ hq)]; exact h.pgLifo q hq
  · rcases (hown x).mp hx with hx | hx <;> rcases (hown y).mp hy with hy | hy
    · exact h.sep x y hx hy hxy hne
    · exact .inl (hlow y x hy hx hxy.symm)
    · exact .inr (hlow x y hx hy hxy)
    · exact hdrRun_disjoint hx hy hne
  · rcases (hown x).mp hx with hx | hx
    · exact h.offDvd x hx
    · exact hdrRun_dvd (h.pgDvd p hp) hx

theorem linkRun_chain {hs np p off : Nat} {next : Hdr → Option Hdr} {head : Option Hdr} {r : (Hdr → Option Hdr) × Hdr}
    (hpos : 0 < hs) (hnp : 1 ≤ np) (hr : r = linkRun hs (np - 1) (upd next (p, off) head) (p, off)) :
    (∀ x, x ∉ hdrRun p hs np off → r.1 x = next x) ∧ Seg r.1 (some r.2) (hdrRun p hs np off).reverse head := by
  obtain ⟨m, rfl⟩ : ∃ m, np = m + 1 := ⟨np - 1, by omega⟩
  obtain ⟨_, hag, hseg⟩ := linkRun_spec hs hpos m (upd next (p, off) head) p off
  rw [Nat.add_sub_cancel] at hr
  rw [← hr] at hag hseg
  have hnot : (p, off) ∉ hdrRun p hs m (off + hs) := fun hm => by have := mem_hdrRun hm; simp at this; omega
  refine ⟨fun x hx => ?_, ?_⟩
  · simp only [hdrRun, List.mem_cons, not_or] at hx
    rw [hag x hx.2, upd_other _ _ _ _ hx.1]
  · simp only [hdrRun, List.reverse_cons]
    exact seg_snoc_iff.mpr ⟨hseg, by rw [hag _ hnot, upd_same]⟩

/-- one carving step on page `p` (`np` headers), before the page is put back on a list -/
theorem carve_core {p np : Nat} {head : Option Hdr} {n : Nat} (hP : P.OK)
    (h : InvG P s head n lo) (hhead : head = none → n = 0)
    (hp : p < s.npages) (hpl : p ∉ s.pageLifo) (hnp1 : 1 ≤ np)
    (hfit : P.headerSize * np ≤ (s.pages p).extraSize) (hn : n + np ≤ P.perBucket)
    {r : (Hdr → Option Hdr) × Hdr}
    (hr : r = linkRun P.headerSize (np - 1) (upd s.next (p, (s.pages p).extraOff) head) (p, (s.pages p).extraOff))
    (hs' : s' = { s with
      next := r.1, carved := s.carved ++ hdrRun p P.headerSize np (s.pages p).extraOff,
      own := fun x => if x ∈ hdrRun p P.headerSize np (s.pages p).extraOff then .tmp else s.own x,
      pages := upd s.pages p ⟨(s.pages p).extraOff + P.headerSize * np, (s.pages p).extraSize - P.headerSize * np⟩ }) :
    InvG P s' (some r.2) (n + np) lo ∧ GStep s s' := by
  have hpos := hP.headerSize_pos
  have hused : ∀ x, s'.own x ≠ .unused ↔
      s.own x ≠ .unused ∨ x ∈ hdrRun p P.headerSize np (s.pages p).extraOff := fun x => by
    rw [hs']; by_cases hx : x ∈ hdrRun p P.headerSize np (s.pages p).extraOff <;> simp [hx]
  have hgeo := h.geo.carve hp hpl hfit hused (by rw [hs']) (by rw [hs']) (by rw [hs'])
  obtain ⟨hold, hseg⟩ := linkRun_chain hpos hnp1 hr
  have hunused := fun x => h.geo.run_unused (p := p) (np := np) (x := x) hP
  have hnd := hdrRun_nodup (p := p) (k := np) (off := (s.pages p).extraOff) hpos
  have hlen := hdrRun_length p P.headerSize np (s.pages p).extraOff
  -- from here on the run is just a list `run` of unused headers
  generalize hdrRun p P.headerSize np (s.pages p).extraOff = run at *
  have f : Frame (fun o => o = .unused ∨ o = .tmp) s s' := by
    subst hs'
    refine .of_moves (fun x => ?_) fun x hx => ⟨hold x fun hm => hx (.inl (hunused x hm)), rfl⟩
    simp only; split
    · rename_i hx; exact .inr ⟨.inl (hunused x hx), .inr rfl⟩
    · exact .inl rfl
  subst hs'
  obtain ⟨Lold, so, lo_, ndo, mo⟩ := h.tmp_list hhead
  have hdisj : ∀ a, a ∈ run → a ∉ Lold := fun a ha hb => by
    have := hunused a ha; rw [(mo a).mp hb] at this; cases this
  refine h.gstep f (by simp) rfl rfl (fun x hx => List.mem_append_left _ hx)
    (h.lifoOK.frame f (by simp) rfl) (h.partOK.frame f (by simp) rfl) ⟨fun b hb => ?_, nofun⟩ ⟨fun x => ?_, ?_, hgeo⟩
  · cases hb
    refine ⟨⟨run.reverse ++ Lold, ?_, by simp [hlen, lo_]; omega, ?_, fun x => ?_⟩, by omega, hn⟩
    · exact seg_append hseg ((seg_congr fun x hx => hold x fun hm => hdisj x hm hx).mpr so)
    · exact List.nodup_append.mpr ⟨(List.reverse_perm _).nodup_iff.mpr hnd, ndo,
        fun a ha _ hb e => hdisj a (List.mem_reverse.mp ha) (e ▸ hb)⟩
    · rw [List.mem_append, List.mem_reverse, mo]; by_cases hx : x ∈ run <;> simp [hx]
  · simp only [List.mem_append, h.carvedOwn, hused]
  · exact List.nodup_append.mpr ⟨h.carvedNd, hnd, fun a ha _ hb e => (h.carvedOwn a).mp ha (hunused a (e ▸ hb))⟩

theorem setCntTmp_inv {b : Hdr} (v : Nat)
    (h : InvG P s (some b) tn lo) :
    InvG P { s with cnt := upd s.cnt b v } (some b) tn lo ∧ GStep s { s with cnt := upd s.cnt b v } := by
  have f : Frame (fun o => o = .tmp) s { s with cnt := upd s.cnt b v } :=
    .of_moves (fun _ => .inl rfl) fun x hx => ⟨rfl, upd_other _ _ _ _ fun e => hx (e ▸ h.tmp_head)⟩
  exact h.gstep f (by simp) rfl rfl (fun _ hx => hx) (h.lifoOK.frame f (by simp) rfl)
    (h.partOK.frame f (by simp) rfl) ⟨h.tmpB, h.tmpOwn⟩ (h.carvedOK.frame f (by simp) rfl rfl rfl rfl)

theorem returnBucket_fields (s : St) (b : Hdr) :
    (returnBucket s b).lp = s.lp ∧ (returnBucket s b).out = s.out ∧ (returnBucket s b).next = s.next ∧
    (returnBucket s b).part = s.part ∧ (returnBucket s b).carved = s.carved ∧
    (returnBucket s b).pagesLeft = s.pagesLeft := ⟨rfl, rfl, rfl, rfl, rfl, rfl⟩

theorem carvePage_inv {p np : Nat} {head : Option Hdr} {n : Nat} (hP : P.OK)
    (h : InvG P s head n lo) (hhead : head = none → n = 0)
    (hp : p < s.npages) (hpl : p ∉ s.pageLifo) (hnp1 : 1 ≤ np)
    (hfit : P.headerSize * np ≤ (s.pages p).extraSize) (hn : n + np ≤ P.perBucket) :
    InvG P (carvePage P s p np head).1 (some (carvePage P s p np head).2) (n + np) lo ∧
    GStep s (carvePage P s p np head).1 := by
  unfold carvePage
  simp only
  obtain ⟨h1, g1⟩ := carve_core hP h hhead hp hpl hnp1 hfit hn rfl rfl
  split
  · rename_i hroom
    exact ⟨{ h1 with geo := { h1.geo with
      pgLifoNd := List.nodup_cons.mpr ⟨hpl, h.geo.pgLifoNd⟩
      pgLifo := List.forall_mem_cons.mpr ⟨⟨hp, by simpa using hroom⟩, h1.geo.pgLifo⟩ } }, g1.trans (.of_eq rfl rfl rfl rfl rfl rfl)⟩
  -- the state differs from that of `h1` in `emptyPages` only; `with` re-elaborates the fields for it
  · exact ⟨{ h1 with geo := { h1.geo with } }, g1.trans (.of_eq rfl rfl rfl rfl rfl rfl)⟩

def TakePost (P : Params) (lo : Nat → Nat) (s : St) (r : St × Option Hdr) : Prop :=
  (match r.2 with
    | some b => InvG P r.1 (some b) P.perBucket lo ∧ r.1.cnt b = P.perBucket
    | none => InvG P r.1 none 0 lo) ∧ GStep s r.1

/-- the carving loop: never trips `ABTI_ASSERT(num_provided != 0)`, ends with a full bucket in
flight or (allocation failure) with everything carved so far in the partial bucket -/
theorem carve_inv (hP : P.OK) (fuel : Nat) :
    ∀ (s : St) (head : Option Hdr) (n : Nat), InvG P s head n lo → (head = none → n = 0) →
      n < P.perBucket → P.perBucket - n ≤ fuel →
      ∃ r, carve P fuel s head n = some r ∧ TakePost P lo s r := by
  induction fuel with
  | zero => intro s head n _ _ h1 h2; omega
  | succ fuel ih =>
    intro s head n h hhead hlt hfuel
    unfold carve
    cases hpk : pickPage P s with
    | none =>
      cases head with
      | none => cases hhead rfl; exact ⟨(s, none), rfl, h, .of_eq rfl rfl rfl rfl rfl rfl⟩
      | some h0 =>
        obtain ⟨h1, g1⟩ := setCntTmp_inv n h
        obtain ⟨h2, g2⟩ := returnPartial_inv hP h1 (by simp) hlt
        exact ⟨_, rfl, h2, g1.trans g2⟩
    | some sp =>
      obtain ⟨s1, p⟩ := sp
      obtain ⟨h1, g1, hp, hroom, hpl⟩ := pickPage_inv hP h hpk
      simp only
      have hdiv : 1 ≤ (s1.pages p).extraSize / P.headerSize :=
        (Nat.le_div_iff_mul_le hP.headerSize_pos).mpr (by simpa using hroom)
      generalize hnp : min ((s1.pages p).extraSize / P.headerSize) (P.perBucket - n) = np
      have hfit : P.headerSize * np ≤ (s1.pages p).extraSize :=
        Nat.mul_comm _ _ ▸ (Nat.le_div_iff_mul_le hP.headerSize_pos).mp (by omega)
      rw [if_neg (by omega)]
      obtain ⟨h2, g2⟩ := carvePage_inv hP h1 hhead hp hpl (by omega) hfit (by omega)
      split
      · rename_i heq
        obtain ⟨h3, g3⟩ := setCntTmp_inv P.perBucket (heq ▸ h2)
        exact ⟨_, rfl, ⟨h3, by simp⟩, (g1.trans g2).trans g3⟩
      · obtain ⟨r, hr, hpost, g3⟩ := ih _ _ _ h2 nofun (by omega) (by omega)
        exact ⟨r, hr, hpost, (g1.trans g2).trans g3⟩

/-- **`ABTI_mem_pool_take_bucket`** -/
theorem takeBucket_inv (hP : P.OK) (h : InvG P s none 0 lo) :
    ∃ r, takeBucket P s = some r ∧ TakePost P lo s r := by
  unfold takeBucket
  cases hl : s.lifo with
  | nil => exact carve_inv hP P.perBucket s none 0 h (fun _ => rfl) hP.perBucket_pos (by omega)
  | cons b rest =>
    obtain ⟨hbr, hnd⟩ := List.nodup_cons.mp (hl ▸ h.lifoNd)
    have hmem : ∀ b', b' ∈ rest → b' ∈ s.lifo := fun b' hb' => hl ▸ List.mem_cons_of_mem _ hb'
    have hB := h.lifoB b (hl ▸ List.mem_cons_self)
    have hbo : s.own b = .lifo b := hB.head_own hP.perBucket_pos
    have f : Frame (fun o => o = .lifo b ∨ o = .tmp) s
        { s with lifo := rest, cnt := upd s.cnt b P.perBucket, own := relabel s.own (.lifo b) .tmp } :=
      .relabel rfl fun x hx _ => ⟨rfl, upd_other _ _ _ _ fun e => hx (e ▸ hbo)⟩
    refine (fun hg => ⟨_, rfl, ⟨hg.1, by simp⟩, hg.2⟩) (h.gstep (th' := some b) (tn' := P.perBucket) f
      (by simp) rfl rfl (fun _ hx => hx) ⟨fun b' hb' => ?_, hnd, fun x b' hx => ?_⟩
      (h.partOK.frame f (by simp) rfl) ⟨fun b' e => ?_, nofun⟩ (h.carvedOK.frame f (by simp) rfl rfl rfl rfl))
    · exact f.bucket (h.lifoB b' (hmem b' hb')) (by simp; exact fun e => hbr (e ▸ hb'))
    · have hne : b' ≠ b := fun e => relabel_ne_source (by simp) x (e ▸ hx)
      have := h.lifoOwn x b' ((f.own x _ (by simp [hne])).mp hx)
      rw [hl] at this
      exact (List.mem_cons.mp this).resolve_left hne
    · cases e
      exact ⟨hB.relabel_new (h.tmpOwn rfl), hP.perBucket_pos, Nat.le_refl _⟩

end Ops

end ArgoVerif.Model.MemPool
