import ArgoVerif.Model.Config
import ArgoVerif.Proofs.HTable
/-
Proofs.Config — the typed configuration objects are a typed finite map, by the
hashtable refinement (Proofs.HTable) and `dec ∘ enc = id`.
-/
namespace ArgoVerif.Proofs.Config
open ArgoVerif.Model ArgoVerif.Model.Config

theorem dec_enc (e : Elem) : dec (enc e) = e := by
  obtain ⟨ty, bits⟩ := e
  unfold dec enc
  cases ty <;> simp [Ty.code, Ty.ofCode] <;> omega

theorem store_spec (c : Config) (idx : Int) (e : Elem) (hw : HTable.WF c.table) :
    HTable.WF (HTable.set c.table idx (enc e)).1 ∧
    Config.get { c with table := (HTable.set c.table idx (enc e)).1 } =
      fun x => if x = idx then some e else Config.get c x := by
  have h := HTable.set_spec c.table idx (enc e) hw
  refine ⟨h.1, funext fun x => ?_⟩
  simp only [Config.get, h.2.2 x]
  split <;> simp [dec_enc]

theorem remove_spec (c : Config) (idx : Int) (hw : HTable.WF c.table) :
    HTable.WF (HTable.delete c.table idx).1 ∧
    Config.get { c with table := (HTable.delete c.table idx).1 } =
      fun x => if x = idx then none else Config.get c x := by
  have h := HTable.delete_spec c.table idx hw
  refine ⟨h.1, funext fun x => ?_⟩
  simp only [Config.get, h.2.2 x]
  split <;> simp

theorem createEmpty_spec (k : Config.Kind) :
    HTable.WF (createEmpty k).table ∧ ∀ x, Config.get (createEmpty k) x = none := by
  have hn : 0 < tableSize k := by cases k <;> decide
  exact ⟨HTable.create_wf _ hn, fun x => by simp [Config.get, createEmpty, HTable.create_get]⟩

end ArgoVerif.Proofs.Config
