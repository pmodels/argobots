import ArgoVerif.Model.FutexGen
/-
Proofs.FutexGen — the generation word of the wait-list futex: `k` single broadcasts add `k` modulo 2^bits
(`after_eq_iter`), so a waiter that sampled the word finds it unchanged after fewer than 2^bits broadcasts only if there
was none (`lostWake_iff`).
-/
namespace ArgoVerif.Model.FutexGen

theorem after_eq_iter (bits v k : Nat) (hv : v < 2 ^ bits) : after bits v k = iter bits v k := by
  induction k with
  | zero => simp [after, iter, Nat.mod_eq_of_lt hv]
  | succ k ih => simp only [iter, broadcast, ← ih, after, Nat.mod_add_mod, Nat.add_assoc]

theorem add_mod_eq_self {v k m : Nat} (hv : v < m) (h : (v + k) % m = v) : k % m = 0 := by
  have := Nat.sub_mod_eq_zero_of_mod_eq (h.trans (Nat.mod_eq_of_lt hv).symm)
  rwa [Nat.add_sub_cancel_left] at this

theorem lostWake_iff (bits v k : Nat) (hv : v < 2 ^ bits) (hk : k < 2 ^ bits) : lostWake bits v k = true ↔ k = 0 := by
  simp only [lostWake, sleeps, after, beq_iff_eq]
  constructor
  · intro h
    simpa [Nat.mod_eq_of_lt hk] using add_mod_eq_self hv h
  · rintro rfl
    exact Nat.mod_eq_of_lt hv

end ArgoVerif.Model.FutexGen
