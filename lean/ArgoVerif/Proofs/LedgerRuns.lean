import ArgoVerif.Proofs.Ledger
import ArgoVerif.Gen.Ladders
/-
Proofs.LedgerRuns — kernel evaluation (`decide`, no native code) of the four C18 checks over the
complete enumeration `runs` of every generated ladder.  One evaluation per routine: `runs_R` states that
every enumerated run passes the checks and that some run has an injected failure (the kernel enumerates
once for both); Props/C18 lifts the first half to all oracles with `Checks.of_runs`.  The resource
multisets are the documented composition of a successfully created object (what a later free of that
object has to release).
-/
namespace ArgoVerif.Proofs.LedgerRuns
open ArgoVerif.Model.Ledger ArgoVerif.Gen.Ladders

/-- site index of a callee by name (`siteNames.length` when the routine no longer calls it) -/
def siteOf (n : String) : Nat := siteNames.idxOf n

/-- `ythread_create` with a stackable scheduler: pre-existing objects are untouched in every run except
    those where an error is returned after a key-table entry has been registered (finding C18-A) -/
def preUntouchedBeforeKey (o : Outcome) : Bool :=
  preUntouched ythread_create_with_sched o ||
    (o.st.injected && o.isError && o.st.trace.any (fun e => e == Ev.acqOk (siteOf "ABTI_ktable_set_unsafe")))

def allowed_xstream_create : List (List Kind) := [[K_mem, K_pool, K_ythread, K_ythread, K_localpools, K_rank, K_oscontext], [K_mem, K_pool, K_ythread, K_ythread, K_localpools, K_rank]]
theorem runs_xstream_create :
    allRuns xstream_create 400 0
        (checks failBalanced allowed_xstream_create xstream_create (preUntouched xstream_create)) = true ∧
      0 < injectedRuns xstream_create 400 0 := by decide +kernel
theorem nonvacuous_xstream_create : 0 < injectedRuns xstream_create 400 0 := runs_xstream_create.2

def allowed_ABT_xstream_create : List (List Kind) := [[K_xstream, K_sched]]
theorem runs_ABT_xstream_create :
    allRuns ABT_xstream_create 400 0
        (checks failBalanced allowed_ABT_xstream_create ABT_xstream_create (preUntouched ABT_xstream_create)) = true ∧
      0 < injectedRuns ABT_xstream_create 400 0 := by decide +kernel
theorem nonvacuous_ABT_xstream_create : 0 < injectedRuns ABT_xstream_create 400 0 := runs_ABT_xstream_create.2

def allowed_ABT_xstream_create_given : List (List Kind) := [[K_xstream]]
theorem runs_ABT_xstream_create_given :
    allRuns ABT_xstream_create_given 400 0
        (checks failBalanced allowed_ABT_xstream_create_given ABT_xstream_create_given (preUntouched ABT_xstream_create_given)) = true ∧
      0 < injectedRuns ABT_xstream_create_given 400 0 := by decide +kernel
theorem nonvacuous_ABT_xstream_create_given : 0 < injectedRuns ABT_xstream_create_given 400 0 := runs_ABT_xstream_create_given.2

def allowed_ABT_xstream_create_with_rank : List (List Kind) := [[K_xstream, K_sched]]
theorem runs_ABT_xstream_create_with_rank :
    allRuns ABT_xstream_create_with_rank 400 0
        (checks failBalanced allowed_ABT_xstream_create_with_rank ABT_xstream_create_with_rank (preUntouched ABT_xstream_create_with_rank)) = true ∧
      0 < injectedRuns ABT_xstream_create_with_rank 400 0 := by decide +kernel
theorem nonvacuous_ABT_xstream_create_with_rank : 0 < injectedRuns ABT_xstream_create_with_rank 400 0 := runs_ABT_xstream_create_with_rank.2

def allowed_ABT_xstream_create_with_rank_given : List (List Kind) := [[K_xstream]]
theorem runs_ABT_xstream_create_with_rank_given :
    allRuns ABT_xstream_create_with_rank_given 400 0
        (checks failBalanced allowed_ABT_xstream_create_with_rank_given ABT_xstream_create_with_rank_given (preUntouched ABT_xstream_create_with_rank_given)) = true ∧
      0 < injectedRuns ABT_xstream_create_with_rank_given 400 0 := by decide +kernel
theorem nonvacuous_ABT_xstream_create_with_rank_given : 0 < injectedRuns ABT_xstream_create_with_rank_given 400 0 := runs_ABT_xstream_create_with_rank_given.2

def allowed_ABT_xstream_create_basic : List (List Kind) := [[K_xstream, K_sched]]
theorem runs_ABT_xstream_create_basic :
    allRuns ABT_xstream_create_basic 600 2
        (checks failBalanced allowed_ABT_xstream_create_basic ABT_xstream_create_basic (preUntouched ABT_xstream_create_basic)) = true ∧
      0 < injectedRuns ABT_xstream_create_basic 600 2 := by decide +kernel
theorem nonvacuous_ABT_xstream_create_basic : 0 < injectedRuns ABT_xstream_create_basic 600 2 := runs_ABT_xstream_create_basic.2

def allowed_ABTI_xstream_create_primary : List (List Kind) := [[K_xstream, K_sched]]
theorem runs_ABTI_xstream_create_primary :
    allRuns ABTI_xstream_create_primary 400 0
        (checks failBalanced allowed_ABTI_xstream_create_primary ABTI_xstream_create_primary (preUntouched ABTI_xstream_create_primary)) = true ∧
      0 < injectedRuns ABTI_xstream_create_primary 400 0 := by decide +kernel
theorem nonvacuous_ABTI_xstream_create_primary : 0 < injectedRuns ABTI_xstream_create_primary 400 0 := runs_ABTI_xstream_create_primary.2

def allowed_init_library : List (List Kind) := [[K_mem, K_globalpools, K_primary_xstream, K_primary_ythread]]
theorem runs_init_library :
    allRuns init_library 400 0
        (checks failBalanced allowed_init_library init_library (preUntouched init_library)) = true ∧
      0 < injectedRuns init_library 400 0 := by decide +kernel
theorem nonvacuous_init_library : 0 < injectedRuns init_library 400 0 := runs_init_library.2

def allowed_ABTD_xstream_context_create : List (List Kind) := [[K_osmutex, K_oscond, K_osthread]]
theorem runs_ABTD_xstream_context_create :
    allRuns ABTD_xstream_context_create 400 0
        (checks failBalanced allowed_ABTD_xstream_context_create ABTD_xstream_context_create (preUntouched ABTD_xstream_context_create)) = true ∧
      0 < injectedRuns ABTD_xstream_context_create 400 0 := by decide +kernel
theorem nonvacuous_ABTD_xstream_context_create : 0 < injectedRuns ABTD_xstream_context_create 400 0 := runs_ABTD_xstream_context_create.2

def allowed_ABTI_mem_init_local : List (List Kind) := [[K_localpools, K_localpools]]
theorem runs_ABTI_mem_init_local :
    allRuns ABTI_mem_init_local 400 0
        (checks failBalanced allowed_ABTI_mem_init_local ABTI_mem_init_local (preUntouched ABTI_mem_init_local)) = true ∧
      0 < injectedRuns ABTI_mem_init_local 400 0 := by decide +kernel
theorem nonvacuous_ABTI_mem_init_local : 0 < injectedRuns ABTI_mem_init_local 400 0 := runs_ABTI_mem_init_local.2

def allowed_ABTI_mem_init : List (List Kind) := [[K_localpools, K_localpools]]
theorem runs_ABTI_mem_init :
    allRuns ABTI_mem_init 400 0
        (checks failBalanced allowed_ABTI_mem_init ABTI_mem_init (preUntouched ABTI_mem_init)) = true ∧
      0 < injectedRuns ABTI_mem_init 400 0 := by decide +kernel
theorem nonvacuous_ABTI_mem_init : 0 < injectedRuns ABTI_mem_init 400 0 := runs_ABTI_mem_init.2

def allowed_ythread_create : List (List Kind) := [[K_mem, K_ythread, K_ktable], [K_ythread]]
theorem runs_ythread_create :
    allRuns ythread_create 400 0
        (checks failBalanced allowed_ythread_create ythread_create (preUntouched ythread_create)) = true ∧
      0 < injectedRuns ythread_create 400 0 := by decide +kernel
theorem nonvacuous_ythread_create : 0 < injectedRuns ythread_create 400 0 := runs_ythread_create.2

def allowed_ythread_create_with_sched : List (List Kind) := [[K_mem, K_ythread, K_ktable], [K_ythread], [K_ythread, K_ktable]]
theorem runs_ythread_create_with_sched :
    allRuns ythread_create_with_sched 400 0
        (checks failBalanced allowed_ythread_create_with_sched ythread_create_with_sched preUntouchedBeforeKey) = true ∧
      0 < injectedRuns ythread_create_with_sched 400 0 := by decide +kernel
theorem nonvacuous_ythread_create_with_sched : 0 < injectedRuns ythread_create_with_sched 400 0 := runs_ythread_create_with_sched.2

def allowed_task_create : List (List Kind) := [[K_task]]
theorem runs_task_create :
    allRuns task_create 400 0
        (checks failBalanced allowed_task_create task_create (preUntouched task_create)) = true ∧
      0 < injectedRuns task_create 400 0 := by decide +kernel
theorem nonvacuous_task_create : 0 < injectedRuns task_create 400 0 := runs_task_create.2

def allowed_ABTI_thread_get_mig_data : List (List Kind) := [[], [K_mem], [K_mem, K_lazy_ktable]]
theorem runs_ABTI_thread_get_mig_data :
    allRuns ABTI_thread_get_mig_data 400 0
        (checks (failBalancedUpTo [K_lazy_ktable]) allowed_ABTI_thread_get_mig_data ABTI_thread_get_mig_data (preUntouched ABTI_thread_get_mig_data)) = true ∧
      0 < injectedRuns ABTI_thread_get_mig_data 400 0 := by decide +kernel
theorem nonvacuous_ABTI_thread_get_mig_data : 0 < injectedRuns ABTI_thread_get_mig_data 400 0 := runs_ABTI_thread_get_mig_data.2

def allowed_ABTI_ythread_create_root : List (List Kind) := [[K_ythread]]
theorem runs_ABTI_ythread_create_root :
    allRuns ABTI_ythread_create_root 400 0
        (checks failBalanced allowed_ABTI_ythread_create_root ABTI_ythread_create_root (preUntouched ABTI_ythread_create_root)) = true ∧
      0 < injectedRuns ABTI_ythread_create_root 400 0 := by decide +kernel
theorem nonvacuous_ABTI_ythread_create_root : 0 < injectedRuns ABTI_ythread_create_root 400 0 := runs_ABTI_ythread_create_root.2

def allowed_ABTI_ythread_create_main_sched : List (List Kind) := [[K_ythread]]
theorem runs_ABTI_ythread_create_main_sched :
    allRuns ABTI_ythread_create_main_sched 400 0
        (checks failBalanced allowed_ABTI_ythread_create_main_sched ABTI_ythread_create_main_sched (preUntouched ABTI_ythread_create_main_sched)) = true ∧
      0 < injectedRuns ABTI_ythread_create_main_sched 400 0 := by decide +kernel
theorem nonvacuous_ABTI_ythread_create_main_sched : 0 < injectedRuns ABTI_ythread_create_main_sched 400 0 := runs_ABTI_ythread_create_main_sched.2

def allowed_ABTI_ythread_create_sched : List (List Kind) := [[K_ythread]]
theorem runs_ABTI_ythread_create_sched :
    allRuns ABTI_ythread_create_sched 400 0
        (checks failBalanced allowed_ABTI_ythread_create_sched ABTI_ythread_create_sched (preUntouched ABTI_ythread_create_sched)) = true ∧
      0 < injectedRuns ABTI_ythread_create_sched 400 0 := by decide +kernel
theorem nonvacuous_ABTI_ythread_create_sched : 0 < injectedRuns ABTI_ythread_create_sched 400 0 := runs_ABTI_ythread_create_sched.2

def allowed_sched_create : List (List Kind) := [[K_mem, K_mem, K_userdata], [K_mem, K_mem], [K_mem, K_mem, K_pool, K_poolref, K_userdata], [K_mem, K_mem, K_pool, K_poolref], [K_mem, K_mem, K_poolref, K_userdata], [K_mem, K_mem, K_poolref], [K_mem, K_mem, K_pool, K_pool, K_poolref, K_poolref, K_userdata], [K_mem, K_mem, K_pool, K_pool, K_poolref, K_poolref], [K_mem, K_mem, K_pool, K_poolref, K_poolref, K_userdata], [K_mem, K_mem, K_pool, K_poolref, K_poolref], [K_mem, K_mem, K_poolref, K_poolref, K_userdata], [K_mem, K_mem, K_poolref, K_poolref]]
theorem runs_sched_create :
    allRuns sched_create 600 2
        (checks failBalanced allowed_sched_create sched_create (preUntouched sched_create)) = true ∧
      0 < injectedRuns sched_create 600 2 := by decide +kernel
theorem nonvacuous_sched_create : 0 < injectedRuns sched_create 600 2 := runs_sched_create.2

def allowed_ABTI_sched_create_basic : List (List Kind) := [[K_sched, K_pool], [K_sched, K_pool, K_pool, K_pool], [K_sched], [K_sched, K_pool, K_pool]]
theorem runs_ABTI_sched_create_basic :
    allRuns ABTI_sched_create_basic 600 2
        (checks failBalanced allowed_ABTI_sched_create_basic ABTI_sched_create_basic (preUntouched ABTI_sched_create_basic)) = true ∧
      0 < injectedRuns ABTI_sched_create_basic 600 2 := by decide +kernel
theorem nonvacuous_ABTI_sched_create_basic : 0 < injectedRuns ABTI_sched_create_basic 600 2 := runs_ABTI_sched_create_basic.2

def allowed_pool_create : List (List Kind) := [[K_mem, K_userdata], [K_mem]]
theorem runs_pool_create :
    allRuns pool_create 400 0
        (checks failBalanced allowed_pool_create pool_create (preUntouched pool_create)) = true ∧
      0 < injectedRuns pool_create 400 0 := by decide +kernel
theorem nonvacuous_pool_create : 0 < injectedRuns pool_create 400 0 := runs_pool_create.2

def allowed_ABT_pool_create : List (List Kind) := [[K_pool]]
theorem runs_ABT_pool_create :
    allRuns ABT_pool_create 400 0
        (checks failBalanced allowed_ABT_pool_create ABT_pool_create (preUntouched ABT_pool_create)) = true ∧
      0 < injectedRuns ABT_pool_create 400 0 := by decide +kernel
theorem nonvacuous_ABT_pool_create : 0 < injectedRuns ABT_pool_create 400 0 := runs_ABT_pool_create.2

def allowed_ABTI_pool_create_basic : List (List Kind) := [[K_pool]]
theorem runs_ABTI_pool_create_basic :
    allRuns ABTI_pool_create_basic 400 0
        (checks failBalanced allowed_ABTI_pool_create_basic ABTI_pool_create_basic (preUntouched ABTI_pool_create_basic)) = true ∧
      0 < injectedRuns ABTI_pool_create_basic 400 0 := by decide +kernel
theorem nonvacuous_ABTI_pool_create_basic : 0 < injectedRuns ABTI_pool_create_basic 400 0 := runs_ABTI_pool_create_basic.2

def allowed_ABT_pool_add_sched : List (List Kind) := [[K_ythread]]
theorem runs_ABT_pool_add_sched :
    allRuns ABT_pool_add_sched 400 0
        (checks failBalanced allowed_ABT_pool_add_sched ABT_pool_add_sched (preUntouched ABT_pool_add_sched)) = true ∧
      0 < injectedRuns ABT_pool_add_sched 400 0 := by decide +kernel
theorem nonvacuous_ABT_pool_add_sched : 0 < injectedRuns ABT_pool_add_sched 400 0 := runs_ABT_pool_add_sched.2

def allowed_ABTI_thread_init_pool : List (List Kind) := [[], [K_unit, K_unitmap]]
theorem runs_ABTI_thread_init_pool :
    allRuns ABTI_thread_init_pool 400 0
        (checks failBalanced allowed_ABTI_thread_init_pool ABTI_thread_init_pool (preUntouched ABTI_thread_init_pool)) = true ∧
      0 < injectedRuns ABTI_thread_init_pool 400 0 := by decide +kernel
theorem nonvacuous_ABTI_thread_init_pool : 0 < injectedRuns ABTI_thread_init_pool 400 0 := runs_ABTI_thread_init_pool.2

def allowed_ABTI_ktable_create : List (List Kind) := [[K_mem]]
theorem runs_ABTI_ktable_create :
    allRuns ABTI_ktable_create 400 0
        (checks failBalanced allowed_ABTI_ktable_create ABTI_ktable_create (preUntouched ABTI_ktable_create)) = true ∧
      0 < injectedRuns ABTI_ktable_create 400 0 := by decide +kernel
theorem nonvacuous_ABTI_ktable_create : 0 < injectedRuns ABTI_ktable_create 400 0 := runs_ABTI_ktable_create.2

def allowed_ABT_eventual_create : List (List Kind) := [[K_mem], [K_mem, K_mem]]
theorem runs_ABT_eventual_create :
    allRuns ABT_eventual_create 400 0
        (checks failBalanced allowed_ABT_eventual_create ABT_eventual_create (preUntouched ABT_eventual_create)) = true ∧
      0 < injectedRuns ABT_eventual_create 400 0 := by decide +kernel
theorem nonvacuous_ABT_eventual_create : 0 < injectedRuns ABT_eventual_create 400 0 := runs_ABT_eventual_create.2

def allowed_ABT_future_create : List (List Kind) := [[K_mem, K_mem], [K_mem]]
theorem runs_ABT_future_create :
    allRuns ABT_future_create 400 0
        (checks failBalanced allowed_ABT_future_create ABT_future_create (preUntouched ABT_future_create)) = true ∧
      0 < injectedRuns ABT_future_create 400 0 := by decide +kernel
theorem nonvacuous_ABT_future_create : 0 < injectedRuns ABT_future_create 400 0 := runs_ABT_future_create.2

def allowed_ABT_mutex_create : List (List Kind) := [[K_mem]]
theorem runs_ABT_mutex_create :
    allRuns ABT_mutex_create 400 0
        (checks failBalanced allowed_ABT_mutex_create ABT_mutex_create (preUntouched ABT_mutex_create)) = true ∧
      0 < injectedRuns ABT_mutex_create 400 0 := by decide +kernel
theorem nonvacuous_ABT_mutex_create : 0 < injectedRuns ABT_mutex_create 400 0 := runs_ABT_mutex_create.2

def allowed_ABT_cond_create : List (List Kind) := [[K_mem]]
theorem runs_ABT_cond_create :
    allRuns ABT_cond_create 400 0
        (checks failBalanced allowed_ABT_cond_create ABT_cond_create (preUntouched ABT_cond_create)) = true ∧
      0 < injectedRuns ABT_cond_create 400 0 := by decide +kernel
theorem nonvacuous_ABT_cond_create : 0 < injectedRuns ABT_cond_create 400 0 := runs_ABT_cond_create.2

def allowed_ABT_barrier_create : List (List Kind) := [[K_mem]]
theorem runs_ABT_barrier_create :
    allRuns ABT_barrier_create 400 0
        (checks failBalanced allowed_ABT_barrier_create ABT_barrier_create (preUntouched ABT_barrier_create)) = true ∧
      0 < injectedRuns ABT_barrier_create 400 0 := by decide +kernel
theorem nonvacuous_ABT_barrier_create : 0 < injectedRuns ABT_barrier_create 400 0 := runs_ABT_barrier_create.2

def allowed_ABT_rwlock_create : List (List Kind) := [[K_mem]]
theorem runs_ABT_rwlock_create :
    allRuns ABT_rwlock_create 400 0
        (checks failBalanced allowed_ABT_rwlock_create ABT_rwlock_create (preUntouched ABT_rwlock_create)) = true ∧
      0 < injectedRuns ABT_rwlock_create 400 0 := by decide +kernel
theorem nonvacuous_ABT_rwlock_create : 0 < injectedRuns ABT_rwlock_create 400 0 := runs_ABT_rwlock_create.2

def allowed_ABT_key_create : List (List Kind) := [[K_mem]]
theorem runs_ABT_key_create :
    allRuns ABT_key_create 400 0
        (checks failBalanced allowed_ABT_key_create ABT_key_create (preUntouched ABT_key_create)) = true ∧
      0 < injectedRuns ABT_key_create 400 0 := by decide +kernel
theorem nonvacuous_ABT_key_create : 0 < injectedRuns ABT_key_create 400 0 := runs_ABT_key_create.2

def allowed_ABT_timer_create : List (List Kind) := [[K_mem]]
theorem runs_ABT_timer_create :
    allRuns ABT_timer_create 400 0
        (checks failBalanced allowed_ABT_timer_create ABT_timer_create (preUntouched ABT_timer_create)) = true ∧
      0 < injectedRuns ABT_timer_create 400 0 := by decide +kernel
theorem nonvacuous_ABT_timer_create : 0 < injectedRuns ABT_timer_create 400 0 := runs_ABT_timer_create.2

def allowed_timer_alloc : List (List Kind) := [[K_mem]]
theorem runs_timer_alloc :
    allRuns timer_alloc 400 0
        (checks failBalanced allowed_timer_alloc timer_alloc (preUntouched timer_alloc)) = true ∧
      0 < injectedRuns timer_alloc 400 0 := by decide +kernel
theorem nonvacuous_timer_alloc : 0 < injectedRuns timer_alloc 400 0 := runs_timer_alloc.2

def allowed_ABT_xstream_barrier_create : List (List Kind) := [[K_mem, K_syncobj]]
theorem runs_ABT_xstream_barrier_create :
    allRuns ABT_xstream_barrier_create 400 0
        (checks failBalanced allowed_ABT_xstream_barrier_create ABT_xstream_barrier_create (preUntouched ABT_xstream_barrier_create)) = true ∧
      0 < injectedRuns ABT_xstream_barrier_create 400 0 := by decide +kernel
theorem nonvacuous_ABT_xstream_barrier_create : 0 < injectedRuns ABT_xstream_barrier_create 400 0 := runs_ABT_xstream_barrier_create.2

def allowed_ABT_thread_attr_create : List (List Kind) := [[K_mem]]
theorem runs_ABT_thread_attr_create :
    allRuns ABT_thread_attr_create 400 0
        (checks failBalanced allowed_ABT_thread_attr_create ABT_thread_attr_create (preUntouched ABT_thread_attr_create)) = true ∧
      0 < injectedRuns ABT_thread_attr_create 400 0 := by decide +kernel
theorem nonvacuous_ABT_thread_attr_create : 0 < injectedRuns ABT_thread_attr_create 400 0 := runs_ABT_thread_attr_create.2

def allowed_ABT_mutex_attr_create : List (List Kind) := [[K_mem]]
theorem runs_ABT_mutex_attr_create :
    allRuns ABT_mutex_attr_create 400 0
        (checks failBalanced allowed_ABT_mutex_attr_create ABT_mutex_attr_create (preUntouched ABT_mutex_attr_create)) = true ∧
      0 < injectedRuns ABT_mutex_attr_create 400 0 := by decide +kernel
theorem nonvacuous_ABT_mutex_attr_create : 0 < injectedRuns ABT_mutex_attr_create 400 0 := runs_ABT_mutex_attr_create.2

end ArgoVerif.Proofs.LedgerRuns
