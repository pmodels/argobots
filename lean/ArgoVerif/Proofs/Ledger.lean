import ArgoVerif.Model.Ledger
/-
Proofs.Ledger — the enumeration `runs` covers every oracle:
`exec p fuel o ∈ runs p fuel bound` whenever `p` has no parameter or `o.param ≤ bound`.
A Boolean check that holds for all members of the finite list `runs` therefore
holds for every failure position k (including k beyond the last acquisition,
where no failure happens), every valuation of the opaque conditions and every
parameter value up to the bound.  `Checks` bundles the four C18 checks of one
outcome; `Checks.of_runs` lifts their evaluation on `runs` to every oracle.
-/
namespace ArgoVerif.Model.Ledger

def Agree (o : Oracle) (m : Memo) : Prop := ∀ a i v, memoGet m (a, i) = some v → o.env a i = v

/-- the enumeration may still inject a failure iff the oracle's failing position is not behind us -/
def BudgetOk (o : Oracle) (n : Nat) (b : Bool) : Prop := b = true ↔ ∀ k, o.failAt = some k → n ≤ k

theorem agree_cons {o : Oracle} {m : Memo} (a i : Nat) (h : Agree o m) :
    Agree o (((a, i), o.env a i) :: m) := by
  intro a' i' v hv
  simp only [memoGet] at hv
  split at hv
  · next hk => cases hk; exact Option.some.inj hv
  · exact h a' i' v hv

/-- one instruction further: the continuation of `execFrom` is among those of `runsFrom` -/
theorem mem_cont {p : Prog} {o : Oracle} {f n : Nat} {m : Memo} {b : Bool} (r : StepR)
    (ih : ∀ s', execFrom p o f s' n ∈ runsFrom p f s' m b) :
    (match r with
      | .done x => x
      | .next s' => execFrom p o f s' n) ∈
    (match r with
      | .done x => [x]
      | .next s' => runsFrom p f s' m b) := by
  cases r <;> simp [ih]

theorem execFrom_mem_runsFrom (p : Prog) (o : Oracle) :
    ∀ (fuel : Nat) (s : St) (n : Nat) (m : Memo) (b : Bool), Agree o m → BudgetOk o n b →
      execFrom p o fuel s n ∈ runsFrom p fuel s m b := by
  intro fuel
  induction fuel with
  | zero => intro s n m b _ _; simp [execFrom, runsFrom]
  | succ f ih =>
    intro s n m b hag hb
    unfold execFrom runsFrom
    cases need p s with
    | none => exact mem_cont _ fun s' => ih s' n m b hag hb
    | env a i =>
      simp only []
      cases hm : memoGet m (a, i) with
      | some v => rw [hag a i v hm]; exact mem_cont _ fun s' => ih s' n m b hag hb
      | none =>
        have := fun s' => ih s' n _ b (agree_cons a i hag) hb
        cases hv : o.env a i <;> rw [hv] at this
        · exact List.mem_append_right _ (mem_cont _ this)
        · exact List.mem_append_left _ (mem_cont _ this)
    | fail =>
      -- the enumeration fails here iff it may and the oracle says so; afterwards it may no more
      have hnext : ∀ b', BudgetOk o (n + 1) b' → ∀ s', execFrom p o f s' (n + 1) ∈ runsFrom p f s' m b' :=
        fun b' hb' s' => ih s' (n + 1) m b' hag hb'
      unfold BudgetOk at hb hnext
      by_cases hf : o.failAt = some n
      · have : b = true := hb.2 fun k hk => by simp_all
        subst this
        simp only [hf, decide_true, if_true]
        exact List.mem_append_left _ (mem_cont _ (hnext false (by simp [hf])))
      · simp only [hf, decide_false]
        have hstep : ∀ k, o.failAt = some k → (n + 1 ≤ k ↔ n ≤ k) := fun k hk =>
          ⟨by omega, fun h => Nat.lt_of_le_of_ne h fun e => hf (e ▸ hk)⟩
        have hb' : BudgetOk o (n + 1) b := hb.trans ⟨fun h k hk => (hstep k hk).2 (h k hk), fun h k hk => (hstep k hk).1 (h k hk)⟩
        cases b
        · exact mem_cont _ (hnext false hb')
        · exact List.mem_append_right _ (mem_cont _ (hnext true hb'))

/-- a program without loop-bound parameter never reads `o.param` -/
theorem exec_mem_runs (p : Prog) (fuel bound : Nat) (o : Oracle) (hb : p.param = none ∨ o.param ≤ bound) :
    exec p fuel o ∈ runs p fuel bound := by
  have h := execFrom_mem_runsFrom p o fuel (init p o.param) 0 [] true (fun _ _ _ h => nomatch h)
    ⟨fun _ k _ => k.zero_le, fun _ => rfl⟩
  unfold exec runs paramVals
  rw [List.mem_flatMap]
  cases hq : p.param with
  | none => exact ⟨0, by simp, by simpa [init, hq] using h⟩
  | some v => exact ⟨o.param, by simpa [hq, Nat.lt_succ_iff] using hb, h⟩

theorem all_runs_exec {p : Prog} {fuel bound : Nat} {chk : Outcome → Bool}
    (h : allRuns p fuel bound chk = true) (o : Oracle) (hb : p.param = none ∨ o.param ≤ bound) :
    chk (exec p fuel o) = true :=
  List.all_eq_true.1 h _ (exec_mem_runs p fuel bound o hb)

/-! ### the four checks of a ladder -/

/-- what C18 states about one outcome.  `fb` is `failBalanced` (or `failBalancedUpTo c`), `pre` is `preUntouched p`
    or one of its weaker forms. -/
structure Checks (fb : Outcome → Bool) (a : List (List Kind)) (p : Prog) (pre : Outcome → Bool) (o : Outcome) :
    Prop where
  fail : fb o = true
  success : successExact a o = true
  handle : handleOk p o = true
  pre : pre o = true

def checks (fb : Outcome → Bool) (a : List (List Kind)) (p : Prog) (pre : Outcome → Bool) (o : Outcome) : Bool :=
  fb o && successExact a o && handleOk p o && pre o

theorem Checks.of_chk {fb pre : Outcome → Bool} {a : List (List Kind)} {p : Prog} {o : Outcome}
    (h : checks fb a p pre o = true) : Checks fb a p pre o := by
  simp only [checks, Bool.and_eq_true] at h
  exact ⟨h.1.1.1, h.1.1.2, h.1.2, h.2⟩

theorem Checks.of_runs {fb pre : Outcome → Bool} {a : List (List Kind)} {p : Prog} {fuel bound : Nat}
    (h : allRuns p fuel bound (checks fb a p pre) = true) (hp : p.param = none) (o : Oracle) :
    Checks fb a p pre (exec p fuel o) :=
  .of_chk (all_runs_exec h o (.inl hp))

theorem Checks.of_runs_upTo {fb pre : Outcome → Bool} {a : List (List Kind)} {p : Prog} {fuel bound : Nat}
    (h : allRuns p fuel bound (checks fb a p pre) = true) (o : Oracle) (hb : o.param ≤ bound) :
    Checks fb a p pre (exec p fuel o) :=
  .of_chk (all_runs_exec h o (.inr hb))

/-! ### corollaries of the four checks: the two statements that C18 names explicitly -/

/-- a run that ends without fault has released nothing twice and nothing that was never assigned; every run
    that passes the checks ends without fault, provided `fb` says so for the runs with an injected failure -/
theorem Checks.noBad_of {fb pre : Outcome → Bool} {a : List (List Kind)} {p : Prog} {o : Outcome}
    (h : Checks fb a p pre o) (hfb : o.st.injected = true → o.clean = true) : noBadRelease o = true := by
  have hc : o.clean = true := by
    have h2 := h.success
    unfold successExact at h2
    cases hi : o.st.injected <;> simp_all
  unfold Outcome.clean at hc
  unfold noBadRelease
  cases hf : o.st.fault <;> simp_all

theorem Checks.noBad {a : List (List Kind)} {p : Prog} {pre : Outcome → Bool} {o : Outcome}
    (h : Checks failBalanced a p pre o) : noBadRelease o = true :=
  h.noBad_of fun hi => by have := h.fail; simp_all [failBalanced]

theorem Checks.noBad_upTo {c : List Kind} {a : List (List Kind)} {p : Prog} {pre : Outcome → Bool} {o : Outcome}
    (h : Checks (failBalancedUpTo c) a p pre o) : noBadRelease o = true :=
  h.noBad_of fun hi => by have := h.fail; simp_all [failBalancedUpTo]

theorem rolledBack_of_preUntouchedOnError {p : Prog} {o : Outcome} (h : preUntouchedOnError p o = true) :
    stateRolledBack p o = true := by
  unfold preUntouchedOnError preUntouched at h
  unfold stateRolledBack
  cases hs : o.isSuccess <;> simp_all

theorem rolledBack_of_preUntouched {p : Prog} {o : Outcome} (h : preUntouched p o = true) :
    stateRolledBack p o = true :=
  rolledBack_of_preUntouchedOnError (by simp [preUntouchedOnError, h])

end ArgoVerif.Model.Ledger
