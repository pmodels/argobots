import ArgoVerif.Model.X86
import ArgoVerif.Gen.Fcontext
/-
Proofs.X86 — what `Props.C02`'s assembly half is stated and proved with: the predicates its statements use; two
concrete environments that satisfy the ABI predicate and the machine states of the non-vacuity examples; the pieces
the routines are made of, each with its effect as one state update (the save half, the frame-popping tail, a call
into a conforming function), and which generated list is which piece (`fctx_save_shape`, `fctx_restore_shape`).
Every restore half amounts to the tail (`Restores`), so every save half × restore half is a round trip
(`roundTrip_of_restores`).
-/
namespace ArgoVerif.Props.C02
open ArgoVerif.Model.X86

/-- `a` and `b` hold the same bytes in `[lo, hi)` (all three access widths) -/
def Agree (a b : St) (lo hi : Int) : Prop :=
  ∀ x, lo ≤ x → x < hi → a.mem x = b.mem x ∧ a.mem32 x = b.mem32 x ∧ a.mem16 x = b.mem16 x

/-- `s2` is what a thread that called a switch routine in state `s0` must find when the call
returns: callee-saved registers and FP control state as at the call, the return address
popped, control at the return address. -/
def Resumed (s2 s0 : St) : Prop :=
  s2.reg .rbx = s0.reg .rbx ∧ s2.reg .rbp = s0.reg .rbp ∧ s2.reg .r12 = s0.reg .r12 ∧
  s2.reg .r13 = s0.reg .r13 ∧ s2.reg .r14 = s0.reg .r14 ∧ s2.reg .r15 = s0.reg .r15 ∧
  s2.reg .rsp = s0.reg .rsp + 8 ∧ s2.mxcsr = s0.mxcsr ∧ s2.fpucw = s0.fpucw ∧
  s2.pc = some (s0.mem (s0.reg .rsp))

/-- The context-word address `ctx` does not overlap the frame of a thread whose `rsp` at
entry is `sp` (`fcontext_t` lives in the ULT descriptor, never in the 0x40 bytes the switch
routine itself pushes). -/
def CtxOutsideFrame (ctx sp : Int) : Prop := ctx + 8 ≤ sp - 56 ∨ sp + 8 ≤ ctx

/-- Save with `save` (old-context pointer in register `old`) in state `s0`; later, in ANY
state `s1` whose memory still agrees with what the save half left on the 0x40-byte frame and
on the context word, and whose new-context argument (register `new`) is that context, the
restore half `restore` ends in `Resumed _ s0`.  Nothing else about `s1` is assumed: other
registers, other memory, MXCSR and x87 CW are arbitrary (another ULT ran in between). -/
def RoundTrip (save : List Instr) (old : Reg) (restore : List Instr) (new : Reg) : Prop :=
  ∀ (env : Env) (s0 s1 : St), AbiEnv env 64 →
    CtxOutsideFrame (s0.reg old) (s0.reg .rsp) →
    s1.reg new = s0.reg old →
    s1.mem (s0.reg old) = (run env s0 save).mem (s0.reg old) →
    Agree s1 (run env s0 save) (s0.reg .rsp - 56) (s0.reg .rsp + 8) →
    Resumed (run env s1 restore) s0

def OneCall (s : St) (P : CallRec → Prop) : Prop :=
  match s.calls with
  | [c] => P c
  | _ => False

/-- nothing outside the frame `[sp-56, sp)` of the saving thread and its context word `ctx` was written -/
def OnlyFrameWritten (m0 m2 : Int → Int) (m0_32 m2_32 m0_16 m2_16 : Int → Int) (sp ctx : Int) : Prop :=
  ∀ a, (a < sp - 56 ∨ sp ≤ a) →
    (a ≠ ctx → m2 a = m0 a) ∧ m2_32 a = m0_32 a ∧ m2_16 a = m0_16 a

/-- what `fctx_saved_sp_aligned_*` establish about a save half, as a predicate -/
def SaveFootprint (sv : List Instr) (rold : Reg) : Prop :=
  ∀ (env : Env) (s : St),
    (∀ r, r ≠ .rsp → (run env s sv).reg r = s.reg r) ∧
    OnlyFrameWritten s.mem (run env s sv).mem s.mem32 (run env s sv).mem32 s.mem16 (run env s sv).mem16
      (s.reg .rsp) (s.reg rold)

end ArgoVerif.Props.C02

namespace ArgoVerif.Proofs.X86
open ArgoVerif.Model.X86 ArgoVerif.Gen.Fcontext ArgoVerif.Props.C02

theorem run_append (env : Env) (s : St) (p q : List Instr) :
    run env s (p ++ q) = run env (run env s p) q := by
  induction p generalizing s with
  | nil => rfl
  | cons i p ih => simp only [List.cons_append, run]; exact ih _

theorem run_nil (env : Env) (s : St) : run env s [] = s := rfl

theorem retEnv_abi (n : Int) : AbiEnv retEnv n := by
  constructor <;> intros <;> simp [retEnv, setReg]

theorem trashEnv_abi (n : Int) : AbiEnv trashEnv n := by
  constructor <;> intros <;> simp [trashEnv, trashCb, junkReg, junkRegs] <;> omega

/-- a thread about to call a switch routine with `rsp = 0x6FF8` (an ABI-conformant function entry: `rsp + 8` is
16-byte aligned; return address `0x401000` on top), distinct values in every callee-saved register, round-to-zero +
flush-to-zero MXCSR, 53-bit-precision x87 CW. -/
def exSt0 : St where
  reg := fun r => match r with
    | .rsp => 0x6FF8 | .rbx => 0xB1 | .rbp => 0xB2 | .r12 => 0xC12 | .r13 => 0xC13
    | .r14 => 0xC14 | .r15 => 0xC15 | .rsi => 0x9000 | .rcx => 0x9000 | .r9 => 0x9000
    | .rdi => 0x9008 | .rdx => 0x9008 | .r8 => 0x5555 | .rax => 1 | .r10 => 10 | .r11 => 11
  mem := fun a => if a = 0x6FF8 then 0x401000 else 0
  mem32 := fun _ => 0
  mem16 := fun _ => 0
  mxcsr := 0xFF80
  fpucw := 0x027F
  pc := none
  calls := []

/-- somebody else's state when it resumes the context saved from `exSt0` by `save`: every register different,
new-context argument in `rdi` and `rdx` (covers all four restoring routines) -/
def exSt1 (save : List Instr) : St :=
  { run retEnv exSt0 save with
    reg := fun r => match r with
      | .rdi => 0x9000 | .rdx => 0x9000 | .rsi => 0x402000 | .rsp => 0x3000 | _ => 0x77
    mxcsr := 0x1F80, fpucw := 0x037F }

/-- the save half shared by the four saving routines; `old` carries `p_old_ctx` -/
def saveHalf (old : Reg) : List Instr :=
  [.push .rbp, .push .rbx, .push .r15, .push .r14, .push .r13, .push .r12, .lea (-8) .rsp .rsp,
   .stmxcsr 0 .rsp, .fnstcw 4 .rsp, .movRM .rsp 0 old]

/-- the tail shared by the restoring routines: pop the frame whose base is in `rsp` and jump to its `RIP` slot -/
def popFrame : List Instr :=
  [.ldmxcsr 0 .rsp, .fldcw 4 .rsp, .lea 8 .rsp .rsp, .pop .r12, .pop .r13, .pop .r14, .pop .r15, .pop .rbx,
   .pop .rbp, .pop .r8, .jmpInd .r8]

theorem run_saveHalf (env : Env) (s : St) (old : Reg) (h : old ≠ .rsp := by decide) :
    run env s (saveHalf old) =
      { s with
        reg := fun r => if r = .rsp then s.reg .rsp - 56 else s.reg r
        mem := fun a =>
          if a = s.reg old then s.reg .rsp - 56 else if a = s.reg .rsp - 48 then s.reg .r12
          else if a = s.reg .rsp - 40 then s.reg .r13 else if a = s.reg .rsp - 32 then s.reg .r14
          else if a = s.reg .rsp - 24 then s.reg .r15 else if a = s.reg .rsp - 16 then s.reg .rbx
          else if a = s.reg .rsp - 8 then s.reg .rbp else s.mem a
        mem32 := fun a => if a = s.reg .rsp - 56 then s.mxcsr else s.mem32 a
        mem16 := fun a => if a = s.reg .rsp - 52 then s.fpucw else s.mem16 a } := by
  simp only [saveHalf, run, exec, setReg, setMem, setMem32, setMem16, ↓reduceIte, reduceCtorEq, h, Int.add_zero]
  congr 1 <;> funext x <;> grind

theorem run_popFrame (env : Env) (s : St) :
    run env s popFrame =
      { s with
        reg := fun r =>
          if r = .r8 then s.mem (s.reg .rsp + 56) else if r = .rbp then s.mem (s.reg .rsp + 48)
          else if r = .rbx then s.mem (s.reg .rsp + 40) else if r = .r15 then s.mem (s.reg .rsp + 32)
          else if r = .r14 then s.mem (s.reg .rsp + 24) else if r = .r13 then s.mem (s.reg .rsp + 16)
          else if r = .r12 then s.mem (s.reg .rsp + 8) else if r = .rsp then s.reg .rsp + 64 else s.reg r
        mxcsr := s.mem32 (s.reg .rsp)
        fpucw := s.mem16 (s.reg .rsp + 4)
        pc := some (s.mem (s.reg .rsp + 56)) } := by
  simp only [popFrame, run, exec, setReg, ↓reduceIte, reduceCtorEq, Int.add_zero]
  congr 1
  · funext x; cases x <;> grind
  · grind

/-- `callq *%r` into a conforming function, up to its `ret`: the caller finds `rsp` and its own frame as they were -/
theorem exec_call {env : Env} {n : Int} (h : AbiEnv env n) (s : St) (r : Reg) :
    (exec env s (.callInd r)).reg .rsp = s.reg .rsp ∧
    Agree (exec env s (.callInd r)) s (s.reg .rsp) (s.reg .rsp + n) := by
  simp only [exec]
  refine ⟨by rw [h.rsp]; simp [setReg, setMem], fun a h1 h2 => ?_⟩
  have ha : a ≠ s.reg .rsp - 8 := by omega
  simp [h.frame, h.frame32, h.frame16, setReg, setMem, h1, h2, ha]

theorem fctx_save_shape :
    switch_fcontext_save = saveHalf .rsi ∧ switch_with_call_fcontext_save = saveHalf .rcx ∧
    init_and_switch_fcontext_save = saveHalf .rcx ∧ init_and_switch_with_call_fcontext_save = saveHalf .r9 :=
  ⟨rfl, rfl, rfl, rfl⟩

theorem fctx_restore_shape :
    switch_fcontext_restore = .movMR 0 .rdi .rsp :: popFrame ∧ jump_fcontext = .movMR 0 .rdi .rsp :: popFrame ∧
    switch_with_call_fcontext_restore = .movMR 0 .rdx .rsp :: .callInd .rsi :: popFrame ∧
    jump_with_call_fcontext = .movMR 0 .rdx .rsp :: .callInd .rsi :: popFrame :=
  ⟨rfl, rfl, rfl, rfl⟩

/-- `R`, entered with the new-context pointer in `new`, amounts to `popFrame` started with `rsp` at the frame base
the context word holds and with the frame as at entry -/
def Restores (R : List Instr) (new : Reg) : Prop :=
  ∀ (env : Env) (s : St), AbiEnv env 64 → ∃ t : St,
    t.reg .rsp = s.mem (s.reg new) ∧ Agree t s (t.reg .rsp) (t.reg .rsp + 64) ∧ run env s R = run env t popFrame

theorem restores_plain (new : Reg) : Restores (.movMR 0 new .rsp :: popFrame) new :=
  fun env s _ => ⟨exec env s (.movMR 0 new .rsp), by simp [exec, setReg], fun _ _ _ => ⟨rfl, rfl, rfl⟩, by simp only [run]⟩

/-- the callback runs just below the frame, which the ABI keeps intact -/
theorem restores_call (new : Reg) : Restores (.movMR 0 new .rsp :: .callInd .rsi :: popFrame) new := by
  intro env s habi
  obtain ⟨hsp, hm⟩ := exec_call habi (exec env s (.movMR 0 new .rsp)) .rsi
  exact ⟨_, hsp.trans (by simp [exec, setReg]), hsp ▸ hm, by simp only [run]⟩

/-- every saving routine × every restoring routine: what the save half writes (`run_saveHalf`) is exactly what
`popFrame` reads (`run_popFrame`) -/
theorem roundTrip_of_restores {R : List Instr} {new : Reg} (hR : Restores R new) {old : Reg}
    (h : old ≠ .rsp := by decide) :
    RoundTrip (saveHalf old) old R new := by
  intro env s0 s1 habi hfar hnew hctx hk
  obtain ⟨t, hsp, ht, hrun⟩ := hR env s1 habi
  simp only [run_saveHalf env s0 old h, ↓reduceIte] at hctx hk
  rw [hnew, hctx] at hsp
  rw [hsp] at ht
  rw [hrun, run_popFrame, hsp]
  unfold CtxOutsideFrame at hfar
  unfold Agree at hk ht
  unfold Resumed
  and_intros <;> grind

/-- `(rsp + 8) % 16 = 0`: the routine was entered from an ABI-conformant call site -/
theorem saveHalf_facts (env : Env) (s0 : St) (old : Reg) (h : old ≠ .rsp := by decide) :
    let s1 := run env s0 (saveHalf old)
    s1.mem (s0.reg old) = s0.reg .rsp - 56 ∧
    ((s0.reg .rsp + 8) % 16 = 0 → s1.mem (s0.reg old) % 16 = 0) ∧
    s1.reg .rsp = s0.reg .rsp - 56 ∧ (∀ r, r ≠ .rsp → s1.reg r = s0.reg r) ∧
    OnlyFrameWritten s0.mem s1.mem s0.mem32 s1.mem32 s0.mem16 s1.mem16 (s0.reg .rsp) (s0.reg old) := by
  simp only [run_saveHalf env s0 old h, ↓reduceIte]
  refine ⟨trivial, by omega, trivial, fun r hr => if_neg hr, fun a ha => ?_⟩
  grind

theorem footprint_saveHalf {old : Reg} (h : old ≠ .rsp := by decide) : SaveFootprint (saveHalf old) old :=
  fun env s => (saveHalf_facts env s old h).2.2.2

end ArgoVerif.Proofs.X86
