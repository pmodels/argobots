import ArgoVerif.Proofs.PoolConc
/- Proofs.PoolConcObs — what a run shows of the ghost state: `sawEmpty` is backed by an instant of the run at which the
queue was empty, inside the call that made the observation; what the individual events do to the linearisation history
(read off the definitions); every ring access is made by the lock owner. -/
namespace ArgoVerif.Model.PoolConc
open ArgoVerif ArgoVerif.Model.TQ

def isCallOf (a : Actor) : Ev → Bool
  | .call b _ => b == a
  | _ => false

/-- read off the step functions, guard by guard -/
theorem sawEmpty_step {cfg : Cfg} {s s' : St} {e : Ev} {a : Actor} (hs : step cfg s e = some s')
    (h : s'.sawEmpty a = true) :
    isCallOf a e = false ∧ (s.sawEmpty a = true ∨ (s.q = [] ∧ s.pc a ≠ .idle)) := by
  cases e <;>
    simp only [step, stepCall, stepRet, stepCbPushMany, stepTas, stepLoadLock, stepLoadEmpty, stepLoadIn, stepClear,
      stepMlock, stepMunlock, stepLink, stepTake, stepUnlink, stepRmFail, stepStoreEmpty, stepStoreIn, stepSignal,
      stepCondWait, stepWake, emptyFail, rmFailed, acquire, release, setPc] at hs <;>
    (repeat' split at hs) <;> cases hs <;> simp only [isCallOf] at h ⊢ <;> grind [upd]

/-- `a`'s current call has seen an instant at which the queue was empty -/
def EmptyInstant (cfg : Cfg) (tr : List Ev) (a : Actor) : Prop :=
  ∃ tr1 tr2 s1, tr = tr1 ++ tr2 ∧ (machine cfg).run init tr1 = some s1 ∧ s1.q = [] ∧ s1.pc a ≠ .idle ∧
    ∀ e ∈ tr2, isCallOf a e = false

theorem list_snoc_ind {α : Type} {P : List α → Prop} (h0 : P []) (hs : ∀ l x, P l → P (l ++ [x])) : ∀ l, P l := by
  intro l
  have : ∀ r : List α, P r.reverse := by
    intro r
    induction r with
    | nil => simpa using h0
    | cons x r ih => simpa using hs _ x ih
  simpa using this l.reverse

theorem sawEmpty_witness {cfg : Cfg} (tr : List Ev) : ∀ {s : St} {a : Actor},
    (machine cfg).run init tr = some s → s.sawEmpty a = true → EmptyInstant cfg tr a := by
  induction tr using list_snoc_ind with
  | h0 => intro s a hr hse; cases hr; simp [init] at hse
  | hs tr e ih =>
    intro s a hr hse
    obtain ⟨s0, hr0, hst⟩ := run_snoc hr
    obtain ⟨hnc, h0 | h0⟩ := sawEmpty_step hst hse
    · obtain ⟨tr1, tr2, s1, rfl, e2, e3, e4, e5⟩ := ih hr0 h0
      exact ⟨tr1, tr2 ++ [e], s1, by simp, e2, e3, e4, by simpa [or_imp, forall_and] using ⟨e5, hnc⟩⟩
    · exact ⟨tr, [e], s0, rfl, hr0, h0.1, h0.2, by simpa using hnc⟩

theorem mutation_owner {cfg : Cfg} {s s' : St} {e : Ev} (hm : isMutation e = true) (hs : step cfg s e = some s') :
    s.owner = some (actorOf e) ∧ InCS (s.pc (actorOf e)) := by
  cases e <;> simp [isMutation] at hm <;>
    simp only [step, stepLink, stepTake, stepUnlink, stepRmFail, stepStoreEmpty, stepStoreIn] at hs <;>
    (repeat' split at hs) <;> cases hs <;> simp_all [actorOf, InCS]

/-- hook 26 is the linearisation point of a pop (0 = NULL) -/
theorem take_linearized {cfg : Cfg} {s s' : St} {a : Actor} {r : Nat} {hd : Bool} (hi : Inv cfg s)
    (hs : step cfg s (.take a r hd) = some s') :
    s'.linOps = s.linOps ++ [popOp (tailOf (s.cur a))] ∧ s'.linOuts = s.linOuts ++ [.popped r] ∧
    s'.got a = s.got a ++ (if r = 0 then [] else [r]) ∧ (r = 0 ↔ s.q = []) := by
  simp only [step, stepTake] at hs
  split at hs; · cases hs
  next hg =>
  have hr : r = takeUnit s.q (tailOf (s.cur a)) := by simp_all
  split at hs <;> cases hs
  next hq =>
    have h0 : takeUnit [] (tailOf (s.cur a)) = 0 := by cases tailOf (s.cur a) <;> simp [takeUnit]
    have : r = 0 := by rw [hr, hq, h0]
    simp [setPc, this, hq, h0]
  next hq =>
    have hne : r ≠ 0 := hr ▸ (take_facts hi.good hq (tailOf (s.cur a))).2.1
    simp [setPc, upd, hne, hq, ← hr]

/-- a push is linearised at its last atomic step (`is_in_pool := 1`) -/
theorem push_linearized {cfg : Cfg} {s s' : St} {a : Actor} {u : Nat} (hs : step cfg s (.storeIn a u true) = some s') :
    s'.linOps = s.linOps ++ [pushOp u (headOf (s.cur a))] ∧ s'.linOuts = s.linOuts ++ [.unit] ∧
    s'.q = (if headOf (s.cur a) then u :: s.q else s.q ++ [u]) := by
  simp only [step, stepStoreIn] at hs
  split at hs; · cases hs
  split at hs <;> simp at hs
  subst hs; simp [setPc]

/-- hook 27 is the linearisation point of a successful remove -/
theorem remove_linearized {cfg : Cfg} {s s' : St} {a : Actor} {u : Nat} (hs : step cfg s (.unlink a u) = some s') :
    s'.linOps = s.linOps ++ [.remove u] ∧ s'.linOuts = s.linOuts ++ [.rc .success] ∧ s'.rcOk a = true ∧
    s.cur a = .remove u := by
  simp only [step, stepUnlink] at hs
  split at hs <;> cases hs
  simp_all [setPc, upd]

theorem ret_recorded {cfg : Cfg} {s s' : St} {a : Actor} {r : Res} (hs : step cfg s (.ret a r) = some s') :
    r = resultOf s a := by
  simp only [step, stepRet] at hs
  split at hs <;> cases hs
  next hg => exact hg.2

end ArgoVerif.Model.PoolConc
