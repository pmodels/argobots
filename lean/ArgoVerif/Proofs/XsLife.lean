import ArgoVerif.Model.XsLife
import ArgoVerif.Proofs.XsCtx
/-
Proofs.XsLife — the stream.c layer of Model.XsLife sees the native-thread context only through two finite
abstractions: the phase of the native thread (`nph`) and the class of the context caller's program counter (`ccl`).  How every step of Model.XsCtx moves these is a table checked by the kernel
over the closed list `XsCtx.reach` (`tab_ok`); the inductive invariant `Inv` of the whole model is then proved event by
event (`inv_step`).
-/
namespace ArgoVerif.Model.XsLife
open ArgoVerif ArgoVerif.Model.XsCtx

/-- phase of the native thread: a (re)start of thread_f is pending / it is inside thread_f / it has left thread_f and
nobody has asked for a restart -/
inductive NPh where
  | pre | inF | ended
deriving DecidableEq, Repr

def nph (c : Ctl) : NPh :=
  if c.tpc = .run then .inF else if c.tpc = .start || c.owed then .pre else .ended

inductive CCl where
  | idleF | idleT | inJ | rPre | rPost | fPre | fPost | freed
deriving DecidableEq, Repr

def ccl : CPc → CCl
  | .idle false => .idleF
  | .idle true => .idleT
  | .jLock | .jChk | .jStore | .jWait | .jBlocked | .jWoken | .jLoop | .jAssert | .jUnlock => .inJ
  | .rLock | .rStore => .rPre
  | .rSig | .rUnlock => .rPost
  | .fLock | .fStore => .fPre
  | .fSig | .fUnlock | .fJoin => .fPost
  | .freed => .freed

def tabN (c : Ctl) (e : XsCtx.Ev) (c' : Ctl) : Bool :=
  if restartEv c e then nph c = .pre && nph c' = .inF
  else if e = .ret then nph c = .inF && nph c' = .ended
  else nph c' = nph c || (nph c = .ended && nph c' = .pre && ccl c.cpc = .rPre && ccl c'.cpc = .rPost)

def tabC (c : Ctl) (e : XsCtx.Ev) (c' : Ctl) : Bool :=
  match e with
  | .call .join => (ccl c.cpc = .idleF || ccl c.cpc = .idleT) && ccl c'.cpc = .inJ
  | .call .revive => ccl c.cpc = .idleT && ccl c'.cpc = .rPre
  | .call .free => ccl c.cpc = .idleT && ccl c'.cpc = .fPre
  | .pjoin => ccl c.cpc = .fPost && ccl c'.cpc = .freed
  | .unlock .C =>
    match c.cpc with
    | .jUnlock => ccl c'.cpc = .idleT
    | .rUnlock => ccl c'.cpc = .idleF
    | _ => ccl c'.cpc = ccl c.cpc
  | _ => ccl c'.cpc = ccl c.cpc || (ccl c.cpc = .rPre && ccl c'.cpc = .rPost && nph c = .ended && nph c' = .pre) ||
         (ccl c.cpc = .fPre && ccl c'.cpc = .fPost)

def factsB (c : Ctl) : Bool :=
  !c.fault &&
  (!(ccl c.cpc = .idleT || ccl c.cpc = .rPre || ccl c.cpc = .fPre || ccl c.cpc = .fPost || ccl c.cpc = .freed) ||
    nph c = .ended) &&
  (!(ccl c.cpc = .rPost) || nph c = .pre) &&
  (!(c.cpc = .rStore || c.cpc = .fStore || ccl c.cpc = .idleT) || c.st = .waiting)

def tabB (c : Ctl) : Bool :=
  factsB c && allEv.all fun e =>
    match cstep c e with
    | some (c', _) => tabN c e c' && tabC c e c'
    | none => true

theorem tab_ok : reach.all tabB = true := by decide +kernel

theorem tab_step {c c' : Ctl} {e : XsCtx.Ev} {eff : Eff} (hc : c ∈ reach) (hs : cstep c e = some (c', eff)) :
    c' ∈ reach ∧ tabN c e c' = true ∧ tabC c e c' = true := by
  have h := (List.all_eq_true.mp tab_ok) c hc
  simp only [tabB, Bool.and_eq_true] at h
  have h2 := (List.all_eq_true.mp h.2) e (allEv_complete e)
  rw [hs] at h2
  simp only [Bool.and_eq_true] at h2
  exact ⟨(reach_step hc hs).1, h2⟩

theorem facts_reach {c : Ctl} (hc : c ∈ reach) :
    ((ccl c.cpc = .idleT ∨ ccl c.cpc = .rPre ∨ ccl c.cpc = .fPre ∨ ccl c.cpc = .fPost ∨ ccl c.cpc = .freed) →
      nph c = .ended) ∧
    (ccl c.cpc = .rPost → nph c = .pre) ∧ c.fault = false := by
  have h := (List.all_eq_true.mp tab_ok) c hc
  simp only [tabB, factsB] at h
  grind

/-! ### the invariant -/

/-- where N is inside thread_f determines the main scheduler's state and the public state -/
def npcOk (s : St) : Bool :=
  match s.npc with
  | .out => nph s.x != .inF
  | .root => nph s.x == .inF && !s.mterm && !s.pub && s.rootq
  | .sched | .chk _ _ | .msf | .mend => nph s.x == .inF && !s.mterm && !s.pub
  | .rootEnd => nph s.x == .inF && s.mterm && !s.pub
  | .fin => nph s.x == .inF && s.mterm && s.pub

/-- a (re)start is pending: the main scheduler is READY in the root pool, the stream is RUNNING -/
def preOk (s : St) : Bool := nph s.x != .pre || (!s.mterm && !s.pub && s.rootq)

/-- the native thread has left thread_f and no restart is pending: everything is TERMINATED, except for what a
revive in progress has already reset -/
def endedOk (s : St) : Bool :=
  nph s.x != .ended ||
  match s.lpc with
  | .rClear | .rPush => !s.mterm && s.pub
  | .rPub => !s.mterm && s.pub && s.rootq
  | .rCtx => !s.mterm && !s.pub && s.rootq
  | _ => s.mterm && s.pub

/-- stream.c's program counter against the context caller's -/
def rel : LPc → CCl → Bool
  | .idle, c | .jFin, c | .jTj, c | .jSetJ, c | .jWaitM, c => c = .idleF || c = .idleT
  | .jCtx, c => c = .idleF || c = .idleT || c = .inJ
  | .jPub, c | .jRet, c => c = .idleT
  | .rChk, c | .rReset, c | .rReady, c | .rClear, c | .rPush, c | .rPub, c => c = .idleT
  | .rCtx, c => c = .idleT || c = .rPre || c = .rPost
  | .rRet, c => c = .idleF
  | .fCtx, c => c = .idleT || c = .fPre || c = .fPost
  | .fRet, c | .freed, c => c = .freed

def joinOk (s : St) : Bool := s.lpc != .jCtx || s.mterm

/-- nobody has joined / cancelled / exited the stream since it was created / revived: no request bit is set, nothing
is TERMINATED, the scheduler is (about to be) in its loop -/
def quietOk (s : St) : Bool :=
  s.cause ||
    (!s.fin && !s.ext && !s.jreq && !s.creq && !s.pub && !s.mterm &&
      (s.lpc = .idle || s.lpc = .rCtx || s.lpc = .rRet) && (s.npc = .out || s.npc = .root || s.npc = .sched))

/-- what ABT_xstream_revive has reset so far stays reset until it publishes RUNNING -/
def reviveOk (s : St) : Bool :=
  match s.lpc with
  | .rReady | .rClear => !s.fin && !s.ext
  | .rPush | .rPub => !s.fin && !s.ext && !s.jreq && !s.creq
  | _ => true

structure Inv (s : St) : Prop where
  reach : s.x ∈ XsCtx.reach
  npc : npcOk s = true
  pre : preOk s = true
  ended : endedOk s = true
  rel : rel s.lpc (ccl s.x.cpc) = true
  join : joinOk s = true
  quiet : quietOk s = true
  revive : reviveOk s = true
  nofault : s.fault = false

theorem inv_iff {s : St} : Inv s ↔ s.x ∈ XsCtx.reach ∧ npcOk s = true ∧ preOk s = true ∧ endedOk s = true ∧
    rel s.lpc (ccl s.x.cpc) = true ∧ joinOk s = true ∧ quietOk s = true ∧ reviveOk s = true ∧ s.fault = false :=
  ⟨fun ⟨h1, h2, h3, h4, h5, h6, h7, h8, h9⟩ => ⟨h1, h2, h3, h4, h5, h6, h7, h8, h9⟩,
   fun ⟨h1, h2, h3, h4, h5, h6, h7, h8, h9⟩ => ⟨h1, h2, h3, h4, h5, h6, h7, h8, h9⟩⟩

theorem inv_init : Inv init := by
  constructor <;> decide


theorem facts_of {s : St} (hi : Inv s) :
    ((ccl s.x.cpc = .idleT ∨ ccl s.x.cpc = .rPre ∨ ccl s.x.cpc = .fPre ∨ ccl s.x.cpc = .fPost ∨ ccl s.x.cpc = .freed) →
      nph s.x = .ended) ∧
    (ccl s.x.cpc = .rPost → nph s.x = .pre) ∧ s.x.fault = false :=
  facts_reach hi.reach

/-! ### steps of stream.c / thread.c that leave the native-thread context alone -/

/-- the nine clauses of `Inv` after a step whose new state is written out in the goal, from the old clauses and the
step's guard in the context (the argument is not used) -/
macro "inv_close" _s:ident : tactic => `(tactic| (
  refine inv_iff.mpr ?_
  grind [npcOk, preOk, endedOk, rel, joinOk, quietOk, reviveOk, ccl]))

/-- one guarded step: the guard becomes a hypothesis, `s'` the updated record, then the clauses -/
macro "inv_event" s:ident hi:ident hs:ident : tactic => `(tactic| (
  simp only [step] at $hs:ident
  split at $hs:ident <;> simp only [Option.some.injEq, reduceCtorEq] at $hs:ident
  subst $hs:ident
  have hf := facts_of $hi
  obtain ⟨h1, h2, h3, h4, h5, h6, h7, h8, h9⟩ := $hi
  inv_close $s))

/-! ### steps of abtd_stream.c (either actor)

`Inv` uses the context part of a state only through `nph` and `ccl`; `tabN` and `tabC` say how a context step moves
them, `gNpc` and `gLpc` what it means for the two program counters of stream.c. -/

theorem step_ctx {s s' : St} {e : XsCtx.Ev} :
    step s (.ctx e) = some s' ↔ ctxGuard s e = true ∧ ∃ c' eff, cstep s.x e = some (c', eff) ∧ ctxGlue s c' e = s' := by
  simp only [step]
  cases hg : ctxGuard s e <;> rcases hc : cstep s.x e with _ | ⟨c', eff⟩ <;> simp

theorem glue_npc {s : St} {e : XsCtx.Ev} {c' : Ctl} (hg : ctxGuard s e = true) (h : tabN s.x e c' = true) :
    (gNpc s e = .root ∧ nph s.x = .pre ∧ nph c' = .inF) ∨
    (gNpc s e = .out ∧ s.npc = .fin ∧ nph s.x = .inF ∧ nph c' = .ended) ∨
    (gNpc s e = s.npc ∧ (nph c' = nph s.x ∨
      (nph s.x = .ended ∧ nph c' = .pre ∧ ccl s.x.cpc = .rPre ∧ ccl c'.cpc = .rPost))) := by
  unfold tabN at h
  unfold gNpc
  grind [ctxGuard]

theorem glue_lpc {s : St} {e : XsCtx.Ev} {c' : Ctl} (hg : ctxGuard s e = true) (h : tabC s.x e c' = true) :
    (gLpc s e = s.lpc ∧
      (ccl c'.cpc = ccl s.x.cpc ∨
       (ccl s.x.cpc = .rPre ∧ ccl c'.cpc = .rPost ∧ nph s.x = .ended ∧ nph c' = .pre) ∨
       (ccl s.x.cpc = .fPre ∧ ccl c'.cpc = .fPost) ∨
       (s.lpc = .jCtx ∧ (ccl s.x.cpc = .idleF ∨ ccl s.x.cpc = .idleT) ∧ ccl c'.cpc = .inJ) ∨
       (s.lpc = .rCtx ∧ ccl s.x.cpc = .idleT ∧ ccl c'.cpc = .rPre) ∨
       (s.lpc = .fCtx ∧ ccl s.x.cpc = .idleT ∧ ccl c'.cpc = .fPre))) ∨
    (gLpc s e = .jPub ∧ ccl s.x.cpc = .inJ ∧ ccl c'.cpc = .idleT) ∨
    (gLpc s e = .rRet ∧ ccl s.x.cpc = .rPost ∧ ccl c'.cpc = .idleF) ∨
    (gLpc s e = .fRet ∧ ccl s.x.cpc = .fPost ∧ ccl c'.cpc = .freed) := by
  cases e with
  | call op => cases op <;> simp only [tabC, gLpc, ctxGuard] at h hg ⊢ <;> grind
  | unlock a =>
    cases a with
    | T => simp only [tabC, gLpc] at h ⊢; grind
    | C => cases hp : s.x.cpc <;> simp only [tabC, gLpc, hp] at h ⊢ <;> grind [ccl]
  | _ => simp only [tabC, gLpc] at h ⊢; grind

/-- `npcOk` by cases on the phase instead of the program counter -/
theorem npcOk_iff {s : St} : npcOk s = true ↔
    (s.npc = .out ∧ nph s.x ≠ .inF) ∨
    (s.npc ≠ .out ∧ nph s.x = .inF ∧ (s.pub = true ↔ s.npc = .fin) ∧
      (s.mterm = true ↔ s.npc = .rootEnd ∨ s.npc = .fin) ∧ (s.npc = .root → s.rootq = true)) := by
  cases h : s.npc <;> simp [npcOk, h] <;> grind

/-- `rel` by cases on the context caller's class -/
theorem rel_iff {l : LPc} {c : CCl} : rel l c = true ↔
    (c = .idleF ∧ (l = .idle ∨ l = .jFin ∨ l = .jTj ∨ l = .jSetJ ∨ l = .jWaitM ∨ l = .jCtx ∨ l = .rRet)) ∨
    (c = .idleT ∧ l ≠ .rRet ∧ l ≠ .fRet ∧ l ≠ .freed) ∨
    (c = .inJ ∧ l = .jCtx) ∨ ((c = .rPre ∨ c = .rPost) ∧ l = .rCtx) ∨ ((c = .fPre ∨ c = .fPost) ∧ l = .fCtx) ∨
    (c = .freed ∧ (l = .fRet ∨ l = .freed)) := by
  cases l <;> simp [rel] <;> grind

theorem inv_ctx {s s' : St} {e : XsCtx.Ev} (hi : Inv s) (hs : step s (.ctx e) = some s') : Inv s' := by
  obtain ⟨hg, c', eff, hc, rfl⟩ := step_ctx.mp hs
  obtain ⟨hr, hN, hC⟩ := tab_step hi.reach hc
  have hn := glue_npc hg hN
  have hl := glue_lpc hg hC
  have hf := facts_of hi
  have hf' := facts_reach hr
  have h := inv_iff.mp hi
  unfold ctxGlue
  generalize gNpc s e = n' at *
  generalize gLpc s e = l' at *
  refine inv_iff.mpr ?_
  grind [npcOk_iff, preOk, endedOk, rel_iff, joinOk, quietOk, reviveOk]

theorem inv_step (s : St) (e : Ev) (s' : St) (hi : Inv s) (hs : step s e = some s') : Inv s' := by
  cases e with
  | ctx e => exact inv_ctx hi hs
  | call op => cases op <;> inv_event s hi hs
  | ret op => cases op <;> inv_event s hi hs
  | jLoadM t | rLoadM t =>
    -- the guard is a test of `t` around a match on `s.lpc`
    have hf := facts_of hi
    have h := inv_iff.mp hi
    simp only [step] at hs
    (split at hs <;> try split at hs <;> try split at hs) <;> simp only [Option.some.injEq, reduceCtorEq] at hs <;>
      subst hs <;> inv_close s
  | _ => inv_event s hi hs

theorem inv_reachable {s : St} (h : machine.Reachable s) : Inv s :=
  Machine.invariant_reachable machine Inv inv_init inv_step s h

theorem inv_run_from (tr : List Ev) (s s' : St) (hi : Inv s) (h : machine.run s tr = some s') : Inv s' :=
  Machine.invariant_run machine Inv inv_step tr s s' hi h

/-! ### what the invariant says in the situations the C17 theorems are about -/

theorem ccl_idleT {c : CPc} : ccl c = .idleT ↔ c = .idle true := by
  cases c <;> simp [ccl]
  case idle b => cases b <;> simp

theorem ccl_idleF {c : CPc} : ccl c = .idleF ↔ c = .idle false := by
  cases c <;> simp [ccl]
  case idle b => cases b <;> simp

/-- between a completed join and the reset of the main scheduler's ULT by the next revive, everything is TERMINATED and
the native thread is parked -/
theorem parked {s : St} (hi : Inv s) (hc : s.x.cpc = .idle true)
    (hl : s.lpc ≠ .rClear ∧ s.lpc ≠ .rPush ∧ s.lpc ≠ .rPub ∧ s.lpc ≠ .rCtx) :
    s.x.st = .waiting ∧ tInWaitLoop s.x = true ∧ s.x.owed = false ∧ s.pub = true ∧ s.mterm = true ∧ s.npc = .out := by
  have hx := reach_joined hi.reach (by simp [cJoined, hc])
  have hn := (facts_of hi).1 (Or.inl (ccl_idleT.mpr hc))
  have he := hi.ended
  have hp := npcOk_iff.mp hi.npc
  grind [endedOk]

/-- stream.c is past a completed context join: that was the last context call -/
theorem joined_of_lpc {s : St} (hi : Inv s) (hl : s.lpc = .jPub ∨ s.lpc = .jRet ∨ s.lpc = .rChk) :
    s.x.cpc = .idle true := by
  have h := rel_iff.mp hi.rel
  exact ccl_idleT.mp (by grind)

theorem quiet_flags {s : St} (hi : Inv s) (hq : s.cause = false) :
    s.fin = false ∧ s.ext = false ∧ s.jreq = false ∧ s.creq = false ∧ s.pub = false ∧ s.mterm = false ∧
    (s.lpc = .idle ∨ s.lpc = .rCtx ∨ s.lpc = .rRet) ∧ (s.npc = .out ∨ s.npc = .root ∨ s.npc = .sched) := by
  have h := hi.quiet
  simp only [quietOk, hq] at h
  grind

/-- nobody has joined / cancelled / exited the stream and no life-cycle call is in progress: the native thread is
inside thread_f in its scheduler loop, or its (re)start is pending and the context caller is idle -/
theorem quiet_idle {s : St} (hi : Inv s) (hq : s.cause = false) (hl : s.lpc = .idle) :
    (s.npc = .sched) ∨ (s.npc = .root ∧ s.rootq = true) ∨
    (s.npc = .out ∧ nph s.x = .pre ∧ s.x.cpc = .idle false ∧ s.rootq = true) := by
  have hf := facts_of hi
  have hq := quiet_flags hi hq
  have hr := rel_iff.mp hi.rel
  have hp := npcOk_iff.mp hi.npc
  have h3 := hi.pre
  have h4 := hi.ended
  cases ha : nph s.x <;> grind [preOk, endedOk, ccl_idleF]

/-! ### progress of the native thread towards the scheduler loop -/

def tdist : TPc → Nat
  | .woken => 3
  | .loop => 2
  | .start => 1
  | .unlock true => 1
  | _ => 0

/-- with an idle, not-joined context caller a pending (re)start is carried out by the thread alone -/
def progB (c : Ctl) : Bool :=
  !(nph c = .pre && c.cpc = .idle false) ||
    [XsCtx.Ev.tau .T, .relock .T, .unlock .T].any fun e =>
      match cstep c e with
      | some (c', _) => c'.cpc = .idle false && (restartEv c e || (nph c' = .pre && tdist c'.tpc < tdist c.tpc))
      | none => false

theorem prog_ok : reach.all progB = true := by decide +kernel

theorem prog_of {c : Ctl} (hc : c ∈ reach) (hn : nph c = .pre) (hi : c.cpc = .idle false) :
    ∃ e c' eff, (e = XsCtx.Ev.tau .T ∨ e = .relock .T ∨ e = .unlock .T) ∧ cstep c e = some (c', eff) ∧
      (restartEv c e = true ∨ (restartEv c e = false ∧ nph c' = .pre ∧ tdist c'.tpc < tdist c.tpc)) := by
  have h := (List.all_eq_true.mp prog_ok) c hc
  simp only [progB, hn, hi, decide_true, Bool.and_self, Bool.not_true, Bool.false_or, List.any_eq_true] at h
  obtain ⟨e, he, hm⟩ := h
  rcases hs : cstep c e with _ | ⟨c', eff⟩ <;> simp only [hs] at hm
  · contradiction
  · exact ⟨e, c', eff, by simpa using he, hs, by grind⟩

/-- a step of the native thread in xstream_context_thread_func, as a step of the stream -/
theorem step_T {s : St} {e : XsCtx.Ev} {c' : Ctl} {eff : Eff}
    (he : e = XsCtx.Ev.tau .T ∨ e = .relock .T ∨ e = .unlock .T) (hs : cstep s.x e = some (c', eff)) :
    isNative (.ctx e) = true ∧
    step s (.ctx e) = some { s with x := c', npc := if restartEv s.x e then .root else s.npc } := by
  rcases he with rfl | rfl | rfl <;> simp [isNative, actorOf, step, ctxGuard, hs, ctxGlue, gNpc, gLpc]

theorem run_cons {s s1 : St} {e : Ev} {n : Nat} (hn : isNative e = true) (h1 : step s e = some s1)
    (h : ∃ tr s', (∀ e ∈ tr, isNative e = true) ∧ machine.run s1 tr = some s' ∧ s'.ran = n) :
    ∃ tr s', (∀ e ∈ tr, isNative e = true) ∧ machine.run s tr = some s' ∧ s'.ran = n := by
  obtain ⟨tr, s', htr, hrun, hran⟩ := h
  have : machine.step s e = some s1 := h1
  exact ⟨e :: tr, s', by simpa [hn] using htr, by simpa only [Machine.run, this] using hrun, hran⟩

/-- the scheduler, in its loop or about to be started by thread_root_func, pops a pending unit -/
theorem run_unit {s : St} (hp : 0 < s.pending)
    (hc : s.npc = .sched ∨ (s.npc = .root ∧ s.rootq = true ∧ s.creq = false)) :
    ∃ tr s', (∀ e ∈ tr, isNative e = true) ∧ machine.run s tr = some s' ∧ s'.ran = s.ran + 1 := by
  rcases hc with hc | ⟨hc, hr, hq⟩
  · refine ⟨[.nRun], ?_⟩
    simp [Machine.run, machine, step, isNative, hc, hp]
  · refine ⟨[.nRoot false, .nRun], ?_⟩
    simp [Machine.run, machine, step, isNative, hc, hr, hq, hp]

theorem native_runs_unit (s : St) (hi : Inv s) (hq : s.cause = false) (hl : s.lpc = .idle) (hp : 0 < s.pending) :
    ∃ tr s', (∀ e ∈ tr, isNative e = true) ∧ machine.run s tr = some s' ∧ s'.ran = s.ran + 1 := by
  have hcq := (quiet_flags hi hq).2.2.2.1
  rcases quiet_idle hi hq hl with hc | ⟨hc, hr⟩ | ⟨hc, hn, hi2, hr⟩
  · exact run_unit hp (Or.inl hc)
  · exact run_unit hp (Or.inr ⟨hc, hr, hcq⟩)
  · -- a step of the thread in its wait loop; it enters thread_f, or is closer to doing so
    obtain ⟨e, c', eff, he, hs, hrr⟩ := prog_of hi.reach hn hi2
    obtain ⟨hnat, hst⟩ := step_T (s := s) he hs
    rcases hrr with hrr | ⟨hrr, hn', hlt⟩ <;> simp only [hrr, if_true, Bool.false_eq_true, if_false] at hst
    · exact run_cons hnat hst (run_unit hp (Or.inr ⟨rfl, hr, hcq⟩))
    · exact run_cons hnat hst (native_runs_unit _ (inv_step _ _ _ hi hst) hq hl hp)
termination_by tdist s.x.tpc
decreasing_by exact hlt

end ArgoVerif.Model.XsLife
