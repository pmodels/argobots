import ArgoVerif.Model.UnitMap
/-
Proofs.UnitMap — the sequential unit→thread table refines a finite map on
distinct non-NULL units; tombstones are reused; chains never shrink.
-/
namespace ArgoVerif.Model.UnitMap

def units (z : UInt64) (c : List Entry) : List UInt64 := (c.filter (fun e => e.unit != z)).map (·.unit)

theorem mem_units (z : UInt64) (c : List Entry) (u : UInt64) : u ∈ units z c ↔ u ≠ z ∧ ∃ e ∈ c, e.unit = u := by
  simp only [units, List.mem_map, List.mem_filter, bne_iff_ne, ne_eq]
  constructor
  · rintro ⟨e, ⟨he, hne⟩, rfl⟩; exact ⟨hne, e, he, rfl⟩
  · rintro ⟨hne, e, he, rfl⟩; exact ⟨e, ⟨he, hne⟩, rfl⟩

theorem units_cons (z : UInt64) (e : Entry) (r : List Entry) :
    units z (e :: r) = if e.unit = z then units z r else e.unit :: units z r := by
  simp only [units, List.filter_cons]
  by_cases h : e.unit = z <;> simp [h]

theorem chainGet_none (z : UInt64) (u : UInt64) (c : List Entry) (hu : u ≠ z) : chainGet u c = none ↔ u ∉ units z c := by
  induction c with
  | nil => simp [chainGet, units]
  | cons e r ih =>
    rw [units_cons z]
    by_cases h : e.unit = u
    · subst h; simp [chainGet, hu]
    · have h' : ¬ u = e.unit := fun x => h x.symm
      simp only [chainGet, h, if_false]
      split <;> simp [ih, h']

variable {z u : UInt64} {th : Nat} {e : Entry} {r c c' : List Entry}

/-! ### reusing a tombstone -/

theorem chainReuse_cons : chainReuse z u th (e :: r) = some c' ↔
    (e.unit = z ∧ c' = ⟨u, th⟩ :: r) ∨ (e.unit ≠ z ∧ ∃ r', chainReuse z u th r = some r' ∧ c' = e :: r') := by
  by_cases he : e.unit = z
  · simp [chainReuse, he, eq_comm]
  · cases hr : chainReuse z u th r <;> simp [chainReuse, he, hr, eq_comm]

theorem chainReuse_none (z : UInt64) (u : UInt64) (th : Nat) (c : List Entry) :
    chainReuse z u th c = none ↔ ∀ e ∈ c, e.unit ≠ z := by
  induction c with
  | nil => simp [chainReuse]
  | cons e r ih =>
    by_cases h : e.unit = z
    · simp [chainReuse, h]
    · simp only [chainReuse, h, if_false, List.mem_cons, forall_eq_or_imp, ne_eq, not_false_eq_true, true_and, ← ih]
      cases chainReuse z u th r <;> simp

theorem chainReuse_length (h : chainReuse z u th c = some c') : c'.length = c.length := by
  induction c generalizing c' with
  | nil => simp [chainReuse] at h
  | cons e r ih =>
    rcases chainReuse_cons.mp h with ⟨_, rfl⟩ | ⟨_, r', hr, rfl⟩
    · rfl
    · simp [ih hr]

theorem chainReuse_units (hu : u ≠ z) (h : chainReuse z u th c = some c') :
    ∀ x, x ∈ units z c' ↔ x = u ∨ x ∈ units z c := by
  induction c generalizing c' with
  | nil => simp [chainReuse] at h
  | cons e r ih =>
    intro x
    rcases chainReuse_cons.mp h with ⟨he, rfl⟩ | ⟨he, r', hr, rfl⟩
    · simp [units_cons, hu, he]
    · simp only [units_cons, he, if_false, List.mem_cons, ih hr x]
      exact or_left_comm

theorem chainReuse_spec (hu : u ≠ z) (hnew : u ∉ units z c) (h : chainReuse z u th c = some c') :
    ((units z c).Nodup → (units z c').Nodup) ∧
    ∀ x, x ≠ z → chainGet x c' = if x = u then some th else chainGet x c := by
  induction c generalizing c' with
  | nil => simp [chainReuse] at h
  | cons e r ih =>
    rw [units_cons] at hnew ⊢
    rcases chainReuse_cons.mp h with ⟨he, rfl⟩ | ⟨he, r', hr, rfl⟩
    · rw [if_pos he] at hnew ⊢
      refine ⟨fun hnd => by simpa [units_cons, hu] using ⟨hnew, hnd⟩, fun x hx => ?_⟩
      simp [chainGet, he, Ne.symm hx, eq_comm]
    · simp only [he, if_false, List.mem_cons, not_or, List.nodup_cons] at hnew ⊢
      obtain ⟨ih1, ih2⟩ := ih hnew.2 hr
      refine ⟨fun hnd => ?_, fun x hx => ?_⟩
      · rw [units_cons, if_neg he, List.nodup_cons, chainReuse_units hu hr]
        exact ⟨fun hx => hx.elim (fun hx => hnew.1 hx.symm) hnd.1, ih1 hnd.2⟩
      · simp only [chainGet, ih2 x hx]
        split
        · next hex => rw [if_neg fun hxu : x = u => hnew.1 (hxu ▸ hex.symm)]
        · rfl

/-! ### leaving a tombstone -/

theorem chainClear_cons : chainClear z u (e :: r) = some c' ↔
    (e.unit = u ∧ c' = { e with unit := z } :: r) ∨ (e.unit ≠ u ∧ ∃ r', chainClear z u r = some r' ∧ c' = e :: r') := by
  by_cases he : e.unit = u
  · simp [chainClear, he, eq_comm]
  · cases hr : chainClear z u r <;> simp [chainClear, he, hr, eq_comm]

theorem chainClear_none (z : UInt64) (u : UInt64) (c : List Entry) (hu : u ≠ z) : chainClear z u c = none ↔ u ∉ units z c := by
  induction c with
  | nil => simp [chainClear, units]
  | cons e r ih =>
    rw [units_cons z]
    by_cases h : e.unit = u
    · subst h; simp [chainClear, hu]
    · have h' : ¬ u = e.unit := fun x => h x.symm
      have hmem : (u ∈ if e.unit = z then units z r else e.unit :: units z r) ↔ u ∈ units z r := by
        by_cases he0 : e.unit = z <;> simp [he0, h']
      rw [hmem, ← ih]
      simp only [chainClear, h, if_false]
      cases hr : chainClear z u r <;> simp

theorem chainClear_length (h : chainClear z u c = some c') : c'.length = c.length := by
  induction c generalizing c' with
  | nil => simp [chainClear] at h
  | cons e r ih =>
    rcases chainClear_cons.mp h with ⟨_, rfl⟩ | ⟨_, r', hr, rfl⟩
    · rfl
    · simp [ih hr]

theorem chainClear_spec (hu : u ≠ z) (hnd : (units z c).Nodup) (h : chainClear z u c = some c') :
    (∀ x, x ∈ units z c' ↔ x ≠ u ∧ x ∈ units z c) ∧ (units z c').Nodup ∧
    ∀ x, x ≠ z → chainGet x c' = if x = u then none else chainGet x c := by
  induction c generalizing c' with
  | nil => simp [chainClear] at h
  | cons e r ih =>
    rw [units_cons] at hnd
    rcases chainClear_cons.mp h with ⟨he, rfl⟩ | ⟨he, r', hr, rfl⟩
    · subst he
      rw [if_neg hu, List.nodup_cons] at hnd
      refine ⟨fun x => ?_, by simpa [units_cons] using hnd.2, fun x hx => ?_⟩
      · simp only [units_cons, if_true, if_neg hu, List.mem_cons]
        exact ⟨fun h => ⟨fun hxu => hnd.1 (hxu ▸ h), Or.inr h⟩, fun h => h.2.resolve_left h.1⟩
      · simp only [chainGet, if_neg (Ne.symm hx)]
        split
        · next hxu => exact (chainGet_none z x r hx).mpr (hxu ▸ hnd.1)
        · next hxu => rw [if_neg (Ne.symm hxu)]
    · have hnd' : (units z r).Nodup := by split at hnd; exact hnd; exact (List.nodup_cons.mp hnd).2
      obtain ⟨ih1, ih2, ih3⟩ := ih hnd' hr
      refine ⟨fun x => ?_, ?_, fun x hx => ?_⟩
      · simp only [units_cons]
        split
        · exact ih1 x
        · simp only [List.mem_cons, ih1 x]
          exact ⟨fun h => h.elim (fun h => ⟨h ▸ he, Or.inl h⟩) fun h => ⟨h.1, Or.inr h.2⟩,
            fun h => h.2.imp_right fun h' => ⟨h.1, h'⟩⟩
      · rw [units_cons]
        split
        · exact ih2
        · next he0 =>
          rw [if_neg he0, List.nodup_cons] at hnd
          exact List.nodup_cons.mpr ⟨fun hx => hnd.1 ((ih1 _).mp hx).2, ih2⟩
      · simp only [chainGet, ih3 x hx]
        split
        · next hex => rw [if_neg fun hxu : x = u => he (hex.trans hxu)]
        · rfl

/-! ### mapping a unit that is already mapped (to the same work unit), then unmapping it once

`ABTI_thread_set_associated_pool`, user pool → other user pool, maps the new unit before it
unmaps the old one; both pools may hand out the same handle (e.g. the `ABT_thread` handle).
The table then holds the unit twice for a moment; the unmap removes the first occurrence. -/

theorem chainRemap_reuse {t : Nat} {c1 c2 : List Entry} (hu : u ≠ z)
    (hnd : (units z c).Nodup) (hg : chainGet u c = some t)
    (h1 : chainReuse z u t c = some c1) (h2 : chainClear z u c1 = some c2) :
    (∀ x, x ≠ z → chainGet x c2 = chainGet x c) ∧ (∀ x, x ∈ units z c2 ↔ x ∈ units z c) ∧
    (units z c2).Nodup ∧ c2.length = c.length := by
  induction c generalizing c1 c2 with
  | nil => simp [chainReuse] at h1
  | cons e r ih =>
    rcases chainReuse_cons.mp h1 with ⟨hez, rfl⟩ | ⟨hez, r1, hr, rfl⟩
    · -- the head is a tombstone: it takes the unit, and is cleared again
      obtain rfl : c2 = ⟨z, t⟩ :: r := by simpa [chainClear] using h2.symm
      refine ⟨fun x hx => ?_, fun x => ?_, ?_, rfl⟩
      · simp [chainGet, hez, Ne.symm hx]
      · simp [units_cons, hez]
      · simpa [units_cons, hez] using hnd
    · rw [units_cons, if_neg hez, List.nodup_cons] at hnd
      rcases chainClear_cons.mp h2 with ⟨heu, rfl⟩ | ⟨heu, r2, hc, rfl⟩
      · -- the old element comes first: it is cleared, the reused tombstone keeps the unit
        have hnr : u ∉ units z r := heu ▸ hnd.1
        have het : e.thr = t := by simpa [chainGet, heu] using hg
        obtain ⟨hn1, hg1⟩ := chainReuse_spec hu hnr hr
        refine ⟨fun x hx => ?_, fun x => ?_, ?_, by simp [chainReuse_length hr]⟩
        · simp only [chainGet, if_neg (Ne.symm hx), hg1 x hx, heu]
          by_cases hxu : x = u
          · simp [hxu, het]
          · simp [hxu, Ne.symm hxu]
        · simp [units_cons, chainReuse_units hu hr x, heu, hu]
        · simpa [units_cons] using hn1 hnd.2
      · have hg' : chainGet u r = some t := by simpa [chainGet, heu] using hg
        obtain ⟨a1, a2, a3, a4⟩ := ih hnd.2 hg' hr hc
        refine ⟨fun x hx => ?_, fun x => ?_, ?_, by simp [a4]⟩
        · simp only [chainGet, a1 x hx]
        · simp only [units_cons, if_neg hez, List.mem_cons, a2 x]
        · rw [units_cons, if_neg hez, List.nodup_cons, a2]; exact ⟨hnd.1, a3⟩

/-! ### table level -/

structure WF (m : UM) : Prop where
  hash_ok : ∀ i u, u ∈ units m.nul (m.b i) → hashIndex m.exp u = i
  nodup : ∀ i, (units m.nul (m.b i)).Nodup

/-- abstraction: the finite map a table represents (NULL is never a key) -/
def absMap (m : UM) (u : UInt64) : Option Nat := if u = m.nul then none else getThread m u

theorem empty_wf (exp : Nat) (z : UInt64) : WF (empty exp z) := by
  constructor <;> simp [empty, units]

theorem absMap_empty (exp : Nat) (z : UInt64) (u : UInt64) : absMap (empty exp z) u = none := by
  simp [absMap, getThread, empty, chainGet]

theorem absMap_none_iff (m : UM) (u : UInt64) (hu : u ≠ m.nul) :
    absMap m u = none ↔ u ∉ units m.nul (m.b (hashIndex m.exp u)) := by
  simp only [absMap, hu, if_false, getThread]; exact chainGet_none m.nul u _ hu

theorem absMap_other_bucket (m : UM) (hw : WF m) (x : UInt64) (hx : x ≠ m.nul) (i : Nat)
    (hi : hashIndex m.exp x ≠ i) : x ∉ units m.nul (m.b i) := fun h => hi (hw.hash_ok i x h)

theorem mapThread_nul (m m' : UM) (u : UInt64) (t : Nat) (mem : Bool) (h : mapThread m u t mem = some m') :
    m'.nul = m.nul := by
  simp only [mapThread] at h
  split at h
  · cases h; rfl
  · split at h
    · cases h; rfl
    · cases h

theorem unmapThread_nul (m m' : UM) (u : UInt64) (h : unmapThread m u = some m') : m'.nul = m.nul := by
  simp only [unmapThread] at h
  split at h
  · cases h; rfl
  · cases h

theorem mapThread_mem (m : UM) (u : UInt64) (t : Nat) : (mapThread m u t true).isSome = true := by
  simp only [mapThread]; split <;> rfl

/-! Every operation replaces the chain of one bucket. -/

variable {m : UM} {i : Nat}

theorem wf_updB (hw : WF m)
    (hmem : ∀ x, x ∈ units m.nul c → x ∈ units m.nul (m.b i) ∨ hashIndex m.exp x = i)
    (hnd : (units m.nul c).Nodup) : WF { m with b := updB m.b i c } := by
  constructor
  · intro j x hx
    simp only [updB] at hx
    split at hx
    · next hj => subst hj; exact (hmem x hx).elim (hw.hash_ok _ x) id
    · exact hw.hash_ok j x hx
  · intro j
    simp only [updB]
    split
    · exact hnd
    · exact hw.nodup j

theorem absMap_updB (m : UM) (i : Nat) (c : List Entry) (x : UInt64) :
    absMap { m with b := updB m.b i c } x =
      if hashIndex m.exp x = i then (if x = m.nul then none else chainGet x c) else absMap m x := by
  simp only [absMap, getThread, updB]
  by_cases h : hashIndex m.exp x = i <;> simp [h]

theorem updB_length (f : Nat → List Entry) (hl : (f i).length ≤ c.length) (j : Nat) :
    (f j).length ≤ (updB f i c j).length := by
  simp only [updB]; split
  · next hj => exact hj ▸ hl
  · exact Nat.le_refl _

theorem updB_updB (f : Nat → List Entry) (c1 c2 : List Entry) : updB (updB f i c1) i c2 = updB f i c2 := by
  funext j; simp only [updB]; split <;> rfl

theorem absMap_replace (hu : u ≠ m.nul) (hi : i = hashIndex m.exp u) {r : Option Nat}
    (hget : ∀ x, x ≠ m.nul → chainGet x c = if x = u then r else chainGet x (m.b i)) (x : UInt64) :
    absMap { m with b := updB m.b i c } x = if x = u then r else absMap m x := by
  rw [absMap_updB]
  by_cases hx : hashIndex m.exp x = i
  · by_cases hx0 : x = m.nul
    · simp [hx0, absMap, Ne.symm hu]
    · simp [hx, hx0, absMap, getThread, hget x hx0]
  · rw [if_neg hx, if_neg fun h => hx (by rw [h, hi])]

/-- `unit_map_thread` on a unit that is not NULL and not mapped -/
theorem map_spec (m : UM) (u : UInt64) (th : Nat) (mem : Bool) (hw : WF m) (hu : u ≠ m.nul)
    (hnew : absMap m u = none) :
    (mem = true → (mapThread m u th mem).isSome = true) ∧
    ∀ m', mapThread m u th mem = some m' →
      WF m' ∧ (m'.exp = m.exp ∧ m'.nul = m.nul) ∧ (∀ x, absMap m' x = if x = u then some th else absMap m x) ∧
      (∀ i, (m.b i).length ≤ (m'.b i).length) ∧
      ((∃ e ∈ m.b (hashIndex m.exp u), e.unit = m.nul) → ∀ i, (m'.b i).length = (m.b i).length) := by
  have hnu := (absMap_none_iff m u hu).mp hnew
  refine ⟨fun h => h ▸ mapThread_mem m u th, fun m' hm => ?_⟩
  simp only [mapThread] at hm
  cases hr : chainReuse m.nul u th (m.b (hashIndex m.exp u)) with
  | some c =>
    rw [hr] at hm; cases hm
    obtain ⟨h1, h2⟩ := chainReuse_spec hu hnu hr
    have hl := chainReuse_length hr
    refine ⟨wf_updB hw (fun x hx => ((chainReuse_units hu hr x).mp hx).symm.imp_right fun h => by rw [h]) (h1 (hw.nodup _)),
      ⟨rfl, rfl⟩, absMap_replace hu rfl h2, updB_length _ (Nat.le_of_eq hl.symm), fun _ j => ?_⟩
    simp only [updB]; split
    · next hj => rw [hl, hj]
    · rfl
  | none =>
    rw [hr] at hm
    cases mem with
    | false => cases hm
    | true =>
      cases hm
      refine ⟨wf_updB hw (fun x hx => ?_) (by simpa [units_cons, hu] using ⟨hnu, hw.nodup _⟩), ⟨rfl, rfl⟩,
        absMap_replace hu rfl fun x hx => by simp [chainGet, eq_comm], updB_length _ (by simp), ?_⟩
      · rw [units_cons, if_neg hu, List.mem_cons] at hx
        exact hx.symm.imp_right fun h => by rw [h]
      rintro ⟨e, he, he0⟩
      exact absurd he0 ((chainReuse_none m.nul u th _).mp hr e he)

/-- `unit_unmap_thread` on a mapped unit -/
theorem unmap_spec (m : UM) (u : UInt64) (hw : WF m) (hu : u ≠ m.nul) (hm : absMap m u ≠ none) :
    ∃ m', unmapThread m u = some m' ∧ WF m' ∧ (m'.exp = m.exp ∧ m'.nul = m.nul) ∧
      (∀ x, absMap m' x = if x = u then none else absMap m x) ∧
      (∀ i, (m'.b i).length = (m.b i).length) := by
  simp only [unmapThread]
  cases hr : chainClear m.nul u (m.b (hashIndex m.exp u)) with
  | none => exact absurd ((absMap_none_iff m u hu).mpr ((chainClear_none m.nul u _ hu).mp hr)) hm
  | some c =>
    obtain ⟨h1, h2, h3⟩ := chainClear_spec hu (hw.nodup _) hr
    refine ⟨_, rfl, wf_updB hw (fun x hx => Or.inl ((h1 x).mp hx).2) h2, ⟨rfl, rfl⟩, absMap_replace hu rfl h3, fun j => ?_⟩
    simp only [updB]; split
    · next hj => rw [chainClear_length hr, hj]
    · rfl

/-- the map fails only for lack of memory (no tombstone in the bucket and `malloc` fails) -/
theorem remap_spec (m : UM) (u : UInt64) (t : Nat) (mem : Bool) (hw : WF m) (hu : u ≠ m.nul)
    (hm : absMap m u = some t) :
    (mem = true → (mapThread m u t mem).isSome = true) ∧
    ∀ m1, mapThread m u t mem = some m1 →
      ∃ m2, unmapThread m1 u = some m2 ∧ WF m2 ∧ (m2.exp = m.exp ∧ m2.nul = m.nul) ∧
        (∀ x, absMap m2 x = absMap m x) ∧ (∀ i, (m.b i).length ≤ (m2.b i).length) := by
  have hg : chainGet u (m.b (hashIndex m.exp u)) = some t := by simpa [absMap, hu, getThread] using hm
  have key : ∀ c2, (∀ x, x ≠ m.nul → chainGet x c2 = chainGet x (m.b (hashIndex m.exp u))) →
      (∀ x, x ∈ units m.nul c2 ↔ x ∈ units m.nul (m.b (hashIndex m.exp u))) → (units m.nul c2).Nodup →
      (m.b (hashIndex m.exp u)).length ≤ c2.length →
      WF { m with b := updB m.b (hashIndex m.exp u) c2 } ∧ (m.exp = m.exp ∧ m.nul = m.nul) ∧
      (∀ x, absMap { m with b := updB m.b (hashIndex m.exp u) c2 } x = absMap m x) ∧
      ∀ i, (m.b i).length ≤ (updB m.b (hashIndex m.exp u) c2 i).length := by
    intro c2 a1 a2 a3 a4
    refine ⟨wf_updB hw (fun x hx => Or.inl ((a2 x).mp hx)) a3, ⟨rfl, rfl⟩, fun x => ?_, updB_length _ a4⟩
    rw [absMap_updB]
    split
    · next hx => simp only [absMap, getThread, hx]; split; rfl; exact a1 x ‹_›
    · rfl
  refine ⟨fun h => h ▸ mapThread_mem m u t, fun m1 h1 => ?_⟩
  simp only [mapThread] at h1
  cases hr : chainReuse m.nul u t (m.b (hashIndex m.exp u)) with
  | some c1 =>
    rw [hr] at h1; cases h1
    simp only [unmapThread, updB, if_true]
    cases hc : chainClear m.nul u c1 with
    | none =>
      exact absurd ((chainReuse_units hu hr u).mpr (Or.inl rfl)) ((chainClear_none m.nul u c1 hu).mp hc)
    | some c2 =>
      obtain ⟨a1, a2, a3, a4⟩ := chainRemap_reuse hu (hw.nodup _) hg hr hc
      refine ⟨_, rfl, ?_⟩
      rw [updB_updB]; exact key c2 a1 a2 a3 (Nat.le_of_eq a4.symm)
  | none =>
    rw [hr] at h1
    cases mem with
    | false => cases h1
    | true =>
      cases h1
      simp only [unmapThread, updB, if_true, chainClear]
      refine ⟨_, rfl, ?_⟩
      rw [updB_updB]
      refine key _ (fun x hx => ?_) (fun x => ?_) ?_ (by simp)
      · simp [chainGet, Ne.symm hx]
      · simp [units_cons]
      · simpa [units_cons] using hw.nodup _

end ArgoVerif.Model.UnitMap
