import ArgoVerif.Model.PopWait
/- Proofs.PopWait — the shared state of the blocking-pop model: the structural invariant (lock, `is_empty` flag,
condition variable), conservation of units, and "no lost wake-up" for FIFO_WAIT. -/
namespace ArgoVerif.Model.PopWait
open ArgoVerif

/-! ## the abstract pop -/

theorem takeFrom_split {q : List Nat} {tl : Bool} {x : Nat} {rest : List Nat} (h : takeFrom q tl = some (x, rest)) :
    q = x :: rest ∨ q = rest ++ [x] := by
  unfold takeFrom at h
  cases tl with
  | false => cases q <;> simp_all
  | true =>
    cases hq : q.getLast? with
    | none => simp [hq] at h
    | some y =>
      obtain ⟨ys, rfl⟩ := List.getLast?_eq_some_iff.mp hq
      simp_all

theorem takeFrom_some {q : List Nat} {tl : Bool} {x : Nat} {rest : List Nat} (h : takeFrom q tl = some (x, rest)) :
    q ≠ [] ∧ rest.length + 1 = q.length ∧ (∀ u, q.count u = rest.count u + [x].count u) := by
  rcases takeFrom_split h with rfl | rfl <;> simp [List.count_cons, List.count_append]

theorem takeFrom_none {q : List Nat} {tl : Bool} (h : takeFrom q tl = none) : q = [] := by
  unfold takeFrom at h
  cases tl with
  | false => cases q <;> simp_all
  | true =>
    cases hq : q.getLast? with
    | none => simpa using hq
    | some y => simp [hq] at h

theorem takeFrom_rest_nil {q : List Nat} {tl : Bool} {x : Nat} {rest : List Nat} (h : takeFrom q tl = some (x, rest)) :
    rest = [] ↔ q.length = 1 := by
  rcases takeFrom_split h with rfl | rfl <;> simp

theorem take_cases (s s' : St) (a : Actor) (r : Option Nat) (hs : stepTake s a r = some s') :
    ∃ p, (s.pc a = .aCs ∧ p = .aRel ∨ s.pc a = .fnCs ∧ p = .fnUnl ∨ s.pc a = .fwCs ∧ p = .fwUnl) ∧
      ((takeFrom s.q (tailOf (s.cur a)) = none ∧ r = none ∧
          s' = setPc { s with got := upd s.got a none, emptyAtPoll := upd s.emptyAtPoll a true, woken := s.woken.erase a } a p) ∨
       (∃ x rest, takeFrom s.q (tailOf (s.cur a)) = some (x, rest) ∧ r = some x ∧
          s' = setPc { s with q := rest, flag := if rest = [] then true else s.flag, taken := s.taken ++ [x],
                              got := upd s.got a (some x), woken := s.woken.erase a } a p)) := by
  simp only [stepTake] at hs
  split at hs
  · cases hs
  · rename_i p hp
    refine ⟨p, by split at hp <;> simp_all, ?_⟩
    split at hs <;> split at hs
    · exact Or.inl ⟨‹_›, ‹_›, (Option.some.inj hs).symm⟩
    · cases hs
    · exact Or.inr ⟨_, _, ‹_›, ‹_›, (Option.some.inj hs).symm⟩
    · cases hs

theorem link_cases {s s' : St} {a : Actor} (hs : stepLink s a = some s') :
    ∃ u p, (s.pc a = .psCs ∧ p = .psRel ∨ s.pc a = .fpCs ∧ p = .fpSig) ∧ s' = setPc (linkQ s u) a p := by
  unfold stepLink at hs
  split at hs <;> cases hs
  · exact ⟨_, _, Or.inl ⟨‹_›, rfl⟩, rfl⟩
  · exact ⟨_, _, Or.inr ⟨‹_›, rfl⟩, rfl⟩

/-- a step is a step of the relation without the counter, followed by the count -/
theorem step_some {k : Kind} {s s' : St} {e : Ev} (hs : step k s e = some s') :
    ∃ s1, step0 k s e = some s1 ∧ s' = bump s1 (actorOf e) := by
  obtain ⟨s1, h0, rfl⟩ := Option.map_eq_some_iff.mp hs
  exact ⟨s1, h0, rfl⟩

/-! ## the structural invariant -/

/-- program counters at which the actor holds the spinlock / the mutex -/
def HasLock : Pc → Prop
  | .psCs | .psRel | .aCs | .aRel | .fpCs | .fpSig | .fpUnl | .fnCs | .fnUnl
  | .fwCheck | .fwClock | .fwWait | .fwCs | .fwUnl => True
  | _ => False

def PollPc : Pc → Prop
  | .psAcq | .psSpin | .psCs | .psRel | .aTop | .aTry | .aSpinE | .aSpinL | .aCs | .aRel
  | .wTime | .wSleep | .tSleep | .tTime => True
  | _ => False

def FwPc : Pc → Prop
  | .fpLock | .fpCs | .fpSig | .fpUnl | .fnCheck | .fnLock | .fnCs | .fnUnl
  | .fwLock | .fwCheck | .fwClock | .fwWait | .fwSleep | .fwRelock | .fwCs | .fwUnl => True
  | _ => False

structure InvA (k : Kind) (s : St) : Prop where
  flagIff : s.flag = true ↔ s.q = []
  ownerIff : ∀ a, s.owner = some a ↔ HasLock (s.pc a)
  lockBool : s.lock = true ↔ s.owner ≠ none
  kindP : k = .poll → ∀ a, ¬ FwPc (s.pc a)
  kindF : k = .fwait → ∀ a, ¬ PollPc (s.pc a)
  waitIff : ∀ a, a ∈ s.waiters ↔ s.pc a = .fwSleep
  waitNodup : s.waiters.Nodup
  wokenPc : ∀ a, a ∈ s.woken → s.pc a = .fwRelock ∨ s.pc a = .fwCs
  wokenNodup : s.woken.Nodup
  sawEmpty : ∀ a, (s.pc a = .fwClock ∨ s.pc a = .fwWait) → s.q = []

theorem owner_unique {k : Kind} {s : St} (h : InvA k s) {a b : Actor} (ha : HasLock (s.pc a)) (hb : HasLock (s.pc b)) :
    b = a := by
  have := (h.ownerIff a).mpr ha; rw [(h.ownerIff b).mpr hb] at this; exact Option.some.inj this

/-- the new program counter stays on the pool kind's side of the program -/
def Side (old p : Pc) : Prop :=
  (PollPc old → ¬ FwPc p) ∧ (FwPc old → ¬ PollPc p) ∧ (¬ PollPc old → ¬ FwPc old → ¬ PollPc p ∧ ¬ FwPc p)

theorem side_kind {k : Kind} {s : St} (h : InvA k s) {a : Actor} {p : Pc} (hs : Side (s.pc a) p) :
    (k = .poll → ¬ FwPc p) ∧ (k = .fwait → ¬ PollPc p) := by
  have hP := fun e => h.kindP e a
  have hF := fun e => h.kindF e a
  by_cases hp : PollPc (s.pc a) <;> by_cases hf : FwPc (s.pc a) <;> cases k <;> simp_all [Side]

def LockOk (s : St) : Prop := (∀ a, s.owner = some a ↔ HasLock (s.pc a)) ∧ (s.lock = true ↔ s.owner ≠ none)

theorem lock_keep {k : Kind} {s s' : St} {a : Actor} {p : Pc} (h : InvA k s) (hl : s'.lock = s.lock) (ho : s'.owner = s.owner)
    (hp : s'.pc = upd s.pc a p) (h1 : HasLock p ↔ HasLock (s.pc a)) : LockOk s' := by
  refine ⟨fun b => ?_, by rw [hl, ho]; exact h.lockBool⟩
  rw [ho, hp, h.ownerIff b]; by_cases hb : b = a <;> simp [upd, hb, h1]

theorem lock_take {k : Kind} {s s' : St} {a : Actor} {p : Pc} (h : InvA k s) (hfree : s.lock = false) (hl : s'.lock = true)
    (ho : s'.owner = some a) (hp : s'.pc = upd s.pc a p) (h1 : HasLock p) : LockOk s' := by
  have hnone : s.owner = none := by have := h.lockBool; cases ho' : s.owner <;> simp_all
  refine ⟨fun b => ?_, by simp [hl, ho]⟩
  have := h.ownerIff b
  rw [ho, hp]; by_cases hb : b = a
  · simp [upd, hb, h1]
  · simpa [upd, hb, Ne.symm hb, hnone] using this

theorem lock_drop {k : Kind} {s s' : St} {a : Actor} {p : Pc} (h : InvA k s) (hown : HasLock (s.pc a)) (hl : s'.lock = false)
    (ho : s'.owner = none) (hp : s'.pc = upd s.pc a p) (h1 : ¬ HasLock p) : LockOk s' := by
  refine ⟨fun b => ?_, by simp [hl, ho]⟩
  rw [ho, hp]; by_cases hb : b = a
  · simp [upd, hb, h1]
  · simpa [upd, hb] using fun hb' => hb (owner_unique h hown hb')

/-- **locality**: a step of `a` to `p` that leaves the queue alone and changes the condition variable's two lists at most
in `a` keeps every clause about the other actors; what remains to be shown are the clauses about `a` at `p` -/
theorem invA_local {k : Kind} {s s' : St} {a : Actor} {p : Pc} (h : InvA k s) (hq : s'.q = s.q) (hf : s'.flag = s.flag)
    (hp : s'.pc = upd s.pc a p) (hside : Side (s.pc a) p ∨ ((k = .poll → ¬ FwPc p) ∧ (k = .fwait → ¬ PollPc p)))
    (hw : ∀ b, b ∈ s'.waiters ↔ if b = a then p = .fwSleep else b ∈ s.waiters) (hwn : s'.waiters.Nodup)
    (hk : ∀ b, b ∈ s'.woken → if b = a then p = .fwRelock ∨ p = .fwCs else b ∈ s.woken) (hkn : s'.woken.Nodup)
    (he : (p = .fwClock ∨ p = .fwWait) → s.q = []) (hl : LockOk s') : InvA k s' := by
  have hkind := hside.elim (side_kind h) id
  have other : ∀ b, b ≠ a → s'.pc b = s.pc b := fun b hb => by rw [hp]; simp [upd, hb]
  have self : s'.pc a = p := by rw [hp]; simp [upd]
  refine ⟨by rw [hf, hq]; exact h.flagIff, hl.1, hl.2, fun e b => ?_, fun e b => ?_, fun b => ?_, hwn, fun b hb => ?_, hkn,
    fun b hb => ?_⟩ <;> by_cases hba : b = a
  · subst hba; rw [self]; exact hkind.1 e
  · rw [other b hba]; exact h.kindP e b
  · subst hba; rw [self]; exact hkind.2 e
  · rw [other b hba]; exact h.kindF e b
  · subst hba; rw [self, hw]; simp
  · rw [other b hba, hw]; simpa [hba] using h.waitIff b
  · subst hba; rw [self]; simpa using hk b hb
  · rw [other b hba]; exact h.wokenPc b (by simpa [hba] using hk b hb)
  · subst hba; rw [hq]; exact he (self ▸ hb)
  · rw [hq]; exact h.sawEmpty b (other b hba ▸ hb)

/-- what a step of actor `a` to program counter `p` that leaves the condition variable alone must respect: the pool
kind's side (a call enters it from `idle`), the positions of a signalled consumer, that the wait is prepared only with
the queue seen empty, and that the sleep is neither entered nor left -/
def Moves (k : Kind) (s : St) (a : Actor) (p : Pc) : Prop :=
  (Side (s.pc a) p ∨ ((k = .poll → ¬ FwPc p) ∧ (k = .fwait → ¬ PollPc p))) ∧
  ((s.pc a = .fwRelock ∨ s.pc a = .fwCs) → a ∈ s.woken → p = .fwRelock ∨ p = .fwCs) ∧
  ((p = .fwClock ∨ p = .fwWait) → s.q = []) ∧ (p = .fwSleep ↔ s.pc a = .fwSleep)

/-- the part of the state the program counters are related to, apart from the lock; the ledgers -/
def shared (s : St) := (s.q, s.flag, s.waiters, s.woken, s.pushed, s.taken)

theorem invA_move {k : Kind} {s s' : St} {a : Actor} {p : Pc} (h : InvA k s) (hc : shared s' = shared s) (hp : s'.pc = upd s.pc a p)
    (hm : Moves k s a p) (hl : LockOk s') : InvA k s' := by
  obtain ⟨hq, hf, hw, hk, -, -⟩ : s'.q = s.q ∧ s'.flag = s.flag ∧ s'.waiters = s.waiters ∧ s'.woken = s.woken ∧ _ ∧ _ := by
    simpa [shared] using hc
  refine invA_local h hq hf hp hm.1 (fun b => ?_) (hw ▸ h.waitNodup) (fun b hb => ?_) (hk ▸ h.wokenNodup) hm.2.2.1 hl
  · rw [hw]; split
    · subst b; rw [h.waitIff, hm.2.2.2]
    · rfl
  · rw [hk] at hb; split
    · subst b; exact hm.2.1 (h.wokenPc a hb) hb
    · exact hb

/-- a step leaves queue, condition variable and ledgers alone, and no pusher skips its signal while somebody sleeps -/
def Frame (s s' : St) : Prop := shared s' = shared s ∧ ∀ b, s.pc b = .fpSig → s'.pc b = .fpSig ∨ s.waiters = []

/-- `hsig`: if the move is a pusher's signal, nobody sleeps -/
theorem invA_frame {k : Kind} {s s' : St} {a : Actor} {p : Pc} (h : InvA k s) (hc : shared s' = shared s)
    (hp : s'.pc = upd s.pc a p) (hm : Moves k s a p) (hsig : s.pc a = .fpSig → s.waiters = []) (hl : LockOk s') :
    InvA k s' ∧ Frame s s' := by
  refine ⟨invA_move h hc hp hm hl, hc, fun b hb => ?_⟩
  rw [hp]; by_cases hba : b = a
  · subst hba; exact Or.inr (hsig hb)
  · exact Or.inl (by simpa [upd, hba] using hb)

attribute [local simp] Moves Side HasLock PollPc FwPc

/-- the events that leave the queue, the ledgers and the condition variable alone -/
def Quiet : Ev → Prop
  | .link _ | .take _ _ | .condWait _ _ | .signal _ (some _) | .timeout _ | .spurious _ => False
  | _ => True

/-- a quiet step is a move of the acting actor's program counter, with or without the lock changing hands -/
theorem step0_quiet {k : Kind} {s s' : St} {e : Ev} (h : InvA k s) (hs : step0 k s e = some s') (hq : Quiet e) :
    InvA k s' ∧ Frame s s' := by
  cases e with
  | link a | take a r | condWait a d | timeout a | spurious a => exact hq.elim
  | call a c =>
    simp only [step0, stepCall] at hs
    split at hs <;> cases hs
    cases k <;> cases c <;> exact invA_frame h rfl rfl (by simp_all) (by simp_all) (lock_keep h rfl rfl rfl (by simp_all))
  | advance v =>
    simp only [step0, stepAdvance] at hs
    split at hs <;> cases hs
    exact ⟨{ h with }, rfl, fun b hb => Or.inl hb⟩
  | tas a o =>
    simp only [step0, stepTas] at hs
    split at hs
    · cases hs
    · rename_i ho
      have ho : s.lock = o := by simpa [eq_comm] using ho
      cases o
      · split at hs <;> rename_i hpc <;> cases hs <;>
          exact invA_frame h rfl rfl (by simp [hpc]) (by simp [hpc]) (lock_take h ho rfl rfl rfl (by simp))
      · split at hs <;> rename_i hpc <;> cases hs <;>
          exact invA_frame h rfl rfl (by simp [hpc]) (by simp [hpc]) (lock_keep h rfl rfl rfl (by simp [hpc]))
  | loadEmpty a v =>
    simp only [step0, stepLoadEmpty, afterEmpty] at hs
    split at hs
    · cases hs
    · rename_i hv
      -- a load of `is_empty = 1` happens while the queue is empty
      have hq : v = true → s.q = [] := fun e => h.flagIff.mp (by simpa [e] using hv)
      (repeat' (split at hs)) <;> cases hs <;>
        exact invA_frame h rfl rfl (by simp_all) (by simp_all) (lock_keep h rfl rfl rfl (by simp_all))
  | ret a r | loadLock a v | clock a v | sleepDone a =>
    -- between two positions of the same lock status; the wait is prepared with the queue seen empty
    simp only [step0, stepRet, stepLoadLock, stepClock, stepSleepDone] at hs
    have hq := h.sawEmpty a
    (repeat' (split at hs)) <;> cases hs <;>
      exact invA_frame h rfl rfl (by simp_all) (by simp_all) (lock_keep h rfl rfl rfl (by simp_all))
  | mlock a =>
    simp only [step0, stepMlock] at hs
    (repeat' (split at hs)) <;> cases hs <;>
      exact invA_frame h rfl rfl (by simp_all) (by simp_all) (lock_take h (by simp_all) rfl rfl rfl (by simp))
  | clear a | munlock a =>
    simp only [step0, stepClear, stepMunlock, afterEmpty] at hs
    (repeat' (split at hs)) <;> cases hs <;>
      exact invA_frame h rfl rfl (by simp_all) (by simp_all) (lock_drop h (by simp_all) rfl rfl rfl (by simp))
  | signal a w =>
    cases w with
    | some w => exact hq.elim
    | none =>
      simp only [step0, stepSignal] at hs
      (repeat' (split at hs)) <;> cases hs
      exact invA_frame h rfl rfl (by simp_all) (by simp_all) (lock_keep h rfl rfl rfl (by simp_all))

/-! ### the steps that change the queue or the condition variable -/

/-- a ghost update: the signalled consumer `a` is about to look at the queue -/
theorem invA_unwoken {k : Kind} {s : St} (h : InvA k s) (a : Actor) : InvA k { s with woken := s.woken.erase a } :=
  { h with wokenPc := fun b hb => h.wokenPc b (List.mem_of_mem_erase hb), wokenNodup := h.wokenNodup.erase a }

/-- the lock holder changes the queue, keeping the `is_empty` flag right: nobody else is between the emptiness check
and the wait -/
theorem invA_setQ {k : Kind} {s : St} {a : Actor} (h : InvA k s) (ha : HasLock (s.pc a))
    (hna : s.pc a ≠ .fwClock ∧ s.pc a ≠ .fwWait) {q : List Nat} {f : Bool} (hfl : f = true ↔ q = []) (pu tk : List Nat) :
    InvA k { s with q := q, flag := f, pushed := pu, taken := tk } :=
  { h with
    flagIff := hfl
    sawEmpty := fun b hb => by
      have : b = a := owner_unique h ha (by rcases hb with e | e <;> simp [show s.pc b = _ from e])
      subst this; exact (hb.elim hna.1 hna.2).elim }

theorem nodup_concat {l : List Actor} {a : Actor} (h : l.Nodup) (ha : a ∉ l) : (l ++ [a]).Nodup := by
  refine List.nodup_append.mpr ⟨h, by simp, ?_⟩
  simpa using fun b hb (e : b = a) => ha (e ▸ hb)

/-- the waiter releases the mutex and joins the sleepers in one step -/
theorem invA_sleep {k : Kind} {s : St} {a : Actor} (h : InvA k s) (hpc : s.pc a = .fwWait) {wake : Actor → Nat} :
    InvA k (dropL { s with wake := wake, waiters := s.waiters ++ [a] } a .fwSleep) := by
  have hnw : a ∉ s.waiters := by rw [h.waitIff, hpc]; simp
  refine invA_local (a := a) (p := .fwSleep) h rfl rfl rfl (by simp [hpc])
    (fun b => by by_cases hb : b = a <;> simp [dropL, setPc, hb, hnw]) (nodup_concat h.waitNodup hnw)
    (fun b hb => ?_) h.wokenNodup (by simp) (lock_drop h (by simp [hpc]) rfl rfl rfl (by simp))
  split
  · subst b; have := h.wokenPc a hb; simp [hpc] at this
  · exact hb

/-- a sleeper leaves the condition variable: on its own (deadline passed, or spuriously; `wk` is `woken`), or
signalled (`wk` is `woken` with the sleeper added) -/
theorem invA_wake {k : Kind} {s : St} {w : Actor} {wk : List Actor} (h : InvA k s) (hpc : s.pc w = .fwSleep)
    (hwk : wk = s.woken ∨ wk = s.woken ++ [w]) :
    InvA k (setPc { s with waiters := s.waiters.erase w, woken := wk } w .fwRelock) := by
  have hnw : w ∉ s.woken := fun hm => by have := h.wokenPc w hm; simp [hpc] at this
  refine invA_local (a := w) (p := .fwRelock) h rfl rfl rfl (by simp [hpc])
    (fun b => by by_cases hb : b = w <;> simp [setPc, hb, h.waitNodup.mem_erase_iff]) (h.waitNodup.erase w)
    (fun b hb => ?_) ?_ (by simp) (lock_keep h rfl rfl rfl (by simp [hpc]))
  · split
    · exact Or.inl rfl
    · rcases hwk with rfl | rfl <;> simp_all [setPc]
  · rcases hwk with rfl | rfl
    · exact h.wokenNodup
    · exact nodup_concat h.wokenNodup hnw

/-! ## conservation of units -/

/-- every unit ever linked is still queued or was unlinked by a pop, with multiplicity -/
def InvB (s : St) : Prop := ∀ u, s.pushed.count u = s.q.count u + s.taken.count u

/-! ## FIFO_WAIT: no lost wake-up -/

/-- 1 while the mutex holder is a pusher that has linked its unit and not yet signalled -/
def pendSig (s : St) : Nat :=
  match s.owner with
  | some a => if s.pc a = .fpSig then 1 else 0
  | none => 0

/-- while an un-signalled consumer sleeps on the condition variable, every queued unit has a wake-up in flight -/
def InvF (s : St) : Prop := s.waiters ≠ [] → s.q.length ≤ s.woken.length + pendSig s

theorem pendSig_le (s : St) : pendSig s ≤ 1 := by
  unfold pendSig; split <;> (try split) <;> omega

theorem pendSig_iff {k : Kind} {s : St} (h : InvA k s) : pendSig s = 1 ↔ ∃ a, s.pc a = .fpSig := by
  unfold pendSig
  refine ⟨fun hp => ?_, fun ⟨a, ha⟩ => by simp [(h.ownerIff a).mpr (by simp [ha]), ha]⟩
  split at hp
  · exact ⟨_, by simpa using hp⟩
  · cases hp

theorem pendSig_mono {k : Kind} {s s' : St} (h : InvA k s) (h' : InvA k s') (hf : ∀ b, s.pc b = .fpSig → s'.pc b = .fpSig) :
    pendSig s ≤ pendSig s' := by
  have := pendSig_le s
  by_cases h1 : pendSig s = 1
  · obtain ⟨b, hb⟩ := (pendSig_iff h).mp h1
    rw [h1, (pendSig_iff h').mpr ⟨b, hf b hb⟩]; exact Nat.le_refl 1
  · omega

theorem waiters_nil_of_poll {k : Kind} {s : St} (h : InvA k s) {a : Actor} (hp : PollPc (s.pc a)) : s.waiters = [] :=
  List.eq_nil_iff_forall_not_mem.mpr fun b hb => by
    cases k
    · exact h.kindP rfl b (by simp [(h.waitIff b).mp hb])
    · exact h.kindF rfl a hp

/-! ## all three together -/

def InvS (k : Kind) (s : St) : Prop := InvA k s ∧ InvB s ∧ InvF s

theorem invS_quiet {k : Kind} {s s' : St} (h : InvS k s) (hq : InvA k s' ∧ Frame s s') : InvS k s' := by
  obtain ⟨hA, hB, hF⟩ := h
  obtain ⟨hp, -, hw, hk, hc, ht⟩ :
      s'.q = s.q ∧ _ ∧ s'.waiters = s.waiters ∧ s'.woken = s.woken ∧ s'.pushed = s.pushed ∧ s'.taken = s.taken := by
    simpa [shared] using hq.2.1
  refine ⟨hq.1, fun u => by rw [hp, hc, ht]; exact hB u, fun hne => ?_⟩
  rw [hw] at hne
  have := pendSig_mono hA hq.1 fun b hb => (hq.2.2 b hb).resolve_right hne
  rw [hp, hk]; exact Nat.le_trans (hF hne) (Nat.add_le_add_left this _)

theorem invS_step0 {k : Kind} {s s' : St} {e : Ev} (h : InvS k s) (hs : step0 k s e = some s') : InvS k s' := by
  obtain ⟨hA, hB, hF⟩ := h
  cases e with
  | link a =>
    obtain ⟨u, p, hp, rfl⟩ := link_cases hs
    obtain ⟨hown, hnf, hlp, hnw, hm⟩ :
        HasLock (s.pc a) ∧ s.pc a ≠ .fpSig ∧ HasLock p ∧ (p ≠ .fwClock ∧ p ≠ .fwWait) ∧ Moves k s a p := by
      rcases hp with ⟨e, rfl⟩ | ⟨e, rfl⟩ <;> simp [e]
    have h0 : pendSig s = 0 := by simp [pendSig, (hA.ownerIff a).mpr hown, hnf]
    have hA' : InvA k (setPc (linkQ s u) a p) :=
      invA_setQ (s := setPc s a p) (a := a) (invA_move hA rfl rfl hm (lock_keep hA rfl rfl rfl (iff_of_true hlp hown)))
        (by simpa only [setPc, upd_same] using hlp) (by simpa only [setPc, upd_same] using hnw) (by simp [linkQ]) _ _
    refine ⟨hA', fun v => ?_, fun hw => ?_⟩
    · have := hB v
      simp only [setPc, linkQ, List.count_append]; omega
    · have := hF hw
      rcases hp with ⟨e, rfl⟩ | ⟨e, rfl⟩
      · exact absurd (waiters_nil_of_poll hA (a := a) (by simp [e])) hw
      · have h1 : pendSig (setPc (linkQ s u) a .fpSig) = 1 := (pendSig_iff hA').mpr ⟨a, by simp [setPc]⟩
        rw [h1]; simp only [setPc, linkQ, List.length_append, List.length_singleton]; omega
  | take a r =>
    obtain ⟨p, hp, hcase⟩ := take_cases s s' a r hs
    have hne : a ∉ s.woken.erase a := fun hm => ((List.Nodup.mem_erase_iff hA.wokenNodup).mp hm).1 rfl
    obtain ⟨hown, hnf, hlp, hnw, hm⟩ : HasLock (s.pc a) ∧ s.pc a ≠ .fpSig ∧ HasLock p ∧ (p ≠ .fwClock ∧ p ≠ .fwWait) ∧
        Moves k { s with woken := s.woken.erase a } a p := by
      rcases hp with ⟨e, rfl⟩ | ⟨e, rfl⟩ | ⟨e, rfl⟩ <;> simp [e, hne]
    have h0 : pendSig s = 0 := by simp [pendSig, (hA.ownerIff a).mpr hown, hnf]
    -- the `woken` ghost is cleared, the program counter moves on under the lock, then queue and flag change together
    have h2 : ∀ g ep, InvA k (setPc { s with got := g, emptyAtPoll := ep, woken := s.woken.erase a } a p) := fun g ep =>
      invA_move (invA_unwoken hA a) rfl rfl hm (lock_keep (invA_unwoken hA a) rfl rfl rfl (iff_of_true hlp hown))
    rcases hcase with ⟨htf, _, rfl⟩ | ⟨x, rest, htf, _, rfl⟩
    · exact ⟨h2 _ _, hB, fun _ => by simp [setPc, takeFrom_none htf]⟩
    · obtain ⟨hq, hlen, hcount⟩ := takeFrom_some htf
      refine ⟨invA_setQ (a := a) (h2 (upd s.got a (some x)) s.emptyAtPoll) (by simpa only [setPc, upd_same] using hlp)
        (by simpa only [setPc, upd_same] using hnw) ?_ _ _, fun v => ?_, fun hw => ?_⟩
      · have : s.flag = false := by simpa using mt hA.flagIff.mp hq
        by_cases hr : rest = [] <;> simp [hr, this]
      · have := hB v; have := hcount v
        simp only [setPc, List.count_append]
        omega
      · have := hF hw
        have : s.woken.length ≤ (s.woken.erase a).length + 1 := by rw [List.length_erase]; split <;> omega
        simp only [setPc]; omega
  | condWait a dl =>
    simp only [step0, stepCondWait] at hs
    split at hs <;> cases hs
    rename_i hg
    -- a consumer goes to sleep only with the queue seen empty
    exact ⟨invA_sleep hA hg.1, hB, fun _ => by simp [dropL, setPc, hA.sawEmpty a (Or.inr hg.1)]⟩
  | timeout a | spurious a =>
    simp only [step0, stepTimeout, stepSpurious] at hs
    split at hs <;> cases hs
    rename_i hg
    have hpc : s.pc a = .fwSleep := by simp [hg]
    have hA' := invA_wake hA hpc (Or.inl rfl)
    -- a sleeper that leaves on its own changes neither the queue nor the wake-ups in flight
    refine ⟨hA', hB, fun hw => ?_⟩
    have hne : s.waiters ≠ [] := fun e => by simp [setPc, e] at hw
    have := pendSig_mono hA hA' fun b hb => by
      have : b ≠ a := fun e => by simp [e, hpc] at hb
      simpa [setPc, upd, this] using hb
    exact Nat.le_trans (hF hne) (Nat.add_le_add_left this _)
  | signal a w =>
    cases w with
    | none => exact invS_quiet ⟨hA, hB, hF⟩ (step0_quiet hA hs trivial)
    | some w =>
      simp only [step0, stepSignal] at hs
      split at hs
      · cases hs
      · rename_i hpc
        have hpc : s.pc a = .fpSig := by simpa using hpc
        split at hs <;> cases hs
        rename_i hw
        -- the signaller moves the chosen sleeper, then itself
        have hpw : s.pc w = .fwSleep := (hA.waitIff w).mp hw
        have hwa : a ≠ w := fun e => by subst e; rw [hpc] at hpw; cases hpw
        have hpc' : (upd s.pc w Pc.fwRelock) a = .fpSig := by simpa [upd, hwa] using hpc
        have h1 := invA_wake hA hpw (Or.inr rfl)
        refine ⟨invA_move h1 rfl rfl (by simp [setPc, hpc']) (lock_keep h1 rfl rfl rfl (by simp [setPc, hpc'])), hB, fun _ => ?_⟩
        have := hF (List.ne_nil_of_mem hw)
        rw [(pendSig_iff hA).mpr ⟨a, hpc⟩] at this
        simp only [setPc, List.length_append, List.length_singleton]; omega
  | _ => exact invS_quiet ⟨hA, hB, hF⟩ (step0_quiet hA hs trivial)

theorem invS_step {k : Kind} {s s' : St} {e : Ev} (h : InvS k s) (hs : step k s e = some s') : InvS k s' := by
  obtain ⟨s1, h0, rfl⟩ := step_some hs
  have := invS_step0 h h0
  cases actorOf e
  · exact this
  · exact ⟨{ this.1 with }, this.2⟩

theorem invS_init (k : Kind) : InvS k init :=
  ⟨by constructor <;> simp [init], fun u => by simp [init], fun h => by simp [init] at h⟩

theorem invS_reachable (k : Kind) (s : St) (h : (machine k).Reachable s) : InvS k s :=
  Machine.invariant_reachable (machine k) (InvS k) (invS_init k) (fun _ _ _ hi hs => invS_step hi hs) s h

theorem invA_reachable (k : Kind) (s : St) (h : (machine k).Reachable s) : InvA k s :=
  (invS_reachable k s h).1

theorem invB_reachable (k : Kind) (s : St) (h : (machine k).Reachable s) : InvB s :=
  (invS_reachable k s h).2.1

theorem invAF_reachable (k : Kind) (s : St) (h : (machine k).Reachable s) : InvA k s ∧ InvF s :=
  ⟨(invS_reachable k s h).1, (invS_reachable k s h).2.2⟩

end ArgoVerif.Model.PopWait
