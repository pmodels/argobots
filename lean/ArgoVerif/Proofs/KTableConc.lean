import ArgoVerif.Model.KTableConc
import ArgoVerif.Proofs.KTable
/-
Proofs.KTableConc — the interleaving model of concurrent `ABTI_ktable_set` / `ABTI_ktable_get` on one
table: protocol invariant (table lock, private phase, known actors), table / history invariant, their
preservation by every step, soundness of the executable step, and what the invariants give: chains
only grow at the tail, lookups return the last value stored.
-/
namespace ArgoVerif.Model.KTableConc
open ArgoVerif ArgoVerif.Model.KTable

def holdsLock : Pc → Bool
  | .lwalk _ _ sf _ => sf
  | .pub _ _ sf _ _ => sf
  | .lfound _ _ _ | .unlock | .failRel => true
  | _ => false

def usesPriv : Pc → Bool
  | .walk _ _ sf _ => !sf
  | .lwalk _ _ sf _ => !sf
  | .pub _ _ sf _ _ => !sf
  | _ => false

def isGet : Pc → Bool
  | .gwalk _ _ _ | .gread _ _ _ | .gret _ _ _ _ => true
  | _ => false

theorem mem_addKnown (l : List Actor) (a b : Actor) : b ∈ addKnown l a ↔ b = a ∨ b ∈ l := by
  simp only [addKnown]
  split
  · next h => exact ⟨Or.inr, fun h1 => h1.elim (fun h2 => h2 ▸ h) id⟩
  · simp

/-! ### protocol invariant -/

structure PInv (s : St) : Prop where
  known : ∀ a, s.pc a ≠ .idle → a ∈ s.known
  lock1 : ∀ a, holdsLock (s.pc a) = true → s.lock = some a
  lock2 : ∀ a, s.lock = some a → holdsLock (s.pc a) = true
  priv1 : ∀ a, usesPriv (s.pc a) = true → s.priv = some a
  priv2 : ∀ a a', s.priv = some a → a' ≠ a → s.pc a' = .idle
  priv3 : ∀ a, s.priv = some a → s.pc a ≠ .idle ∧ isGet (s.pc a) = false
  dead : s.live = false → ∀ a, s.pc a = .idle

theorem pinv_init (c : Cfg) : PInv (init c) := by
  constructor <;> simp [init, holdsLock, usesPriv, isGet]

/-- what `PInv` says of one actor `a` whose program point is `p`; `s.pc` does not occur -/
def Local (s : St) (a : Actor) (p : Pc) : Prop :=
  (p ≠ .idle → a ∈ s.known) ∧ (holdsLock p = true ↔ s.lock = some a) ∧ (usesPriv p = true → s.priv = some a) ∧
  (∀ b, s.priv = some b → a ≠ b → p = .idle) ∧ (s.priv = some a → p ≠ .idle ∧ isGet p = false) ∧
  (s.live = false → p = .idle)

theorem pinv_iff (s : St) : PInv s ↔ True ∧ ∀ a, Local s a (s.pc a) := by
  refine ⟨fun h => ⟨trivial, fun a => ?_⟩, fun ⟨_, l⟩ => ?_⟩
  · cases h; grind [Local]
  · constructor <;> grind [Local]

/-- `a`, at `p₀`, writes only its program point, the table and the histories, of which `PInv` says nothing -/
theorem pinv_setPc {s : St} {a : Actor} {p₀ p : Pc} {tb : Table} {hi : Nat → List Val} (h : PInv s) (hp : s.pc a = p₀)
    (hl : Local s a p₀ → Local s a p) : PInv { s with tbl := tb, hist := hi, pc := upd s.pc a p } :=
  inv_of_move pinv_iff h rfl fun _ l => ⟨trivial, hl (hp ▸ l), fun _ _ => id⟩

theorem pinv_step (c : Cfg) (s : St) (e : Ev) (s' : St) (h : PInv s) (hs : Step c s e s') : PInv s' := by
  cases hs with
  | free hall _ =>
    refine (pinv_iff _).2 ⟨trivial, fun a => ?_⟩
    have l := ((pinv_iff s).1 h).2 a
    simp_all [Local, holdsLock, usesPriv, isGet]
  | startSafe | startUnsafe | startGet | acquire | releaseFound | releaseFail | unlock | endSet =>
    refine inv_of_move pinv_iff h rfl fun _ l => ⟨trivial, ?_, fun b hb lb => ?_⟩
    · simp_all [Local, holdsLock, usesPriv, isGet, mem_addKnown]
    · grind [Local, holdsLock, mem_addKnown]
  | _ => exact pinv_setPc h (by assumption) (by simp +contextual [Local, holdsLock, usesPriv, isGet])

/-! ### table / history invariant -/

def ks (c : Cfg) (tb : Table) (kid : Nat) : List Nat := (tb.b (idx c.size kid)).map (·.keyId)

def scanOf : Pc → Option (Nat × Nat)
  | .walk k _ _ j | .acq k _ j | .lwalk k _ _ j => some (k.id, j)
  | .gwalk kid _ j => some (kid, j)
  | _ => none

def foundOf : Pc → Option (Nat × Nat)
  | .found k _ j | .lfound k _ j => some (k.id, j)
  | .gread kid _ j => some (kid, j)
  | _ => none

def pubOf : Pc → Option (Nat × Nat)
  | .pub k _ _ j _ => some (k.id, j)
  | _ => none

def keyOfPc : Pc → Option Key
  | .walk k _ _ _ | .acq k _ _ | .lwalk k _ _ _ | .pub k _ _ _ _ | .found k _ _ | .lfound k _ _ => some k
  | _ => none

def getH0 : Pc → Option (Nat × Nat)
  | .gwalk kid h0 _ | .gread kid h0 _ => some (kid, h0)
  | _ => none

structure TInv (c : Cfg) (s : St) : Prop where
  size : s.tbl.size = c.size
  idx : ∀ i e, e ∈ s.tbl.b i → idx c.size e.keyId = i
  nodup : ∀ i, ((s.tbl.b i).map (·.keyId)).Nodup
  dtor : ∀ i e, e ∈ s.tbl.b i → e.dtor = c.kd e.keyId
  hval : ∀ i e, e ∈ s.tbl.b i → (s.hist e.keyId).getLast? = some e.val
  habs : ∀ k, k ∉ ks c s.tbl k → s.hist k = []
  kdt : ∀ a k, keyOfPc (s.pc a) = some k → k.dtor = c.kd k.id
  scan : ∀ a kid j, scanOf (s.pc a) = some (kid, j) →
    j ≤ (ks c s.tbl kid).length ∧ ∀ i, i < j → (ks c s.tbl kid)[i]? ≠ some kid
  pubc : ∀ a kid j, pubOf (s.pc a) = some (kid, j) → j = (ks c s.tbl kid).length ∧ kid ∉ ks c s.tbl kid
  found : ∀ a kid j, foundOf (s.pc a) = some (kid, j) → (ks c s.tbl kid)[j]? = some kid
  gh0 : ∀ a kid h0, getH0 (s.pc a) = some (kid, h0) → h0 ≤ (s.hist kid).length
  gret : ∀ a kid h0 r hr, s.pc a = .gret kid h0 r hr →
    (hr = 0 ∧ r = 0 ∧ h0 = 0) ∨ (h0 ≤ hr ∧ 1 ≤ hr ∧ (s.hist kid)[hr - 1]? = some r)

theorem tinv_init (c : Cfg) : TInv c (init c) := by
  constructor <;> simp [init, createOk_size, createOk_b, ks, scanOf, foundOf, pubOf, keyOfPc, getH0]

/-- an actor about to publish holds the table lock or has the table to itself: there is only one -/
theorem pub_unique {s : St} (hp : PInv s) {a a' : Actor} {x y : Nat × Nat}
    (h1 : pubOf (s.pc a) = some x) (h2 : pubOf (s.pc a') = some y) : a = a' := by
  have hcls : ∀ {pc z}, pubOf pc = some z → holdsLock pc = true ∨ usesPriv pc = true := by
    intro pc z h
    cases pc with
    | pub _ _ sf => cases sf <;> simp [holdsLock, usesPriv]
    | _ => cases h
  apply Classical.byContradiction
  intro hne
  rcases hcls h1 with l1 | p1
  · rcases hcls h2 with l2 | p2
    · exact hne (Option.some.inj ((hp.lock1 a l1).symm.trans (hp.lock1 a' l2)))
    · rw [hp.priv2 a' a (hp.priv1 a' p2) hne] at h1; simp [pubOf] at h1
  · rw [hp.priv2 a a' (hp.priv1 a p1) (Ne.symm hne)] at h2; simp [pubOf] at h2

/-- the last six clauses of `TInv` for one actor, by program point: what it knows about the key ids
`ksf kid` of the chains and the histories -/
def PcOk (c : Cfg) (ksf : Nat → List Nat) (hist : Nat → List Val) : Pc → Prop
  | .walk k _ _ j | .acq k _ j | .lwalk k _ _ j => k.dtor = c.kd k.id ∧ Scanned (ksf k.id) k.id j
  | .found k _ j | .lfound k _ j => k.dtor = c.kd k.id ∧ (ksf k.id)[j]? = some k.id
  | .pub k _ _ j _ => k.dtor = c.kd k.id ∧ j = (ksf k.id).length ∧ k.id ∉ ksf k.id
  | .gwalk kid h0 j => Scanned (ksf kid) kid j ∧ h0 ≤ (hist kid).length
  | .gread kid h0 j => (ksf kid)[j]? = some kid ∧ h0 ≤ (hist kid).length
  | .gret kid h0 r hr => (hr = 0 ∧ r = 0 ∧ h0 = 0) ∨ (h0 ≤ hr ∧ 1 ≤ hr ∧ (hist kid)[hr - 1]? = some r)
  | _ => True

theorem pcOk_iff (c : Cfg) (ksf : Nat → List Nat) (hist : Nat → List Val) (pc : Pc) : PcOk c ksf hist pc ↔
    (∀ k, keyOfPc pc = some k → k.dtor = c.kd k.id) ∧
    (∀ kid j, scanOf pc = some (kid, j) → Scanned (ksf kid) kid j) ∧
    (∀ kid j, pubOf pc = some (kid, j) → j = (ksf kid).length ∧ kid ∉ ksf kid) ∧
    (∀ kid j, foundOf pc = some (kid, j) → (ksf kid)[j]? = some kid) ∧
    (∀ kid h0, getH0 pc = some (kid, h0) → h0 ≤ (hist kid).length) ∧
    (∀ kid h0 r hr, pc = .gret kid h0 r hr →
      (hr = 0 ∧ r = 0 ∧ h0 = 0) ∨ (h0 ≤ hr ∧ 1 ≤ hr ∧ (hist kid)[hr - 1]? = some r)) := by
  cases pc <;> simp [PcOk, keyOfPc, scanOf, pubOf, foundOf, getH0]
  exact ⟨fun h _ _ _ _ e1 e2 e3 e4 => by subst e1 e2 e3 e4; exact h, fun h => h _ _ _ _ rfl rfl rfl rfl⟩

theorem TInv.pcOk {c : Cfg} {s : St} (h : TInv c s) (a : Actor) : PcOk c (ks c s.tbl) s.hist (s.pc a) :=
  (pcOk_iff _ _ _ _).mpr ⟨h.kdt a, h.scan a, h.pubc a, h.found a, h.gh0 a, h.gret a⟩

theorem TInv.of {c : Cfg} {s : St} (hsz : s.tbl.size = c.size) (hb : BOk c.size s.tbl.b)
    (hd : ∀ i e, e ∈ s.tbl.b i → e.dtor = c.kd e.keyId)
    (hv : ∀ i e, e ∈ s.tbl.b i → (s.hist e.keyId).getLast? = some e.val)
    (ha : ∀ k, k ∉ ks c s.tbl k → s.hist k = [])
    (hpc : ∀ a, PcOk c (ks c s.tbl) s.hist (s.pc a)) : TInv c s :=
  have h := fun a => (pcOk_iff _ _ _ _).mp (hpc a)
  ⟨hsz, hb.home, hb.nodup, hd, hv, ha, fun a => (h a).1, fun a => (h a).2.1, fun a => (h a).2.2.1,
   fun a => (h a).2.2.2.1, fun a => (h a).2.2.2.2.1, fun a => (h a).2.2.2.2.2⟩

/-- what an actor knows stays true when chains and histories grow at the tail; for an actor about to
publish, when the chains do not change -/
theorem PcOk.grow {c : Cfg} {ksf ksf' : Nat → List Nat} {hist hist' : Nat → List Val} {pc : Pc}
    (h : PcOk c ksf hist pc) (hk : ∀ kid, ∃ r, ksf' kid = ksf kid ++ r) (hh : ∀ kid, ∃ r, hist' kid = hist kid ++ r)
    (hp : pubOf pc = none ∨ ksf' = ksf) : PcOk c ksf' hist' pc := by
  have hlen : ∀ {kid n}, n ≤ (hist kid).length → n ≤ (hist' kid).length := by
    intro kid n hn
    obtain ⟨q, hq⟩ := hh kid
    rw [hq, List.length_append]; exact Nat.le_trans hn (Nat.le_add_right _ _)
  cases pc with
  | walk k _ _ j | acq k _ j | lwalk k _ _ j =>
    obtain ⟨r, hr⟩ := hk k.id
    exact ⟨h.1, hr ▸ h.2.append r⟩
  | found k _ j | lfound k _ j =>
    obtain ⟨r, hr⟩ := hk k.id
    exact ⟨h.1, hr ▸ getElem?_append_some h.2 r⟩
  | pub k _ _ j _ =>
    rcases hp with hp | hp
    · cases hp
    · subst hp; exact h
  | gwalk kid h0 j =>
    obtain ⟨r, hr⟩ := hk kid
    exact ⟨hr ▸ h.1.append r, hlen h.2⟩
  | gread kid h0 j =>
    obtain ⟨r, hr⟩ := hk kid
    exact ⟨hr ▸ getElem?_append_some h.1 r, hlen h.2⟩
  | gret kid h0 r hr =>
    obtain ⟨q, hq⟩ := hh kid
    exact h.imp id fun ⟨x, y, z⟩ => ⟨x, y, hq ▸ getElem?_append_some z q⟩
  | _ => trivial

/-- a step of actor `a`, given the table part of the invariant in the new state: chains and histories
have only grown, the chains not at all if another actor is about to publish, and `a`'s new program
point is justified -/
theorem TInv.step {c : Cfg} {s s' : St} (h : TInv c s) (a : Actor) (pc' : Pc) (hpc : s'.pc = upd s.pc a pc')
    (hsz : s'.tbl.size = c.size) (hb : BOk c.size s'.tbl.b)
    (hd : ∀ i e, e ∈ s'.tbl.b i → e.dtor = c.kd e.keyId)
    (hv : ∀ i e, e ∈ s'.tbl.b i → (s'.hist e.keyId).getLast? = some e.val)
    (ha : ∀ k, k ∉ ks c s'.tbl k → s'.hist k = [])
    (hk : ∀ kid, ∃ r, ks c s'.tbl kid = ks c s.tbl kid ++ r) (hh : ∀ kid, ∃ r, s'.hist kid = s.hist kid ++ r)
    (hp : (∀ a', a' ≠ a → pubOf (s.pc a') = none) ∨ ks c s'.tbl = ks c s.tbl)
    (ht : PcOk c (ks c s'.tbl) s'.hist pc') : TInv c s' := by
  refine TInv.of hsz hb hd hv ha fun a' => ?_
  rw [hpc]
  by_cases e : a' = a
  · subst e; rw [upd_same]; exact ht
  · rw [upd_other _ _ _ _ e]; exact (h.pcOk a').grow hk hh (hp.imp (fun hp => hp a' e) id)

theorem TInv.move {c : Cfg} {s : St} (h : TInv c s) {a : Actor} {pc pc' : Pc} {lock' priv' : Option Actor}
    {known' : List Actor} (hpc : s.pc a = pc) (ht : PcOk c (ks c s.tbl) s.hist pc → PcOk c (ks c s.tbl) s.hist pc') :
    TInv c { s with lock := lock', priv := priv', known := known', pc := upd s.pc a pc' } :=
  h.step a pc' rfl h.size ⟨h.idx, h.nodup⟩ h.dtor h.hval h.habs (fun _ => ⟨[], (List.append_nil _).symm⟩)
    (fun _ => ⟨[], (List.append_nil _).symm⟩) (Or.inr rfl) (ht (hpc ▸ h.pcOk a))

theorem upd_append_grows (f : Nat → List Val) (k : Nat) (v : Val) (x : Nat) :
    ∃ r, upd f k (f k ++ [v]) x = f x ++ r := by
  simp only [upd]
  split
  · next e => exact ⟨[v], by rw [e]⟩
  · exact ⟨[], (List.append_nil _).symm⟩

/-- end of the re-walk: storage for the element is taken; chains unchanged -/
theorem tinv_alloc {c : Cfg} {s : St} {a : Actor} {k : Key} {v : Val} {sf : Bool} {j : Nat} {tb : Table} {blk : Nat}
    (h : TInv c s) (hpc : s.pc a = .lwalk k v sf j) (hnone : (chain c s k.id)[j]? = none)
    (ha : allocElem c.g s.tbl true = some (tb, blk)) :
    TInv c { s with tbl := tb, pc := upd s.pc a (.pub k v sf j blk) } := by
  obtain ⟨hb, hsz⟩ := allocElem_b _ _ _ _ _ ha
  have hk := h.pcOk a
  rw [hpc] at hk
  have hks : ks c tb = ks c s.tbl := funext fun kid => by simp only [ks, hb]
  refine h.step a _ rfl (hsz.trans h.size) ?_ ?_ ?_ ?_ (fun _ => ⟨[], ?_⟩)
    (fun _ => ⟨[], (List.append_nil _).symm⟩) (Or.inr hks) ?_
  · show BOk c.size tb.b; rw [hb]; exact ⟨h.idx, h.nodup⟩
  · show ∀ i e, e ∈ tb.b i → _; rw [hb]; exact h.dtor
  · show ∀ i e, e ∈ tb.b i → _; rw [hb]; exact h.hval
  · show ∀ k, k ∉ ks c tb k → _; rw [hks]; exact h.habs
  · show ks c tb _ = _; rw [hks, List.append_nil]
  · show PcOk c (ks c tb) _ _; rw [hks]; exact ⟨hk.1, hk.2.at_end (keyId_getElem?_none hnone)⟩

/-- `p_elem->value = value` on element `j` (no lock held) -/
theorem tinv_storeVal {c : Cfg} {s : St} {a : Actor} {k : Key} {v : Val} {j : Nat} {e : Elem} (h : TInv c s)
    (hpc : s.pc a = .found k v j) (hj : (chain c s k.id)[j]? = some e) :
    TInv c { s with tbl := setChain c s k.id ((chain c s k.id).set j { e with val := v }),
                    hist := upd s.hist k.id (s.hist k.id ++ [v]), pc := upd s.pc a (.setDone true) } := by
  have hfd : (ks c s.tbl k.id)[j]? = some k.id := by have := h.pcOk a; rw [hpc] at this; exact this.2
  have hek : e.keyId = k.id := Option.some.inj ((keyId_getElem? hj).symm.trans hfd)
  obtain ⟨hb, hkeys, hmem⟩ := BOk.store ⟨h.idx, h.nodup⟩ hj v
  have hks : ks c (setChain c s k.id ((chain c s k.id).set j { e with val := v })) = ks c s.tbl :=
    funext fun _ => hkeys _
  refine h.step a _ rfl h.size hb ?_ ?_ ?_ (fun _ => ⟨[], ?_⟩) (upd_append_grows _ _ _) (Or.inr hks) trivial
  · intro i x hx
    rcases hmem i x hx with ⟨h1, -⟩ | ⟨h1, -⟩
    · subst h1; exact h.dtor _ e (List.mem_of_getElem? hj)
    · exact h.dtor i x h1
  · intro i x hx
    rcases hmem i x hx with ⟨h1, -⟩ | ⟨h1, hne⟩
    · subst h1; simp [hek]
    · simp only [upd_other _ _ _ _ (hek ▸ hne)]; exact h.hval i x h1
  · intro k' hk'
    show upd s.hist k.id _ k' = []
    rw [show ks c (setChain c s k.id _) = _ from hks] at hk'
    rw [upd_other _ _ _ _ fun hkk => hk' (by rw [hkk]; exact List.mem_iff_getElem?.mpr ⟨j, hfd⟩)]
    exact h.habs k' hk'
  · show ks c (setChain c s k.id _) _ = _; rw [hks, List.append_nil]

/-- the link an actor is about to publish into is the tail: the store does not cut the chain -/
theorem pub_take {c : Cfg} {s : St} {a : Actor} {k : Key} {v : Val} {sf : Bool} {j blk : Nat} (h : TInv c s)
    (hpc : s.pc a = .pub k v sf j blk) : (chain c s k.id).take j = chain c s k.id := by
  apply List.take_of_length_le
  rw [(h.pubc a k.id j (by rw [hpc]; rfl)).1, ks, List.length_map]; exact Nat.le_refl _

/-- the release-store that links the new element at the tail -/
theorem tinv_publish {c : Cfg} {s : St} {a : Actor} {k : Key} {v : Val} {sf : Bool} {j blk : Nat} (pc' : Pc)
    (hp : PInv s) (h : TInv c s) (hpc : s.pc a = .pub k v sf j blk)
    (hpc' : ∀ ksf hist, PcOk c ksf hist pc') :
    TInv c { s with tbl := setChain c s k.id ((chain c s k.id).take j ++ [mkElem k v blk]),
                    hist := upd s.hist k.id (s.hist k.id ++ [v]), pc := upd s.pc a pc' } := by
  rw [pub_take h hpc]
  have hk := h.pcOk a
  rw [hpc] at hk
  obtain ⟨hb, hkeys, hmem⟩ := BOk.publish (e := mkElem k v blk) ⟨h.idx, h.nodup⟩ hk.2.2
  have hks : ∀ kid, ks c (setChain c s k.id (chain c s k.id ++ [mkElem k v blk])) kid =
      ks c s.tbl kid ++ if idx c.size kid = idx c.size k.id then [k.id] else [] :=
    fun _ => hkeys _
  refine h.step a _ rfl h.size hb ?_ ?_ ?_ (fun kid => ⟨_, hks kid⟩) (upd_append_grows _ _ _)
    (Or.inl fun a' ha' => ?_) (hpc' _ _)
  · intro i x hx
    rcases hmem i x hx with ⟨h1, -⟩ | ⟨h1, -⟩
    · subst h1; exact hk.1
    · exact h.dtor i x h1
  · intro i x hx
    rcases hmem i x hx with ⟨h1, -⟩ | ⟨h1, hne⟩
    · subst h1; simp [mkElem]
    · have hne : x.keyId ≠ k.id := hne
      simp only [upd_other _ _ _ _ hne]; exact h.hval i x h1
  · intro k' hk'
    show upd s.hist k.id _ k' = []
    rw [show ks c (setChain c s k.id _) k' = _ from hks k'] at hk'
    have hne : k' ≠ k.id := fun hkk => hk' (by simp [hkk])
    rw [upd_other _ _ _ _ hne]
    exact h.habs k' fun hm => hk' (List.mem_append_left _ hm)
  · cases hq : pubOf (s.pc a') with
    | none => rfl
    | some x => exact absurd (pub_unique hp hq (by rw [hpc]; rfl)) ha'

theorem tinv_step (c : Cfg) (s : St) (e : Ev) (s' : St) (hp : PInv s) (h : TInv c s) (hs : Step c s e s') :
    TInv c s' := by
  cases hs with
  | free => exact { h with }
  | lwalkEnd hpc hj ha => exact tinv_alloc h hpc hj ha
  | storeVal hpc hj => exact tinv_storeVal h hpc hj
  | publishSafe hpc => exact tinv_publish .unlock hp h hpc fun _ _ => trivial
  | publishUnsafe hpc => exact tinv_publish (.setDone true) hp h hpc fun _ _ => trivial
  | startSafe hpc _ _ hk => exact h.move hpc fun _ => ⟨hk, Scanned.zero _ _⟩
  | startUnsafe hall _ _ hk => exact h.move (hall _) fun _ => ⟨hk, Scanned.zero _ _⟩
  | startGet hpc => exact h.move hpc fun _ => ⟨Scanned.zero _ _, Nat.le_refl _⟩
  | allocFailSafe hpc | allocFailUnsafe hpc | releaseFail hpc | unlock hpc | endSet hpc | endGet hpc =>
    exact h.move hpc fun _ => trivial
  | walkNext hpc hj hne | lwalkNext hpc hj hne =>
    exact h.move hpc fun hk => ⟨hk.1, hk.2.next (keyId_getElem? hj) hne⟩
  | walkFound hpc hj heq | lwalkFoundSafe hpc hj heq | lwalkFoundUnsafe hpc hj heq =>
    exact h.move hpc fun hk => ⟨hk.1, (keyId_getElem? hj).trans (congrArg some heq)⟩
  -- the new program point claims what the old one did
  | walkEndSafe hpc | walkEndUnsafe hpc | acquire hpc | releaseFound hpc => exact h.move hpc id
  | gNext hpc hj hne => exact h.move hpc fun hk => ⟨hk.1.next (keyId_getElem? hj) hne, hk.2⟩
  | gFound hpc hj heq => exact h.move hpc fun hk => ⟨(keyId_getElem? hj).trans (congrArg some heq), hk.2⟩
  | @gEnd a kid h0 j hpc hj =>
    -- no element with this key id: nothing was ever stored under it, so the call saw the empty history
    refine h.move hpc fun hk => Or.inl ⟨rfl, rfl, ?_⟩
    simpa [h.habs kid (hk.1.at_end (keyId_getElem?_none hj)).2] using hk.2
  | @readVal a kid h0 j e hpc hj =>
    refine h.move hpc fun hk => ?_
    have hek : e.keyId = kid := Option.some.inj ((keyId_getElem? hj).symm.trans hk.1)
    have hv := h.hval _ e (List.mem_of_getElem? hj)
    rw [hek, List.getLast?_eq_getElem?] at hv
    have hlt := (List.getElem?_eq_some_iff.mp hv).1
    exact Or.inr ⟨hk.2, by omega, hv⟩

theorem inv_star (c : Cfg) (tr : List Ev) (s : St) (h : Star (Step c) (init c) tr s) : PInv s ∧ TInv c s := by
  refine Star.invariant (fun s => PInv s ∧ TInv c s) ?_ h ⟨pinv_init c, tinv_init c⟩
  intro s e s' ⟨hp, ht⟩ hs
  exact ⟨pinv_step c s e s' hp hs, tinv_step c s e s' hp ht hs⟩

/-! ### the executable step -/

theorem exec_sound (c : Cfg) (s : St) (e : Ev) (s' : St) (hp : PInv s) (h : exec c s e = some s') :
    Step c s e s' := by
  -- the guard of `free` and of an unsafe set looks at the known actors only; the others are idle anyway
  have hall (h : s.known.all (fun a' => s.pc a' = .idle) = true) (a : Actor) : s.pc a = .idle :=
    Classical.byContradiction fun hne => hne (by simpa using List.all_eq_true.mp h a (hp.known a hne))
  cases e with
  | startSet a k v sf =>
    cases sf <;> simp only [exec] at h <;> split at h <;> cases h
    · next hc => exact Step.startUnsafe (hall hc.1) hc.2.1 hc.2.2.1 hc.2.2.2
    · next hc => exact Step.startSafe hc.1 hc.2.1 hc.2.2.1 hc.2.2.2
  | free =>
    simp only [exec] at h; split at h <;> cases h
    next hc => exact Step.free (hall hc.1) hc.2
  | startGet a kid =>
    simp only [exec] at h; split at h <;> cases h
    next hc => exact Step.startGet hc.1 hc.2.1 hc.2.2
  | endSet a ok =>
    simp only [exec] at h; split at h <;> cases h
    next hpc => exact Step.endSet hpc
  | _ =>
    -- every accepting branch of `exec` is one constructor of `Step`, its premises the guards passed on the
    -- way; `walkFound` and `lwalkFoundUnsafe` end at the same program point, so the second is named
    simp only [exec] at h
    repeat' split at h
    all_goals cases h <;> (try simp_all only [Bool.not_eq_true]) <;>
      first | (constructor <;> assumption) | (apply Step.lwalkFoundUnsafe <;> assumption)

theorem run_inv (c : Cfg) (tr : List Ev) (s0 s : St) (hp0 : PInv s0) (ht0 : TInv c s0)
    (h : (machine c).run s0 tr = some s) : Star (Step c) s0 tr s ∧ PInv s ∧ TInv c s := by
  induction tr generalizing s0 with
  | nil => simp only [Machine.run, Option.some.injEq] at h; subst h; exact ⟨Star.refl _, hp0, ht0⟩
  | cons e es ih =>
    simp only [Machine.run] at h
    cases he : (machine c).step s0 e with
    | none => simp [he] at h
    | some s1 =>
      simp only [he] at h
      have hst : Step c s0 e s1 := exec_sound c s0 e s1 hp0 he
      have hp1 := pinv_step c s0 e s1 hp0 hst
      have ht1 := tinv_step c s0 e s1 hp0 ht0 hst
      obtain ⟨a1, a2, a3⟩ := ih s1 hp1 ht1 h
      exact ⟨Star.cons hst a1, a2, a3⟩

/-- identity of an element: everything but `value` -/
def sameElem (e e' : Elem) : Prop := e'.keyId = e.keyId ∧ e'.dtor = e.dtor ∧ e'.blk = e.blk

/-- one step never unlinks, moves or replaces an element (only `value` may change) -/
theorem step_append_only (c : Cfg) (s : St) (e : Ev) (s' : St) (ht : TInv c s) (hs : Step c s e s') :
    ∀ (b i : Nat) (x : Elem), (s.tbl.b b)[i]? = some x → ∃ x', (s'.tbl.b b)[i]? = some x' ∧ sameElem x x' := by
  intro b i x hx
  have hid : ∃ x', (s.tbl.b b)[i]? = some x' ∧ sameElem x x' := ⟨x, hx, rfl, rfl, rfl⟩
  cases hs with
  | @lwalkEnd a k v sf j tb blk hpc hj ha =>
    show ∃ x', (tb.b b)[i]? = some x' ∧ _
    rw [(allocElem_b _ _ _ _ _ ha).1]; exact hid
  | @storeVal a k v j e0 hpc hj =>
    simp only [setChain, updB]
    split
    · next hb =>
      subst hb
      rw [List.getElem?_set]
      split
      · next hij =>
        subst hij
        have h1 : (chain c s k.id)[j]? = some x := hx
        obtain rfl : e0 = x := Option.some.inj (hj.symm.trans h1)
        rw [if_pos (List.getElem?_eq_some_iff.mp h1).1]
        exact ⟨_, rfl, rfl, rfl, rfl⟩
      · exact hid
    · exact hid
  | publishSafe hpc | publishUnsafe hpc =>
    simp only [setChain, updB, pub_take ht hpc]
    split
    · next hb => subst hb; exact ⟨x, getElem?_append_some hx _, rfl, rfl, rfl⟩
    · exact hid
  | _ => exact hid

theorem star_append_only (c : Cfg) (tr : List Ev) (s s' : St) (hp : PInv s) (ht : TInv c s)
    (h : Star (Step c) s tr s') :
    ∀ (b i : Nat) (x : Elem), (s.tbl.b b)[i]? = some x → ∃ x', (s'.tbl.b b)[i]? = some x' ∧ sameElem x x' := by
  induction h with
  | refl => intro b i x hx; exact ⟨x, hx, rfl, rfl, rfl⟩
  | @cons s0 e s1 es s2 hst _ ih =>
    intro b i x hx
    obtain ⟨x1, h1, e1⟩ := step_append_only c s0 e s1 ht hst b i x hx
    obtain ⟨x2, h2, e2⟩ := ih (pinv_step c s0 e s1 hp hst) (tinv_step c s0 e s1 hp ht hst) b i x1 h1
    exact ⟨x2, h2, e2.1.trans e1.1, e2.2.1.trans e1.2.1, e2.2.2.trans e1.2.2⟩

theorem tinv_wf (c : Cfg) (s : St) (hsz : 0 < c.size) (ht : TInv c s) : WF c.kd s.tbl :=
  ⟨by rw [ht.size]; exact hsz, fun i e he => by rw [ht.size]; exact ht.idx i e he, ht.nodup, ht.dtor⟩

theorem tinv_tget (c : Cfg) (s : St) (ht : TInv c s) (k : Nat) : tget s.tbl k = absVal s k := by
  simp only [tget, absVal, ht.size]
  by_cases hm : k ∈ ks c s.tbl k
  · obtain ⟨e, he, hek, hget⟩ := chainGet_mem k _ hm
    rw [hget]
    have := ht.hval _ e he
    rw [hek] at this
    simp [this]
  · have h0 := ht.habs k hm
    rw [chainGet_absent k _ hm, h0]; rfl

end ArgoVerif.Model.KTableConc
