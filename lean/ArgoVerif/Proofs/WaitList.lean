import ArgoVerif.Model.WaitList
/- Proofs.WaitList — inductive invariant of the wait-list protocol. -/
namespace ArgoVerif.Model.WaitList
open ArgoVerif

/-- program counters at which the actor holds the spinlock `L` -/
def HasL : Pc → Prop
  | .inCs | .wkStore | .uSusp | .uRelL | .xCheck | .xRelL | .xReadyRel | .tuRel
  | .txTop | .txState | .txRel | .txReadyRel | .tmo | .tmoRm | .tmoRel => True
  | _ => False

/-- program counters of an actor inside a wait (its node may be queued) -/
def Waiting : Pc → Prop
  | .uSusp | .uRelL | .uWait | .xCheck | .xRelL | .xSleep | .xReacq | .xReadyRel
  | .tuRel | .tuPoll | .tuTime | .tuAcq | .txTop | .txState | .txRel | .txSleep | .txReacq | .txReadyRel
  | .tmo | .tmoRm => True
  | _ => False

/-- polling waits (non-ULT waiters and all timed waits): the node stays queued until a waker
dequeues it or the waiter removes it itself -/
def TimedWaiting : Pc → Prop
  | .xCheck | .xRelL | .xSleep | .xReacq
  | .tuRel | .tuPoll | .tuTime | .tuAcq | .txTop | .txState | .txRel | .txSleep | .txReacq | .tmo | .tmoRm => True
  | _ => False

structure Inv (s : St) : Prop where
  lIff : ∀ a, s.lOwner = some a ↔ HasL (s.pc a)
  lBool : s.l = true ↔ s.lOwner ≠ none
  inQ : ∀ a, a ∈ s.q → Waiting (s.pc a) ∧ s.ready a = false
  nodup : s.q.Nodup
  pendIff : ∀ b, s.pc b = .wkStore ↔ (s.lOwner = some b ∧ s.pending ≠ none)
  pendOwner : s.pending ≠ none → s.lOwner ≠ none
  pendWait : ∀ n, s.pending = some n → Waiting (s.pc n) ∧ n ∉ s.q ∧ s.ready n = false
  ultWait : ∀ a, s.pc a = .uWait → a ∈ s.q ∨ s.pending = some a
  suspInQ : ∀ a, (s.pc a = .uSusp ∨ s.pc a = .uRelL) → a ∈ s.q
  timedInQ : ∀ a, TimedWaiting (s.pc a) → s.ready a = false → s.pending ≠ some a → a ∈ s.q
  readyPc : ∀ a, (s.pc a = .xReadyRel ∨ s.pc a = .txReadyRel) → s.ready a = true
  tmoRmInv : ∀ a, s.pc a = .tmoRm → s.ready a = false
  tmoRelInv : ∀ a, s.pc a = .tmoRel → (s.timedOut a = true ∧ s.ready a = false ∧ a ∉ s.q) ∨ (s.timedOut a = false ∧ s.ready a = true)
  ultOnly : ∀ a, (s.pc a = .uSusp ∨ s.pc a = .uRelL ∨ s.pc a = .uWait ∨ s.pc a = .tuRel ∨ s.pc a = .tuPoll
      ∨ s.pc a = .tuTime ∨ s.pc a = .tuAcq) → s.isUlt a = true

theorem inv_init (u : Actor → Bool) : Inv (init u) := by
  constructor <;> simp [init, HasL, Waiting, TimedWaiting]

theorem parked_of_waiting {p : Pc} (hw : Waiting p) (hl : ¬ HasL p) :
    p = .uWait ∨ p = .xSleep ∨ p = .xReacq ∨ p = .tuPoll ∨ p = .tuTime ∨ p = .tuAcq ∨ p = .txSleep ∨ p = .txReacq := by
  cases p <;> simp_all [Waiting, HasL]

/-- how the clauses of `Inv` divide the waiters -/
theorem waiting_cases {p : Pc} (hw : Waiting p) :
    TimedWaiting p ∨ p = .uSusp ∨ p = .uRelL ∨ p = .uWait ∨ p = .xReadyRel ∨ p = .txReadyRel := by
  cases p <;> simp_all [Waiting, TimedWaiting]

theorem Inv.excl {s : St} (h : Inv s) {a b : Actor} (ha : HasL (s.pc a)) (hb : HasL (s.pc b)) : a = b :=
  Option.some.inj (((h.lIff a).2 ha).symm.trans ((h.lIff b).2 hb))

/-- no lost signal: a waiter that has not been made READY is in the wait-list or is the node being woken -/
theorem Inv.waiter_queued {s : St} (h : Inv s) {a : Actor} (hw : Waiting (s.pc a)) (hr : s.ready a = false) :
    a ∈ s.q ∨ s.pending = some a := by
  by_cases hp : s.pending = some a
  · exact .inr hp
  rcases waiting_cases hw with ht | hs | hs | hu | hx | hx
  · exact .inl (h.timedInQ a ht hr hp)
  · exact .inl (h.suspInQ a (.inl hs))
  · exact .inl (h.suspInQ a (.inr hs))
  · exact h.ultWait a hu
  · exact absurd (h.readyPc a (.inl hx)) (by simp [hr])
  · exact absurd (h.readyPc a (.inr hx)) (by simp [hr])

def Loc (s : St) (a : Actor) : Prop :=
  (s.lOwner = some a ↔ HasL (s.pc a)) ∧
  (a ∈ s.q → Waiting (s.pc a) ∧ s.ready a = false) ∧
  (s.pc a = .wkStore ↔ (s.lOwner = some a ∧ s.pending ≠ none)) ∧
  (s.pending = some a → Waiting (s.pc a) ∧ a ∉ s.q ∧ s.ready a = false) ∧
  (s.pc a = .uWait → a ∈ s.q ∨ s.pending = some a) ∧
  ((s.pc a = .uSusp ∨ s.pc a = .uRelL) → a ∈ s.q) ∧
  (TimedWaiting (s.pc a) → s.ready a = false → s.pending ≠ some a → a ∈ s.q) ∧
  ((s.pc a = .xReadyRel ∨ s.pc a = .txReadyRel) → s.ready a = true) ∧
  (s.pc a = .tmoRm → s.ready a = false) ∧
  (s.pc a = .tmoRel → (s.timedOut a = true ∧ s.ready a = false ∧ a ∉ s.q) ∨ (s.timedOut a = false ∧ s.ready a = true)) ∧
  ((s.pc a = .uSusp ∨ s.pc a = .uRelL ∨ s.pc a = .uWait ∨ s.pc a = .tuRel ∨ s.pc a = .tuPoll
      ∨ s.pc a = .tuTime ∨ s.pc a = .tuAcq) → s.isUlt a = true)

theorem Inv.loc {s : St} (h : Inv s) (a : Actor) : Loc s a :=
  ⟨h.lIff a, h.inQ a, h.pendIff a, h.pendWait a, h.ultWait a, h.suspInQ a, h.timedInQ a, h.readyPc a, h.tmoRmInv a,
    h.tmoRelInv a, h.ultOnly a⟩

theorem inv_of_locs {s : St} (hb : s.l = true ↔ s.lOwner ≠ none) (hd : s.q.Nodup)
    (hp : s.pending ≠ none → s.lOwner ≠ none) (hl : ∀ a, Loc s a) : Inv s := by
  constructor <;> first | assumption | (intro a; obtain ⟨_, _, _, _, _, _, _, _, _, _, _⟩ := hl a; assumption)

/-- `Loc s b` reads the state through `b`'s own fields and three questions about the shared ones: does `b` own `L`,
is it queued, is it the pending node (and, of the owner, is any node pending) -/
theorem Loc.frame {s s' : St} {b : Actor} (hl : Loc s b) (hpc : s'.pc b = s.pc b) (hr : s'.ready b = s.ready b)
    (ht : s'.timedOut b = s.timedOut b) (hu : s'.isUlt b = s.isUlt b) (ho : s'.lOwner = some b ↔ s.lOwner = some b)
    (hq : b ∈ s'.q ↔ b ∈ s.q) (hp : s'.pending = some b ↔ s.pending = some b)
    (hn : s.lOwner = some b → (s'.pending = none ↔ s.pending = none)) : Loc s' b := by
  simp only [Loc, hpc, hr, ht, hu, ho, hq, hp] at hl ⊢
  grind

/-- for a step that touches the private fields of `a` and `n` only and leaves the questions of `Loc.frame` as they
were for everybody else -/
theorem inv_touch {s s' : St} (h : Inv s) (a n : Actor)
    (hf : ∀ b, b ≠ a → b ≠ n → s'.pc b = s.pc b ∧ s'.ready b = s.ready b ∧ s'.timedOut b = s.timedOut b ∧
      s'.isUlt b = s.isUlt b ∧ (s'.lOwner = some b ↔ s.lOwner = some b) ∧ (b ∈ s'.q ↔ b ∈ s.q) ∧
      (s'.pending = some b ↔ s.pending = some b) ∧ (s.lOwner = some b → (s'.pending = none ↔ s.pending = none)))
    (hb : s'.l = true ↔ s'.lOwner ≠ none) (hd : s'.q.Nodup) (hp : s'.pending ≠ none → s'.lOwner ≠ none)
    (ha : Loc s' a) (hn : n ≠ a → Loc s' n) : Inv s' := by
  refine inv_of_locs hb hd hp fun b => ?_
  by_cases hba : b = a
  · exact hba ▸ ha
  by_cases hbn : b = n
  · exact hbn ▸ hn (hbn ▸ hba)
  obtain ⟨h1, h2, h3, h4, h5, h6, h7, h8⟩ := hf b hba hbn
  exact (h.loc b).frame h1 h2 h3 h4 h5 h6 h7 h8

/-- a clause of `Inv` about every actor `b` follows from `Loc s b`, the three about the shared fields from their likes -/
macro "inv_tac" h:ident : tactic => `(tactic|
  first
  | (intro b; have hb := ($h).loc b; simp only [Loc, setPc] at hb ⊢; grind [upd])
  | (have := ($h).lBool; have := ($h).nodup; have := ($h).pendOwner; simp only [setPc]; grind))

macro "close_tac" h:ident hs:ident : tactic => `(tactic|
  first
  | (cases $hs:ident; done)
  | (cases $hs:ident; constructor <;> inv_tac $h))

theorem inv_setPc {s : St} (h : Inv s) (a : Actor) (p : Pc) (t : Actor → Bool) (ht : ∀ b, b ≠ a → t b = s.timedOut b)
    (ha : Loc { s with pc := upd s.pc a p, timedOut := t } a) : Inv { s with pc := upd s.pc a p, timedOut := t } :=
  inv_touch h a a (fun b hb _ => by simp [hb, ht b hb]) h.lBool h.nodup h.pendOwner ha (absurd rfl)

theorem inv_takeL {s : St} (h : Inv s) (hl : s.l = false) (a : Actor) (p : Pc)
    (ha : s.lOwner = none → s.pending = none → Loc (takeL s a p) a) : Inv (takeL s a p) := by
  have ho : s.lOwner = none := by have := h.lBool; simp_all
  have hp : s.pending = none := by have := h.pendOwner; simp_all
  exact inv_touch h a a (fun b hb _ => by simp [takeL, setPc, ho, hb, Ne.symm hb]) (by simp [takeL, setPc]) h.nodup
    (by simp [takeL, setPc]) (ha ho hp) (absurd rfl)

/-- the release of `L` outside a wake-up -/
theorem inv_dropL {s : St} (h : Inv s) (a : Actor) (p : Pc) (t : Actor → Bool) (ht : ∀ b, b ≠ a → t b = s.timedOut b)
    (hL : HasL (s.pc a)) (hw : s.pc a ≠ .wkStore)
    (ha : Loc { s with l := false, lOwner := none, pc := upd s.pc a p, timedOut := t } a) :
    Inv { s with l := false, lOwner := none, pc := upd s.pc a p, timedOut := t } := by
  have ho := (h.lIff a).2 hL
  have hp : s.pending = none := by have := h.pendIff a; simp_all
  exact inv_touch h a a (fun b hb _ => by simp [ho, hp, hb, Ne.symm hb, ht b]) (by simp) h.nodup (by simp [hp]) ha (absurd rfl)

/-- closes `Loc s' a` for a step of `a` from `hp : s.pc a = _` and `hl : Loc s a`: both sides become
propositions about the two program counters, which the class predicates evaluate -/
macro "loc_tac" hl:ident hp:ident : tactic => `(tactic|
  (simp only [Loc, $hp:ident, setPc, takeL, upd_same] at $hl:ident ⊢
   simp only [HasL, Waiting, TimedWaiting] at $hl:ident ⊢
   grind))

theorem inv_stepBegin (s s' : St) (a : Actor) (h : Inv s) (hs : stepBegin s a = some s') : Inv s' := by
  unfold stepBegin at hs
  have hl := h.loc a
  split at hs
  · rename_i hp
    have ha : Loc (setPc s a .acq) a := by loc_tac hl hp
    simp only [Loc, setPc, upd_same] at ha
    -- `close_tac` proves the clauses of `Inv` one by one, each from `Loc` of every actor, without going through `inv_setPc`
    close_tac h hs
  · cases hs

theorem stepTasL_true {s s' : St} {a : Actor} (hs : stepTasL s a true = some s') : s' = s := by
  unfold stepTasL at hs
  (repeat' (split at hs)) <;> cases hs <;> first | rfl | contradiction

theorem inv_stepTasL (s s' : St) (a : Actor) (old : Bool) (h : Inv s) (hs : stepTasL s a old = some s') : Inv s' := by
  unfold stepTasL at hs
  have hl := h.loc a
  split at hs
  · cases hs
  · rename_i ho
    split at hs <;> try (cases hs; done)
    all_goals
      rename_i hp
      cases old <;> cases hs
      · refine inv_takeL h (by simpa using ho) a _ fun _ _ => ?_
        loc_tac hl hp
      · exact h

theorem inv_stepClearL (s s' : St) (a : Actor) (h : Inv s) (hs : stepClearL s a = some s') : Inv s' := by
  unfold stepClearL at hs
  have hl := h.loc a
  split at hs <;> try (cases hs; done)
  all_goals
    rename_i hp
    cases hs
    refine inv_dropL h a _ _ (fun b hb => by simp only [upd_other _ _ _ _ hb]) (by rw [hp]; trivial) (by rw [hp]; nofun) ?_
    loc_tac hl hp

theorem inv_stepEnq (s s' : St) (a : Actor) (t : Bool) (h : Inv s) (hs : stepEnq s a t = some s') : Inv s' := by
  unfold stepEnq at hs
  have hl := h.loc a
  split at hs
  · rename_i hp
    cases hs
    have hq : a ∉ s.q := fun hq => by have := (hl.2.1 hq).1; simp only [hp, Waiting] at this
    refine inv_touch h a a (fun b hb _ => by simp [setPc, hb]) h.lBool
      (by simpa [setPc, List.nodup_append, h.nodup] using fun b hb (hba : b = a) => hq (hba ▸ hb)) h.pendOwner ?_ (absurd rfl)
    cases t <;> cases hu : s.isUlt a <;> loc_tac hl hp
  · cases hs

theorem inv_stepRm (s s' : St) (a : Actor) (h : Inv s) (hs : stepRm s a = some s') : Inv s' := by
  unfold stepRm at hs
  have hl := h.loc a
  split at hs
  · rename_i hp
    cases hs
    have hd := h.nodup
    refine inv_touch h a a (fun b hb _ => by simp [setPc, hb, List.mem_erase_of_ne hb]) h.lBool (hd.erase a)
      h.pendOwner ?_ (absurd rfl)
    have := hd.mem_erase_iff (a := a) (b := a)
    loc_tac hl hp
  · cases hs

theorem inv_stepDeq (s s' : St) (a n : Actor) (h : Inv s) (hs : stepDeq s a n = some s') : Inv s' := by
  unfold stepDeq at hs
  have hl := h.loc a
  have hn := h.loc n
  (repeat' (split at hs)) <;> try (cases hs; done)
  rename_i hd t hp hq hh
  subst hh
  cases hs
  have hnd := h.nodup
  simp only [hq, List.nodup_cons] at hnd
  have ho : s.lOwner = some a := hl.1.2 (by rw [hp]; trivial)
  have hpd : s.pending = none := by have := hl.2.2.1; simp_all
  have hna : hd ≠ a := by
    rintro rfl
    have := (hn.2.1 (by simp [hq])).1
    simp only [hp, Waiting] at this
  refine inv_touch h a hd (fun b hba hbn => by simp [setPc, hq, hba, hbn, ho, hpd, Ne.symm hba, Ne.symm hbn]) h.lBool hnd.2
    (by simp [setPc, ho]) ?_ fun _ => ?_
  · loc_tac hl hp
  · simp only [Loc, hp, HasL] at hl
    simp only [Loc, hq, setPc, upd_other _ _ _ _ hna] at hn ⊢
    have := @parked_of_waiting (s.pc hd)
    grind

theorem Inv.pending_ne {s : St} (h : Inv s) {a n : Actor} (hp : s.pc a = .wkStore) (hn : s.pending = some n) : n ≠ a := by
  rintro rfl
  have := (h.pendWait n hn).1
  simp only [hp, Waiting] at this

theorem inv_stepStoreReady (s s' : St) (a n : Actor) (h : Inv s) (hs : stepStoreReady s a n = some s') : Inv s' := by
  unfold stepStoreReady at hs
  have hl := h.loc a
  have hn := h.loc n
  split at hs <;> try (cases hs; done)
  rename_i hp
  have hna := h.pending_ne hp.1 hp.2
  have ho : s.lOwner = some a := hl.1.2 (by rw [hp.1]; trivial)
  simp only [Loc, hp.1, hp.2] at hl hn
  simp only [HasL, Waiting, TimedWaiting] at hl
  split at hs <;> cases hs <;> rename_i hu <;>
    refine inv_touch h a n (fun b hba hbn => by simp [setPc, hba, hbn, ho, hp.2, Ne.symm hba, Ne.symm hbn]) h.lBool h.nodup
      (by simp [setPc])
      (by simp only [Loc, setPc, upd_same, upd_other _ _ _ _ hna.symm, HasL, Waiting, TimedWaiting]; grind) fun _ => ?_
  · simp only [hu] at hn
    simp only [Loc, setPc, upd_same, upd_other _ _ _ _ hna, HasL, Waiting, TimedWaiting] at hn ⊢
    grind
  · simp only [Loc, setPc, upd_same, upd_other _ _ _ _ hna]
    have := @parked_of_waiting (s.pc n)
    grind

theorem inv_step (s s' : St) (e : Ev) (h : Inv s) (hs : step s e = some s') : Inv s' := by
  cases e with
  | begin a => exact inv_stepBegin s s' a h hs
  | tasL a old => exact inv_stepTasL s s' a old h hs
  | clearL a => exact inv_stepClearL s s' a h hs
  | obsL v => simp only [step] at hs; split at hs <;> simp_all
  | enq a t => exact inv_stepEnq s s' a t h hs
  | deq a n => exact inv_stepDeq s s' a n h hs
  | storeReady a n => exact inv_stepStoreReady s s' a n h hs
  | rm a => exact inv_stepRm s s' a h hs
  | storeBlocked a | timeCheck a x | loadState a x =>
    -- the actor's program counter moves, at most its time-out flag is cleared
    have hl := h.loc a
    simp only [step, stepStoreBlocked, stepTimeCheck, stepLoadState] at hs
    (repeat' (split at hs)) <;> (try (cases hs; done)) <;> cases hs <;>
      refine inv_setPc h a _ _ (fun b hb => by simp only [upd_other _ _ _ _ hb]) ?_ <;>
      simp only [Loc, upd_same, *] at hl ⊢ <;> simp only [HasL, Waiting, TimedWaiting] at hl ⊢ <;> grind

theorem inv_reachable (u : Actor → Bool) (s : St) (h : (machine u).Reachable s) : Inv s :=
  Machine.invariant_reachable (machine u) Inv (inv_init u) (fun s e s' hi hs => inv_step s s' e hi hs) s h

/-- the READY store also completes the wait of the (ULT) node it wakes -/
theorem step_frame (s s' : St) (e : Ev) (hs : step s e = some s') (b : Actor) :
    (s'.pc b = s.pc b ∧ s'.ready b = s.ready b ∧ s'.timedOut b = s.timedOut b) ∨ (match e with
      | .begin a | .tasL a _ | .clearL a | .enq a _ | .storeBlocked a | .loadState a _ | .deq a _
      | .timeCheck a _ | .rm a => b = a
      | .storeReady a n => b = a ∨ b = n
      | .obsL _ => False) := by
  cases e <;> simp only [step, stepBegin, stepTasL, stepClearL, stepEnq, stepStoreBlocked, stepLoadState,
    stepDeq, stepStoreReady, stepTimeCheck, stepRm] at hs <;>
    (repeat' (split at hs)) <;>
    (first | (cases hs; done) | (cases hs; simp only [setPc, takeL, dropL, upd]; grind))

theorem pc_frame (s s' : St) (e : Ev) (hs : step s e = some s') (b : Actor) :
    s'.pc b = s.pc b ∨ (match e with
      | .begin a | .tasL a _ | .clearL a | .enq a _ | .storeBlocked a | .loadState a _ | .deq a _
      | .timeCheck a _ | .rm a => b = a
      | .storeReady a n => b = a ∨ b = n
      | .obsL _ => False) := by
  cases e <;> exact (step_frame _ _ _ hs b).imp_left And.left

end ArgoVerif.Model.WaitList
