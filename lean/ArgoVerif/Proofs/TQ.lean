import ArgoVerif.Model.TQ
/-
Proofs.TQ — `thread_queue_t` refines a double-ended queue of distinct units.

Per-operation specifications are stated against a ghost list `xs` (`WFrel s xs`) together with
an exact description of what the operation wrote (`Frame`): only link fields of units in the
queue (before or after) and `is_in_pool` of the one touched unit.  That is the form the
concurrent pool model uses ("the body of a critical section is one of these operations") and
what makes queues over a shared set of units independent of each other.

Then several queues over one set of units (`World`, `WInv`), and, in namespace `Model.Pool`, the interpretation of
the generated pool table (`specCallM`) and the multi-unit pool functions on the abstract content.
-/
namespace ArgoVerif.Model.TQ
open ArgoVerif ArgoVerif.Heap

/-- pointer structure `s` represents the queue content `xs` (head first) -/
structure WFrel (s : St) (xs : List Nat) : Prop where
  circ : Circ s.prev s.next s.head s.tail xs
  num : s.num = xs.length
  empty : s.isEmpty = if xs = [] then 1 else 0
  inp : ∀ u ∈ xs, s.inPool u = 1

/-- what an operation may have written: link fields only of units in `fp`, `is_in_pool` only of `t` -/
structure Frame (s s' : St) (fp : List Nat) (t v : Nat) : Prop where
  prev : ∀ x, x ∉ fp → s'.prev x = s.prev x
  next : ∀ x, x ∉ fp → s'.next x = s.next x
  inPool : s'.inPool = upd s.inPool t v

theorem WFrel.members_eq {s : St} {xs : List Nat} (h : WFrel s xs) : members s = xs := by
  unfold members; rw [h.num]; exact circ_walk h.circ

theorem WFrel.membersBack_eq {s : St} {xs : List Nat} (h : WFrel s xs) : membersBack s = xs.reverse := by
  unfold membersBack; rw [h.num]; exact circ_walk_back h.circ

theorem WFrel.nodup {s : St} {xs : List Nat} (h : WFrel s xs) : xs.Nodup := h.circ.1

theorem WFrel.nonnull {s : St} {xs : List Nat} (h : WFrel s xs) : ∀ x ∈ xs, x ≠ 0 := circ_nonnull h.circ

theorem WFrel.unique {s : St} {xs ys : List Nat} (h : WFrel s xs) (h' : WFrel s ys) : xs = ys := by
  rw [← h.members_eq, ← h'.members_eq]

theorem WFrel.num_ne_zero {s : St} {xs : List Nat} (h : WFrel s xs) (hne : xs ≠ []) : s.num ≠ 0 := by
  rw [h.num]; simpa using hne

theorem WFrel.not_mem_of_pre {s : St} {xs : List Nat} {u : Nat} (h : WFrel s xs) (hp : PushPre s u) : u ∉ xs := by
  intro hm; have := h.inp u hm; have := hp.2; omega

theorem init_spec (s : St) : WFrel (init s) [] ∧ (init s).prev = s.prev ∧ (init s).next = s.next ∧ (init s).inPool = s.inPool := by
  refine ⟨⟨?_, rfl, rfl, by simp⟩, rfl, rfl, rfl⟩
  exact circ_nil

/-! ### push -/

theorem WFrel.head_tail_ne {s : St} {y : Nat} {r : List Nat} (h : WFrel s (y :: r)) :
    s.head = y ∧ s.head ≠ 0 ∧ s.tail ≠ 0 ∧ s.tail ∈ y :: r := by
  have hh := circ_head h.circ
  obtain ⟨ini, l, hil⟩ := exists_snoc (xs := y :: r) (by simp)
  have hl := circ_last (hil ▸ h.circ)
  exact ⟨hh.1, hh.1 ▸ hh.2.2, hl.1 ▸ hl.2.2, by rw [hl.1, hil]; simp⟩

/-- both pushes write the same links (a self-loop into the empty queue; otherwise `u` between tail and head) and differ
in the end pointer they move -/
theorem push_spec {s : St} {xs : List Nat} {u : Nat} (h : WFrel s xs) (hp : PushPre s u) (hd : Bool) :
    ∃ s', (if hd then pushHead s u else pushTail s u) = some s' ∧ WFrel s' (if hd then u :: xs else xs ++ [u]) ∧
      Frame s s' (u :: xs) u 1 := by
  have hu0 : u ≠ 0 := hp.1
  have hnm : u ∉ xs := h.not_mem_of_pre hp
  have hinp : ∀ v, v = u ∨ v ∈ xs → upd s.inPool u 1 v = 1 := fun v hv => by have := h.inp v; grind [upd]
  cases xs with
  | nil =>
    have hn : s.num = 0 := h.num
    refine ⟨_, by cases hd <;> simp [pushHead, pushTail, hp, hn, stPrev, stNext, stInPool, hu0] <;> rfl, ?_,
      ⟨?_, ?_, rfl⟩⟩
    · cases hd <;> exact ⟨circ_singleton hu0 (by simp) (by simp), rfl, by simp, by simp⟩
    all_goals intro x hx; simp at hx; simp [upd, hx]
  | cons y r =>
    have hn := h.num_ne_zero (List.cons_ne_nil y r)
    obtain ⟨hhy, hh0, ht0, htm⟩ := h.head_tail_ne
    have hfp : ∀ x, x ∉ u :: y :: r → upd (upd s.prev s.head u) u s.tail x = s.prev x := fun x hx => by
      have : x ≠ u ∧ x ≠ s.head := by grind
      simp [upd, this]
    have hfn : ∀ x, x ∉ u :: y :: r → upd (upd s.next s.tail u) u s.head x = s.next x := fun x hx => by
      have : x ≠ u ∧ x ≠ s.tail := by grind
      simp [upd, this]
    cases hd
    · exact ⟨_, by simp [pushTail, hp, hn, stPrev, stNext, stInPool, hu0, hh0, ht0]; rfl,
        ⟨circ_push_tail h.circ (by simp) hu0 hnm, by simp [h.num], by simpa using h.empty, by simpa [or_comm] using hinp⟩,
        ⟨hfp, hfn, rfl⟩⟩
    · exact ⟨_, by simp [pushHead, hp, hn, stPrev, stNext, stInPool, hu0, hh0, ht0]; rfl,
        ⟨circ_push_head h.circ (by simp) hu0 hnm, by simp [h.num], by simpa using h.empty, by simpa using hinp⟩,
        ⟨hfp, hfn, rfl⟩⟩

/-! ### remove -/

theorem remove_nil {s : St} (h : WFrel s []) (u : Nat) : remove s u = some (s, .errPool) := by
  have hn : s.num = 0 := h.num
  simp [remove, hn]

/-- second coded guard: the unit's `is_in_pool` flag is not 1 -/
theorem remove_not_in_pool {s : St} {xs : List Nat} (h : WFrel s xs) (hne : xs ≠ []) {u : Nat} (hu : u ≠ 0)
    (hf : s.inPool u ≠ 1) : remove s u = some (s, .errPool) := by
  simp [remove, h.num_ne_zero hne, ldInPool, hu, hf]

/-- NULL unit on a non-empty queue: the flag load dereferences NULL -/
theorem remove_null {s : St} {xs : List Nat} (h : WFrel s xs) (hne : xs ≠ []) : remove s 0 = none := by
  simp [remove, h.num_ne_zero hne, ldInPool]

/-- both coded guards pass but the unit is queued elsewhere: contract violation -/
theorem remove_foreign {s : St} {xs : List Nat} (h : WFrel s xs) (hne : xs ≠ []) {u : Nat} (hu : u ≠ 0)
    (hf : s.inPool u = 1) (hnm : u ∉ xs) : remove s u = none := by
  simp [remove, h.num_ne_zero hne, ldInPool, hu, hf, h.members_eq, hnm]

theorem circ_next_mem {prev next : Nat → Nat} {h t u : Nat} {as bs : List Nat}
    (hc : Circ prev next h t (as ++ u :: bs)) (hne : as ++ bs ≠ []) : next u ∈ as ++ bs := by
  have hf := hc.2.1.1
  rw [seg_split] at hf
  cases bs with
  | cons n r => have : next u = n := hf.2.2.1; simp [this]
  | nil =>
    cases as with
    | nil => simp at hne
    | cons a0 r => have : next u = h := hf.2.2; simp [this, (circ_head hc).1]

theorem circ_prev_mem {prev next : Nat → Nat} {h t u : Nat} {as bs : List Nat}
    (hc : Circ prev next h t (as ++ u :: bs)) (hne : as ++ bs ≠ []) : prev u ∈ as ++ bs := by
  have hm := circ_mirror.mp hc
  rw [List.reverse_append, List.reverse_cons, List.append_assoc] at hm
  simpa [or_comm] using circ_next_mem hm (by simpa [and_comm] using hne)

/-- `thread_queue_remove`: head and tail move off `u` only if `u` was first or last -/
theorem circ_unlink {prev next : Nat → Nat} {h t u : Nat} {as bs : List Nat}
    (hc : Circ prev next h t (as ++ u :: bs)) (hne : as ++ bs ≠ []) (v w : Nat) :
    Circ (upd (upd prev (next u) (prev u)) u v) (upd (upd next (prev u) (next u)) u w)
      (if as = [] then next u else h) (if bs = [] then prev u else t) (as ++ bs) := by
  by_cases ha : as = []
  · subst ha
    have hb : bs ≠ [] := by simpa using hne
    simpa [hb] using circ_unlink_head (bs := bs) hc hb v w
  · by_cases hb : bs = []
    · subst hb; simpa [ha] using circ_unlink_tail hc ha v w
    · simpa [ha, hb] using circ_unlink_mid hc ha hb v w

/-- what the code of pop and remove meets around a queued unit `u` -/
theorem WFrel.unit_facts {s : St} {u : Nat} {as bs : List Nat} (h : WFrel s (as ++ u :: bs)) :
    u ≠ 0 ∧ s.inPool u = 1 ∧ u ∈ members s ∧ s.num = (as ++ bs).length + 1 ∧ u ∉ as ++ bs ∧
    (u = s.head ↔ as = []) ∧ (u = s.tail ↔ bs = []) ∧ (as ++ bs ≠ [] → s.prev u ∈ as ++ bs ∧ s.next u ∈ as ++ bs) ∧
    ∀ v ∈ as ++ bs, v ≠ 0 ∧ s.inPool v = 1 := by
  have hu_not : u ∉ as ++ bs := by
    have := h.nodup; rw [List.nodup_append, List.nodup_cons] at this; grind
  have hsub : ∀ v ∈ as ++ bs, v ∈ as ++ u :: bs := fun v hv => by
    simp only [List.mem_append, List.mem_cons] at hv ⊢; exact hv.imp_right .inr
  refine ⟨h.nonnull u (by simp), h.inp u (by simp), by rw [h.members_eq]; simp, by rw [h.num]; simp; omega, hu_not,
    ?_, ?_, fun hne => ⟨circ_prev_mem h.circ hne, circ_next_mem h.circ hne⟩,
    fun v hv => ⟨h.nonnull v (hsub v hv), h.inp v (hsub v hv)⟩⟩
  · cases as with
    | nil => simpa using ((circ_head h.circ).1).symm
    | cons a0 as' => have := (circ_head (xs := as' ++ u :: bs) h.circ).1; grind
  · by_cases hb : bs = []
    · subst hb; simpa using ((circ_last h.circ).1).symm
    · obtain ⟨bs', bl, rfl⟩ := exists_snoc hb
      have := (circ_last (xs := as ++ u :: bs') (by simpa using h.circ)).1
      grind

theorem remove_mem {s : St} {u : Nat} {as bs : List Nat} (h : WFrel s (as ++ u :: bs)) :
    ∃ s', remove s u = some (s', .success) ∧ WFrel s' (as ++ bs) ∧ Frame s s' (as ++ u :: bs) u 0 ∧
      s'.prev u = 0 ∧ s'.next u = 0 := by
  obtain ⟨hu0, hin, hmem, hnum, hu_not, hh, ht, hlk, hrest⟩ := h.unit_facts
  have hinp : ∀ v ∈ as ++ bs, (upd s.inPool u 0) v = 1 := fun v hv => by
    have : v ≠ u := fun e => hu_not (e ▸ hv)
    simp [upd, this, (hrest v hv).2]
  by_cases hne : as ++ bs = []
  · -- the only unit
    simp only [hne, List.length_nil] at hnum
    refine ⟨_, by simp [remove, hnum, ldInPool, hu0, hin, hmem, stPrev, stNext, stInPool]; rfl,
      ⟨hne ▸ circ_nil, by simp [hne], by simp [hne], hinp⟩, ⟨?_, ?_, rfl⟩, by simp, by simp⟩ <;>
      (intro v hv; have : v ≠ u := by grind
       simp [upd, this])
  · obtain ⟨hpm, hnm⟩ := hlk hne
    have hnn : ∀ v ∈ as ++ bs, v ≠ 0 := fun v hv => (hrest v hv).1
    have hn1 : s.num ≠ 0 ∧ s.num ≠ 1 := by have := List.length_pos_iff.mpr hne; omega
    have hup : u ≠ s.prev u := fun e => hu_not (e ▸ hpm)
    have hun : u ≠ s.next u := fun e => hu_not (e ▸ hnm)
    refine ⟨{ s with head := if as = [] then s.next u else s.head, tail := if bs = [] then s.prev u else s.tail,
                     num := s.num - 1, prev := upd (upd s.prev (s.next u) (s.prev u)) u 0,
                     next := upd (upd s.next (s.prev u) (s.next u)) u 0, inPool := upd s.inPool u 0 }, ?_,
      ⟨circ_unlink h.circ hne 0 0, by simp [hnum], by simpa [hne] using h.empty, hinp⟩, ⟨?_, ?_, rfl⟩, by simp, by simp⟩
    · simp [remove, hn1, ldInPool, hu0, hin, hmem, unlink, ldPrev, ldNext, stPrev, stNext, stInPool, upd, hnn _ hpm,
        hnn _ hnm, hup, hun, propext hh, propext ht]
      by_cases ha : as = []
      · have hb : bs ≠ [] := fun hb => hne (by simp [ha, hb])
        simp [ha, hb]
      · by_cases hb : bs = [] <;> simp [ha, hb]
    all_goals
      intro v hv
      have : v ≠ u ∧ v ≠ s.next u ∧ v ≠ s.prev u := by grind
      simp [upd, this]

/-! ### pop: remove of the unit at that end -/

theorem pop_nil {s : St} (h : WFrel s []) : popHead s = some (s, 0) ∧ popTail s = some (s, 0) := by
  have hn : s.num = 0 := h.num
  simp [popHead, popTail, hn]

/-- `thread_queue_pop_head` / `_pop_tail` run the code of `thread_queue_remove` on `p_head` / `p_tail` (without its guards,
the last three stores in another order) -/
theorem pop_eq_remove {s : St} {u : Nat} {as bs : List Nat} (h : WFrel s (as ++ u :: bs)) :
    (as = [] → popHead s = (remove s u).map fun p => (p.1, u)) ∧
    (bs = [] → popTail s = (remove s u).map fun p => (p.1, u)) := by
  obtain ⟨hu0, hin, hmem, hnum, hu_not, hh, ht, hlk, hrest⟩ := h.unit_facts
  by_cases hne : as ++ bs = []
  · simp only [hne, List.length_nil] at hnum
    have ha := hh.mpr (List.append_eq_nil_iff.mp hne).1
    have hb := ht.mpr (List.append_eq_nil_iff.mp hne).2
    constructor <;> intro _ <;>
      simp [popHead, popTail, remove, hnum, ← ha, ← hb, ldInPool, stPrev, stNext, stInPool, hu0, hin, hmem]
  · obtain ⟨hpm, hnm⟩ := hlk hne
    have hnn : ∀ v ∈ as ++ bs, v ≠ 0 := fun v hv => (hrest v hv).1
    have hn1 : 0 < s.num ∧ s.num ≠ 0 ∧ s.num ≠ 1 := by have := List.length_pos_iff.mpr hne; omega
    have hup : u ≠ s.prev u := fun e => hu_not (e ▸ hpm)
    have hun : u ≠ s.next u := fun e => hu_not (e ▸ hnm)
    constructor <;> intro e <;> subst e
    · have ha := hh.mpr rfl
      simp [popHead, remove, hn1, ← ha, unlink, ldPrev, ldNext, ldInPool, stPrev, stNext, stInPool, hu0, hin, hmem,
        hnn _ hpm, hnn _ hnm, upd, hup]
    · have hb := ht.mpr rfl
      have ha : u ≠ s.head := fun e => hne (by simpa using hh.mp e)
      simp [popTail, remove, hn1, ← hb, ha, unlink, ldPrev, ldNext, ldInPool, stPrev, stNext, stInPool, hu0, hin, hmem,
        hnn _ hpm, hnn _ hnm, upd, hup, hun]

theorem popHead_cons {s : St} {x : Nat} {r : List Nat} (h : WFrel s (x :: r)) :
    ∃ s', popHead s = some (s', x) ∧ WFrel s' r ∧ Frame s s' (x :: r) x 0 ∧ s'.prev x = 0 ∧ s'.next x = 0 := by
  obtain ⟨s', he, rest⟩ := remove_mem (as := []) h
  exact ⟨s', by simp [(pop_eq_remove (as := []) h).1 rfl, he], rest⟩

theorem popTail_snoc {s : St} {x : Nat} {r : List Nat} (h : WFrel s (r ++ [x])) :
    ∃ s', popTail s = some (s', x) ∧ WFrel s' r ∧ Frame s s' (r ++ [x]) x 0 ∧ s'.prev x = 0 ∧ s'.next x = 0 := by
  obtain ⟨s', he, rest⟩ := remove_mem (bs := []) h
  exact ⟨s', by simp [(pop_eq_remove (bs := []) h).2 rfl, he], by simpa using rest⟩

/-! ### the specification: a double-ended queue of distinct non-null units -/

/-- abstraction function: the units reached from `p_head` in `num_threads` steps of `p_next` -/
def abs (s : St) : List Nat := members s

/-- one deque operation on the abstract content; `none` = outside the contract
(push of NULL or of a unit already queued; remove of NULL from a non-empty queue) -/
def specStep (xs : List Nat) : Op → Option (List Nat × Out)
  | .pushHead u => if u = 0 ∨ u ∈ xs then none else some (u :: xs, .unit)
  | .pushTail u => if u = 0 ∨ u ∈ xs then none else some (xs ++ [u], .unit)
  | .popHead => some (xs.tail, .popped (xs.head?.getD 0))
  | .popTail => some (xs.dropLast, .popped (xs.getLast?.getD 0))
  | .remove u =>
    if xs = [] then some (xs, .rc .errPool)
    else if u = 0 then none
    else if u ∈ xs then some (xs.erase u, .rc .success)
    else some (xs, .rc .errPool)
  | .size => some (xs, .size xs.length)
  | .isEmpty => some (xs, .empty xs.isEmpty)

def specRun (xs : List Nat) : List Op → Option (List Nat × List Out)
  | [] => some (xs, [])
  | op :: ops =>
    match specStep xs op with
    | none => none
    | some (xs1, o) =>
      match specRun xs1 ops with
      | none => none
      | some (xs2, os) => some (xs2, o :: os)

/-- units outside the queue are as `ABTI_unit_init_builtin` / pop / remove leave them -/
def Outside (s : St) (xs : List Nat) : Prop := ∀ u, u ∉ xs → s.inPool u = 0 ∧ s.prev u = 0 ∧ s.next u = 0

/-- the invariant of a queue that owns every queued unit (one pool in isolation) -/
structure Inv (s : St) : Prop where
  wf : WFrel s (abs s)
  out : Outside s (abs s)

theorem Inv.of {s : St} {xs : List Nat} (h : WFrel s xs) (ho : Outside s xs) : Inv s ∧ abs s = xs := by
  have : abs s = xs := h.members_eq
  exact ⟨⟨this ▸ h, this ▸ ho⟩, this⟩

theorem Inv.inPool_iff {s : St} (hi : Inv s) (u : Nat) : s.inPool u = 1 ↔ u ∈ abs s := by
  constructor
  · intro h1; apply Classical.byContradiction; intro hn; have := (hi.out u hn).1; omega
  · exact hi.wf.inp u

/-- all units clean (what `ABTI_unit_init_builtin` establishes for each) -/
def Clean (s : St) : Prop := ∀ u, s.inPool u = 0 ∧ s.prev u = 0 ∧ s.next u = 0

theorem init_inv {s : St} (hc : Clean s) : Inv (init s) ∧ abs (init s) = [] :=
  Inv.of (init_spec s).1 (fun u _ => hc u)

theorem fresh_clean : Clean St.fresh := fun _ => ⟨rfl, rfl, rfl⟩

/-- what the caller of a queue function must guarantee, in terms of the queue it calls it on:
push: a valid unit whose `is_in_pool` flag is clear; remove from a non-empty queue: a valid unit
that, if its flag is set, is in *this* queue -/
def Contract (s : St) (xs : List Nat) : Op → Prop
  | .pushHead u => PushPre s u
  | .pushTail u => PushPre s u
  | .remove u => xs = [] ∨ (u ≠ 0 ∧ (s.inPool u = 1 → u ∈ xs))
  | _ => True

/-- the unit an operation brings in from outside the queue -/
def touched : Op → List Nat
  | .pushHead u => [u]
  | .pushTail u => [u]
  | _ => []

/-- everything one operation does, stated locally.  (No assumption about units outside this queue: this is what
the multi-queue theorem and the concurrent model build on.) -/
structure LocalEffect (s s' : St) (xs xs' : List Nat) (op : Op) : Prop where
  wf : WFrel s' xs'
  frame : ∀ x, x ∉ touched op ++ xs → s'.prev x = s.prev x ∧ s'.next x = s.next x ∧ s'.inPool x = s.inPool x
  sub : ∀ x ∈ xs', x ∈ touched op ++ xs
  left : ∀ x ∈ xs, x ∉ xs' → s'.prev x = 0 ∧ s'.next x = 0 ∧ s'.inPool x = 0

theorem LocalEffect.refl {s : St} {xs : List Nat} {op : Op} (h : WFrel s xs) : LocalEffect s s xs xs op :=
  ⟨h, fun _ _ => ⟨rfl, rfl, rfl⟩, fun _ hx => List.mem_append_right _ hx, fun _ hx hn => absurd hx hn⟩

theorem frame_to_local {s s' : St} {fp : List Nat} {t v : Nat} (hf : Frame s s' fp t v) (ht : t ∈ fp) :
    ∀ x, x ∉ fp → s'.prev x = s.prev x ∧ s'.next x = s.next x ∧ s'.inPool x = s.inPool x := by
  intro x hx
  have hxt : x ≠ t := fun e => hx (e ▸ ht)
  refine ⟨hf.prev x hx, hf.next x hx, ?_⟩
  rw [hf.inPool]; simp [upd, hxt]

theorem push_local {s s' : St} {xs xs' : List Nat} {u : Nat} {op : Op} (hop : touched op = [u]) (hw : WFrel s' xs')
    (hm : ∀ x, x ∈ xs' ↔ x = u ∨ x ∈ xs) (hf : Frame s s' (u :: xs) u 1) : LocalEffect s s' xs xs' op :=
  ⟨hw, by simpa [hop] using frame_to_local hf (by simp), fun x hx => by simpa [hop] using (hm x).mp hx,
    fun x hx hn => absurd ((hm x).mpr (.inr hx)) hn⟩

theorem leave_local {s s' : St} {as bs : List Nat} {u : Nat} {op : Op} (hop : touched op = [])
    (hs : WFrel s' (as ++ bs) ∧ Frame s s' (as ++ u :: bs) u 0 ∧ s'.prev u = 0 ∧ s'.next u = 0) :
    LocalEffect s s' (as ++ u :: bs) (as ++ bs) op := by
  obtain ⟨hw, hf, hp, hn⟩ := hs
  refine ⟨hw, by simpa [hop] using frame_to_local hf (by simp), fun x hx => by simp [hop]; grind, fun x hx hnx => ?_⟩
  have : x = u := by grind
  subst this
  exact ⟨hp, hn, by rw [hf.inPool]; simp⟩

theorem step_local {s : St} {xs : List Nat} (h : WFrel s xs) (op : Op) :
    (Contract s xs op → ∃ s' xs' o, step s op = some (s', o) ∧ specStep xs op = some (xs', o) ∧ LocalEffect s s' xs xs' op) ∧
    (¬ Contract s xs op → step s op = none) := by
  cases op with
  | pushHead u =>
    refine ⟨fun hp => ?_, fun hn => by simp [step, pushHead, show ¬ PushPre s u from hn]⟩
    obtain ⟨s', he, hw', hf⟩ := push_spec h hp true
    exact ⟨s', u :: xs, .unit, by simpa [step] using he, by simp [specStep, hp.1, h.not_mem_of_pre hp],
      push_local rfl hw' (by simp) hf⟩
  | pushTail u =>
    refine ⟨fun hp => ?_, fun hn => by simp [step, pushTail, show ¬ PushPre s u from hn]⟩
    obtain ⟨s', he, hw', hf⟩ := push_spec h hp false
    exact ⟨s', xs ++ [u], .unit, by simpa [step] using he, by simp [specStep, hp.1, h.not_mem_of_pre hp],
      push_local rfl hw' (by simp [or_comm]) hf⟩
  | popHead =>
    refine ⟨fun _ => ?_, fun hn => absurd trivial hn⟩
    cases xs with
    | nil => exact ⟨s, [], .popped 0, by simp [step, (pop_nil h).1], by simp [specStep], LocalEffect.refl h⟩
    | cons x r =>
      obtain ⟨s', he, hs'⟩ := popHead_cons h
      exact ⟨s', r, .popped x, by simp [step, he], by simp [specStep], leave_local (as := []) rfl hs'⟩
  | popTail =>
    refine ⟨fun _ => ?_, fun hn => absurd trivial hn⟩
    by_cases hx : xs = []
    · subst hx
      exact ⟨s, [], .popped 0, by simp [step, (pop_nil h).2], by simp [specStep], LocalEffect.refl h⟩
    · obtain ⟨r, x, rfl⟩ := exists_snoc hx
      obtain ⟨s', he, hs'⟩ := popTail_snoc h
      exact ⟨s', r, .popped x, by simp [step, he], by simp [specStep], by simpa using leave_local (op := .popTail) (bs := []) rfl (by simpa using hs')⟩
  | remove u =>
    constructor
    · intro hc
      by_cases hx : xs = []
      · subst hx
        exact ⟨s, [], .rc .errPool, by simp [step, remove_nil h], by simp [specStep], LocalEffect.refl h⟩
      · obtain ⟨hu0, hq⟩ : u ≠ 0 ∧ (s.inPool u = 1 → u ∈ xs) := hc.resolve_left hx
        by_cases hm : u ∈ xs
        · obtain ⟨as, bs, rfl⟩ := List.append_of_mem hm
          obtain ⟨s', he, hs'⟩ := remove_mem h
          have her : (as ++ u :: bs).erase u = as ++ bs := by
            rw [List.erase_append_right _ fun hm => h.unit_facts.2.2.2.2.1 (List.mem_append_left _ hm), List.erase_cons_head]
          exact ⟨s', as ++ bs, .rc .success, by simp [step, he], by simp [specStep, hu0, her], leave_local rfl hs'⟩
        · exact ⟨s, xs, .rc .errPool, by simp [step, remove_not_in_pool h hx hu0 (mt hq hm)], by simp [specStep, hx, hu0, hm],
            LocalEffect.refl h⟩
    · intro hn
      simp only [Contract, not_or, not_and, Classical.not_imp] at hn
      obtain ⟨hx, hn⟩ := hn
      by_cases hu : u = 0
      · subst hu; simp [step, remove_null h hx]
      · obtain ⟨hf, hm⟩ := hn hu
        simp [step, remove_foreign h hx hu hf hm]
  | size =>
    exact ⟨fun _ => ⟨s, xs, .size xs.length, by simp [step, getSize, h.num], by simp [specStep], LocalEffect.refl h⟩,
      fun hn => absurd trivial hn⟩
  | isEmpty =>
    refine ⟨fun _ => ⟨s, xs, .empty xs.isEmpty, ?_, by simp [specStep], LocalEffect.refl h⟩, fun hn => absurd trivial hn⟩
    have he : isEmptyQ s = xs.isEmpty := by
      simp only [isEmptyQ, h.empty]
      cases xs <;> simp
    simp [step, he]

theorem specStep_touched {xs xs' : List Nat} {op : Op} {o : Out} (h : specStep xs op = some (xs', o)) :
    ∀ x ∈ touched op, x ∈ xs' := by
  cases op <;> simp only [touched, List.not_mem_nil, false_imp_iff, implies_true] <;>
    (simp only [specStep] at h; split at h <;> simp at h; simp [← h.1])

theorem contract_iff_spec {s : St} {xs : List Nat} (h : WFrel s xs) (ho : Outside s xs) (op : Op) :
    Contract s xs op ↔ specStep xs op ≠ none := by
  have hpush : ∀ u, PushPre s u ↔ ¬ (u = 0 ∨ u ∈ xs) := fun u =>
    ⟨fun hp hc => hc.elim hp.1 (h.not_mem_of_pre hp), fun hc => ⟨fun e => hc (Or.inl e), (ho u (fun hm => hc (Or.inr hm))).1⟩⟩
  cases op with
  | pushHead u => simp [Contract, specStep, hpush]
  | pushTail u => simp [Contract, specStep, hpush]
  | remove u =>
    by_cases hx : xs = [] <;> by_cases hu : u = 0 <;> by_cases hm : u ∈ xs <;> simp [Contract, specStep, hx, hu, hm]
    have := (ho u hm).1; omega
  | _ => simp [Contract, specStep]

/-- if it left it was unlinked, otherwise it was not written -/
theorem LocalEffect.clean {s s' : St} {xs xs' : List Nat} {op : Op} (hl : LocalEffect s s' xs xs' op)
    (ht : ∀ x ∈ touched op, x ∈ xs') {v : Nat} (hv : v ∉ xs')
    (hc : v ∉ xs → s.inPool v = 0 ∧ s.prev v = 0 ∧ s.next v = 0) : s'.inPool v = 0 ∧ s'.prev v = 0 ∧ s'.next v = 0 := by
  by_cases hx : v ∈ xs
  · have := hl.left v hx hv; exact ⟨this.2.2, this.1, this.2.1⟩
  · have := hl.frame v (by simp only [List.mem_append, not_or]; exact ⟨fun h => hv (ht v h), hx⟩)
    rw [this.1, this.2.1, this.2.2]; exact hc hx

/-- **one step**: the pointer-level operation is defined exactly when the deque operation is,
returns the deque's result, and leaves a state whose abstraction is the deque's new content -/
theorem step_refines {s : St} (hi : Inv s) (op : Op) :
    match specStep (abs s) op with
    | none => step s op = none
    | some (xs', o) => ∃ s', step s op = some (s', o) ∧ Inv s' ∧ abs s' = xs' := by
  obtain ⟨hdef, hund⟩ := step_local hi.wf op
  have hc := contract_iff_spec hi.wf hi.out op
  split
  next hs => exact hund (fun h => hc.mp h hs)
  next xs' o hs =>
    obtain ⟨s', xs'', o', he, hs', hl⟩ := hdef (hc.mpr (by simp [hs]))
    rw [hs] at hs'; cases hs'
    have := Inv.of hl.wf fun v hv => hl.clean (specStep_touched hs) hv (hi.out v)
    exact ⟨s', he, this.1, this.2⟩

/-- **every operation sequence**: the same -/
theorem run_refines (ops : List Op) {s : St} (hi : Inv s) :
    match specRun (abs s) ops with
    | none => runOps s ops = none
    | some (xs', os) => ∃ s', runOps s ops = some (s', os) ∧ Inv s' ∧ abs s' = xs' := by
  induction ops generalizing s with
  | nil => simp [specRun, runOps, hi]
  | cons op ops ih =>
    have h1 := step_refines hi op
    simp only [specRun, runOps]
    split at h1
    next hs => simp [h1]
    next xs1 o hs =>
      obtain ⟨s1, he, hi1, rfl⟩ := h1
      have h2 := ih hi1
      simp only [he]
      split at h2
      next hr => simp [h2]
      next xs2 os hr => obtain ⟨s2, he2, hi2, ha2⟩ := h2; simp [he2, hi2, ha2]

/-! ### consequences on the specification level (pure lists) -/

def pushedStep : Op → List Nat
  | .pushHead u => [u]
  | .pushTail u => [u]
  | _ => []

/-- the unit an operation hands out: a non-NULL pop result, or the unit of a successful remove -/
def leftStep : Op → Out → List Nat
  | .popHead, .popped u => if u = 0 then [] else [u]
  | .popTail, .popped u => if u = 0 then [] else [u]
  | .remove u, .rc .success => [u]
  | _, _ => []

def pushedOf (ops : List Op) : List Nat := ops.flatMap pushedStep

def leftOf : List Op → List Out → List Nat
  | op :: ops, o :: os => leftStep op o ++ leftOf ops os
  | _, _ => []

def Good (xs : List Nat) : Prop := xs.Nodup ∧ 0 ∉ xs

theorem specStep_some {xs xs' : List Nat} {op : Op} {o : Out} (h : specStep xs op = some (xs', o)) :
    match op with
    | .pushHead u => u ≠ 0 ∧ u ∉ xs ∧ xs' = u :: xs ∧ o = .unit
    | .pushTail u => u ≠ 0 ∧ u ∉ xs ∧ xs' = xs ++ [u] ∧ o = .unit
    | .popHead => xs' = xs.tail ∧ o = .popped (xs.head?.getD 0)
    | .popTail => xs' = xs.dropLast ∧ o = .popped (xs.getLast?.getD 0)
    | .remove u => (u ∈ xs ∧ xs' = xs.erase u ∧ o = .rc .success) ∨ (xs' = xs ∧ o = .rc .errPool)
    | .size => xs' = xs ∧ o = .size xs.length
    | .isEmpty => xs' = xs ∧ o = .empty xs.isEmpty := by
  cases op <;> grind [specStep]

theorem specStep_good {xs xs' : List Nat} {op : Op} {o : Out} (hg : Good xs)
    (h : specStep xs op = some (xs', o)) : Good xs' := by
  obtain ⟨hnd, h0⟩ := hg
  have hs := specStep_some h
  cases op with
  | pushHead u => obtain ⟨hu, hm, rfl, _⟩ := hs; exact ⟨List.nodup_cons.mpr ⟨hm, hnd⟩, by simp [h0, Ne.symm hu]⟩
  | pushTail u => obtain ⟨hu, hm, rfl, _⟩ := hs; exact ⟨nodup_snoc.mpr ⟨hm, hnd⟩, by simp [h0, Ne.symm hu]⟩
  | popHead => obtain ⟨rfl, _⟩ := hs; exact ⟨hnd.sublist (List.tail_sublist xs), fun hm => h0 (List.mem_of_mem_tail hm)⟩
  | popTail =>
    obtain ⟨rfl, _⟩ := hs
    exact ⟨hnd.sublist (List.dropLast_sublist xs), fun hm => h0 ((List.dropLast_sublist xs).subset hm)⟩
  | remove u =>
    rcases hs with ⟨_, rfl, _⟩ | ⟨rfl, _⟩
    · exact ⟨hnd.erase u, fun hm => h0 (List.mem_of_mem_erase hm)⟩
    · exact ⟨hnd, h0⟩
  | size | isEmpty => obtain ⟨rfl, _⟩ := hs; exact ⟨hnd, h0⟩

/-- one step conserves every unit: before + inserted = handed out + after (as multisets) -/
theorem specStep_count {xs xs' : List Nat} {op : Op} {o : Out} (hg : Good xs)
    (h : specStep xs op = some (xs', o)) (a : Nat) :
    List.count a xs + List.count a (pushedStep op) = List.count a (leftStep op o) + List.count a xs' := by
  obtain ⟨hnd, h0⟩ := hg
  have hs := specStep_some h
  cases op with
  | pushHead u => obtain ⟨_, _, rfl, rfl⟩ := hs; simp [pushedStep, leftStep, List.count_cons]
  | pushTail u => obtain ⟨_, _, rfl, rfl⟩ := hs; simp [pushedStep, leftStep, List.count_cons, List.count_append]
  | popHead =>
    obtain ⟨rfl, rfl⟩ := hs
    cases xs with
    | nil => simp [pushedStep, leftStep]
    | cons x r =>
      have hx : x ≠ 0 := fun e => h0 (by simp [e])
      simp [pushedStep, leftStep, hx, List.count_cons]; omega
  | popTail =>
    obtain ⟨rfl, rfl⟩ := hs
    by_cases hx : xs = []
    · subst hx; simp [pushedStep, leftStep]
    · obtain ⟨r, x, rfl⟩ := exists_snoc hx
      have hx0 : x ≠ 0 := fun e => h0 (by simp [e])
      simp [pushedStep, leftStep, hx0, List.count_cons, List.count_append]; omega
  | remove u =>
    rcases hs with ⟨hm, rfl, rfl⟩ | ⟨rfl, rfl⟩
    · simp only [pushedStep, leftStep, List.count_nil, Nat.add_zero, List.count_cons, List.count_erase]
      by_cases e : u = a
      · subst e
        have : 0 < List.count u xs := List.count_pos_iff.mpr hm
        simp; omega
      · simp [e]
    · simp [pushedStep, leftStep]
  | size | isEmpty => obtain ⟨rfl, rfl⟩ := hs; simp [pushedStep, leftStep]

theorem specRun_cons {xs xs2 : List Nat} {op : Op} {ops : List Op} {os : List Out}
    (h : specRun xs (op :: ops) = some (xs2, os)) :
    ∃ xs1 o os', specStep xs op = some (xs1, o) ∧ specRun xs1 ops = some (xs2, os') ∧ os = o :: os' := by
  simp only [specRun] at h
  split at h
  · cases h
  next xs1 o hs =>
    split at h <;> cases h
    next hr => exact ⟨xs1, o, _, hs, hr, rfl⟩

theorem specRun_good {ops : List Op} {xs xs' : List Nat} {os : List Out} (hg : Good xs)
    (h : specRun xs ops = some (xs', os)) : Good xs' := by
  induction ops generalizing xs os with
  | nil => simp [specRun] at h; exact h.1 ▸ hg
  | cons op ops ih =>
    obtain ⟨xs1, o, os', h1, h2, rfl⟩ := specRun_cons h
    exact ih (specStep_good hg h1) h2

theorem specRun_count {ops : List Op} {xs xs' : List Nat} {os : List Out} (hg : Good xs)
    (h : specRun xs ops = some (xs', os)) (a : Nat) :
    List.count a xs + List.count a (pushedOf ops) = List.count a (leftOf ops os) + List.count a xs' := by
  induction ops generalizing xs os with
  | nil => simp [specRun] at h; obtain ⟨rfl, rfl⟩ := h; simp [pushedOf, leftOf]
  | cons op ops ih =>
    obtain ⟨xs1, o, os', h1, h2, rfl⟩ := specRun_cons h
    have e1 := specStep_count hg h1 a
    have e2 := ih (specStep_good hg h1) h2
    simp only [pushedOf, List.flatMap_cons, List.count_append, leftOf] at e2 ⊢
    omega

theorem good_nil : Good ([] : List Nat) := ⟨by simp, by simp⟩

theorem specRun_perm {ops : List Op} {xs xs' : List Nat} {os : List Out} (hg : Good xs)
    (h : specRun xs ops = some (xs', os)) : (xs ++ pushedOf ops).Perm (leftOf ops os ++ xs') :=
  List.perm_iff_count.mpr fun a => by simpa [List.count_append] using specRun_count hg h a

/-- operations of a FIFO client: enqueue at the tail, dequeue at the head (queries allowed) -/
def FifoOp : Op → Prop
  | .pushTail _ => True
  | .popHead => True
  | .size => True
  | .isEmpty => True
  | _ => False

theorem specRun_fifo {ops : List Op} {xs xs' : List Nat} {os : List Out} (hg : Good xs)
    (hf : ∀ op ∈ ops, FifoOp op) (h : specRun xs ops = some (xs', os)) :
    xs ++ pushedOf ops = leftOf ops os ++ xs' := by
  induction ops generalizing xs os with
  | nil => simp [specRun] at h; obtain ⟨rfl, rfl⟩ := h; simp [pushedOf, leftOf]
  | cons op ops ih =>
    obtain ⟨xs1, o, os', h1, h2, rfl⟩ := specRun_cons h
    have ih' := ih (specStep_good hg h1) (fun op hm => hf op (List.mem_cons_of_mem _ hm)) h2
    have hop := hf op (by simp)
    simp only [pushedOf, List.flatMap_cons, leftOf] at ih' ⊢
    cases op with
    | pushTail u =>
      obtain ⟨_, _, rfl, rfl⟩ := specStep_some h1
      simp only [pushedStep, leftStep, List.nil_append]
      rw [← ih']; simp
    | popHead =>
      obtain ⟨rfl, rfl⟩ := specStep_some h1
      cases xs with
      | nil => simpa [pushedStep, leftStep] using ih'
      | cons x r =>
        have hx : x ≠ 0 := fun e => hg.2 (by simp [e])
        simp only [pushedStep, leftStep, List.head?_cons, Option.getD_some, hx, if_false, List.nil_append,
          List.tail_cons, List.cons_append] at ih' ⊢
        rw [← ih']
    | size | isEmpty => obtain ⟨rfl, rfl⟩ := specStep_some h1; simpa [pushedStep, leftStep] using ih'
    | pushHead u | popTail | remove u => exact absurd hop (by simp [FifoOp])

theorem Inv.good {s : St} (hi : Inv s) : Good (abs s) :=
  ⟨hi.wf.nodup, fun hm => hi.wf.nonnull 0 hm rfl⟩

theorem run_refines_some {ops : List Op} {s s' : St} {os : List Out} (hi : Inv s)
    (h : runOps s ops = some (s', os)) : specRun (abs s) ops = some (abs s', os) ∧ Inv s' := by
  have hr := run_refines ops hi
  split at hr
  · simp [hr] at h
  next xs' os' hs =>
    obtain ⟨s'', he, hi', rfl⟩ := hr
    rw [he] at h; cases h
    exact ⟨hs, hi'⟩

/-! ### several queues over one set of units -/

def World.abs (w : World) (i : Nat) : List Nat := TQ.abs (w.get i)

/-- every queue is well formed,
a unit is in at most one queue, `is_in_pool` = 1 exactly for queued units, unqueued units are unlinked -/
structure WInv (w : World) : Prop where
  wf : ∀ i, WFrel (w.get i) (w.abs i)
  disj : ∀ i j u, u ∈ w.abs i → u ∈ w.abs j → i = j
  out : ∀ u, (∀ i, u ∉ w.abs i) → w.inPool u = 0 ∧ w.prev u = 0 ∧ w.next u = 0

theorem World.get_put_same (w : World) (i : Nat) (s : St) : (w.put i s).get i = s := by
  simp [World.get, World.put]

theorem World.get_put_other (w : World) {i j : Nat} (s : St) (h : j ≠ i) :
    (w.put i s).get j = { w.get j with prev := s.prev, next := s.next, inPool := s.inPool } := by
  simp [World.get, World.put, upd, h]

/-- a queue does not notice writes to units it does not hold -/
theorem WFrel.transfer {s s' : St} {ys : List Nat} (h : WFrel s ys)
    (hq : s'.num = s.num ∧ s'.head = s.head ∧ s'.tail = s.tail ∧ s'.isEmpty = s.isEmpty)
    (hag : ∀ x ∈ ys, s'.prev x = s.prev x ∧ s'.next x = s.next x ∧ s'.inPool x = s.inPool x) : WFrel s' ys := by
  refine ⟨?_, by rw [hq.1]; exact h.num, by rw [hq.2.2.2]; exact h.empty, fun u hu => by rw [(hag u hu).2.2]; exact h.inp u hu⟩
  rw [hq.2.1, hq.2.2.1]
  exact (circ_congr (fun x hx => (hag x hx).1) (fun x hx => (hag x hx).2.1)).mpr h.circ

theorem WInv.inPool_iff {w : World} (hi : WInv w) (u : Nat) : w.inPool u = 1 ↔ ∃ i, u ∈ w.abs i := by
  constructor
  · intro h1
    apply Classical.byContradiction
    intro hn
    have := (hi.out u (fun i hm => hn ⟨i, hm⟩)).1
    omega
  · rintro ⟨i, hm⟩; exact (hi.wf i).inp u hm

/-- the contract in terms of the abstract contents: a pushed unit is non-NULL and in no queue; a unit
removed from a non-empty queue is non-NULL and not in another queue -/
theorem WInv.contract_iff {w : World} (hi : WInv w) (i : Nat) (op : Op) :
    Contract (w.get i) (w.abs i) op ↔
      match op with
      | .pushHead u => u ≠ 0 ∧ ∀ j, u ∉ w.abs j
      | .pushTail u => u ≠ 0 ∧ ∀ j, u ∉ w.abs j
      | .remove u => w.abs i = [] ∨ (u ≠ 0 ∧ ∀ j, u ∈ w.abs j → j = i)
      | _ => True := by
  have hpush : ∀ u, PushPre (w.get i) u ↔ u ≠ 0 ∧ ∀ j, u ∉ w.abs j := by
    refine fun u => ⟨fun ⟨h0, hz⟩ => ⟨h0, fun j hm => ?_⟩, fun ⟨h0, hn⟩ => ⟨h0, (hi.out u hn).1⟩⟩
    have : w.inPool u = 1 := (hi.wf j).inp u hm
    have : w.inPool u = 0 := hz
    omega
  cases op with
  | pushHead u => exact hpush u
  | pushTail u => exact hpush u
  | remove u =>
    have hin := hi.inPool_iff u
    have hwf : ∀ j, u ∈ w.abs j → w.inPool u = 1 := fun j => (hi.wf j).inp u
    have hd := fun j => hi.disj j i u
    show w.abs i = [] ∨ u ≠ 0 ∧ (w.inPool u = 1 → u ∈ w.abs i) ↔ _
    grind
  | _ => simp [Contract]

/-- **one operation on one of many queues**: defined exactly under the contract; every other queue keeps its content -/
theorem world_step {w : World} (hi : WInv w) (i : Nat) (op : Op) :
    (Contract (w.get i) (w.abs i) op →
      ∃ w' o, w.step i op = some (w', o) ∧ WInv w' ∧ specStep (w.abs i) op = some (w'.abs i, o) ∧
        ∀ j, j ≠ i → w'.abs j = w.abs j) ∧
    (¬ Contract (w.get i) (w.abs i) op → w.step i op = none) := by
  obtain ⟨hdef, hund⟩ := step_local (hi.wf i) op
  refine ⟨fun hc => ?_, fun hn => by simp [World.step, hund hn]⟩
  obtain ⟨s', xs', o, he, hs, hl⟩ := hdef hc
  have htouch : ∀ x ∈ touched op, ∀ j, x ∉ w.abs j := by
    intro x hx j
    have hc' := (hi.contract_iff i op).mp hc
    cases op with
    | pushHead u | pushTail u => simp [touched] at hx; subst hx; exact hc'.2 j
    | _ => simp [touched] at hx
  have hfoot : ∀ j, j ≠ i → ∀ x ∈ w.abs j, x ∉ touched op ++ w.abs i := by
    intro j hj x hx hm
    rcases List.mem_append.mp hm with h1 | h1
    · exact htouch x h1 j hx
    · exact hj (hi.disj j i x hx h1)
  have hwf_other : ∀ j, j ≠ i → WFrel ((w.put i s').get j) (w.abs j) := by
    intro j hj
    rw [World.get_put_other w s' hj]
    exact (hi.wf j).transfer ⟨rfl, rfl, rfl, rfl⟩ (fun x hx => hl.frame x (hfoot j hj x hx))
  have habs_i : (w.put i s').abs i = xs' := by
    simp only [World.abs, World.get_put_same]; exact hl.wf.members_eq
  have habs_o : ∀ j, j ≠ i → (w.put i s').abs j = w.abs j := fun j hj => (hwf_other j hj).members_eq
  refine ⟨w.put i s', o, by simp [World.step, he], ⟨?_, ?_, ?_⟩, by rw [habs_i]; exact hs, habs_o⟩
  · intro j
    by_cases hj : j = i
    · subst hj; rw [habs_i, World.get_put_same]; exact hl.wf
    · rw [habs_o j hj]; exact hwf_other j hj
  · intro j k u hj hk
    have := hl.sub u
    have := hi.disj j k u
    by_cases hji : j = i <;> by_cases hki : k = i <;> grind
  · intro u hu
    have hui : u ∉ xs' := habs_i ▸ hu i
    have huo : ∀ j, j ≠ i → u ∉ w.abs j := fun j hj => habs_o j hj ▸ hu j
    exact hl.clean (specStep_touched hs) hui fun hold => hi.out u fun j => if hj : j = i then hj ▸ hold else huo j hj

def World.initial : World :=
  { q := fun _ => ⟨0, 0, 0, 1⟩, prev := fun _ => 0, next := fun _ => 0, inPool := fun _ => 0 }

theorem World.initial_abs (i : Nat) : World.initial.abs i = [] := rfl

theorem World.initial_inv : WInv World.initial := by
  refine ⟨fun i => ?_, fun i j u hu => by simp [World.initial_abs] at hu, fun u _ => ⟨rfl, rfl, rfl⟩⟩
  rw [World.initial_abs]
  exact ⟨circ_nil, rfl, rfl, by simp⟩

def World.run (w : World) : List (Nat × Op) → Option (World × List Out)
  | [] => some (w, [])
  | (i, op) :: r =>
    match w.step i op with
    | none => none
    | some (w1, o) =>
      match World.run w1 r with
      | none => none
      | some (w2, os) => some (w2, o :: os)

/-- the specification: independent deques, one per queue index -/
def specWorldRun (L : Nat → List Nat) : List (Nat × Op) → Option ((Nat → List Nat) × List Out)
  | [] => some (L, [])
  | (i, op) :: r =>
    match specStep (L i) op with
    | none => none
    | some (xs', o) =>
      match specWorldRun (upd L i xs') r with
      | none => none
      | some (L2, os) => some (L2, o :: os)

theorem world_run_refines (ops : List (Nat × Op)) {w w' : World} {os : List Out} (hi : WInv w)
    (h : w.run ops = some (w', os)) :
    WInv w' ∧ specWorldRun w.abs ops = some (w'.abs, os) := by
  induction ops generalizing w os with
  | nil => cases h; exact ⟨hi, rfl⟩
  | cons p r ih =>
    obtain ⟨i, op⟩ := p
    simp only [World.run] at h
    split at h
    · cases h
    next w1 o hst =>
      split at h <;> cases h
      next hr =>
      obtain ⟨hdef, hund⟩ := world_step hi i op
      obtain ⟨w1', o', he, hi1, hs, hoth⟩ := hdef (Classical.byContradiction fun hn => by simp [hund hn] at hst)
      rw [hst] at he; cases he
      obtain ⟨hi2, hs2⟩ := ih hi1 hr
      have hupd : upd w.abs i (w1.abs i) = w1.abs := by
        funext j
        by_cases hj : j = i
        · subst hj; simp
        · simp [upd, hj, hoth j hj]
      exact ⟨hi2, by simp only [specWorldRun, hs, hupd, hs2]⟩
end ArgoVerif.Model.TQ

/-! ### interpretation of the generated pool table -/
namespace ArgoVerif.Model.Pool

/-- which queue function a pool operation calls under context `ctx`, for a RANDWS push-head mask `mh`
and pop-tail mask `mt` (FIFO / FIFO_WAIT ignore the context) -/
def specCallM (mh mt : Nat) (k : Kind) (sl : Slot) (ctx : Nat) : Call :=
  match sl with
  | .remove => .remove
  | .push | .pushMany => if k = .randws ∧ ctx &&& mh ≠ 0 then .pushHead else .pushTail
  | .pop | .popWait | .popMany => if k = .randws ∧ ctx &&& mt ≠ 0 then .popTail else .popHead
  | .popTimedwait => .popHead      -- no context parameter in this (deprecated) interface

/-- the same as a table shape: context tests and callee per call site -/
def expectedShapeM (mh mt : Nat) (k : Kind) (sl : Slot) : List (List Cond × Call) :=
  match sl with
  | .remove => [([], .remove)]
  | .push | .pushMany =>
    if k = .randws then [([⟨mh, true⟩], .pushHead), ([⟨mh, false⟩], .pushTail)] else [([], .pushTail)]
  | .pop | .popWait | .popMany =>
    if k = .randws then [([⟨mt, true⟩], .popTail), ([⟨mt, false⟩], .popHead)] else [([], .popHead)]
  | .popTimedwait => [([], .popHead)]

def shape (s : Site) : List Cond × Call := (s.conds, s.call)

def enabledShape (sh : List (List Cond × Call)) (ctx : Nat) : List Call :=
  (sh.filter fun p => p.1.all (·.holds ctx)).map (·.2)

theorem enabled_eq_shape (sites : List Site) (ctx : Nat) : enabled sites ctx = enabledShape (sites.map shape) ctx := by
  induction sites with
  | nil => rfl
  | cons s r ih =>
    simp only [enabled, enabledShape, List.filter_cons, List.map_cons, shape] at ih ⊢
    split <;> simp_all

theorem enabledShape_expected (mh mt : Nat) (k : Kind) (sl : Slot) (ctx : Nat) :
    enabledShape (expectedShapeM mh mt k sl) ctx = [specCallM mh mt k sl ctx] := by
  have huncond : ∀ c : Call, enabledShape [([], c)] ctx = [c] := fun c => by
    simp [enabledShape, List.filter_cons]
  have hmask : ∀ (m : Nat) (c1 c2 : Call),
      enabledShape [([⟨m, true⟩], c1), ([⟨m, false⟩], c2)] ctx = [if ctx &&& m ≠ 0 then c1 else c2] := by
    intro m c1 c2
    by_cases h : ctx &&& m = 0 <;> simp [enabledShape, Cond.holds, h]
  cases sl <;> cases k <;> simp only [expectedShapeM, specCallM, reduceCtorEq, if_false, if_true, false_and, true_and] <;>
    first | exact huncond _ | exact hmask _ _ _


/-! ### the multi-unit pool functions on the abstract content -/
open ArgoVerif.Model.TQ

/-- the queue content as seen from the end a pop takes from -/
def fromEnd (tl : Bool) (xs : List Nat) : List Nat := if tl then xs.reverse else xs

theorem pop_end (tl : Bool) {s : St} (hi : Inv s) :
    ∃ s1, popWith (if tl then .popTail else .popHead) s = some (s1, (fromEnd tl (abs s)).head?.getD 0) ∧ Inv s1 ∧
      fromEnd tl (abs s1) = (fromEnd tl (abs s)).tail := by
  cases tl
  · simpa [fromEnd, step, popWith, specStep] using step_refines hi .popHead
  · simpa [fromEnd, step, popWith, specStep, List.head?_reverse, List.tail_reverse] using step_refines hi .popTail

/-- `pop_many(max)`: the first `max` units seen from that end (fewer if the queue runs empty), the others stay -/
theorem popLoop_spec (tl : Bool) (n : Nat) {s : St} (hi : Inv s) (acc : List Nat) :
    ∃ s', popLoop (if tl then .popTail else .popHead) n s acc = some (s', acc.reverse ++ (fromEnd tl (abs s)).take n) ∧
      Inv s' ∧ fromEnd tl (abs s') = (fromEnd tl (abs s)).drop n := by
  induction n generalizing s acc with
  | zero => exact ⟨s, by simp [popLoop], hi, by simp⟩
  | succ n ih =>
    obtain ⟨s1, hp, hi1, ha1⟩ := pop_end tl hi
    cases hx : fromEnd tl (abs s) with
    | nil => exact ⟨s1, by simp [popLoop, hp, hx], hi1, by simp [ha1, hx]⟩
    | cons x t =>
      have hx0 : x ≠ 0 := hi.wf.nonnull x (by
        have : x ∈ fromEnd tl (abs s) := by simp [hx]
        cases tl <;> simpa [fromEnd] using this)
      obtain ⟨s', hl, hi', ha'⟩ := ih hi1 (x :: acc)
      obtain ⟨k, rfl⟩ : ∃ k, x = k + 1 := ⟨x - 1, by omega⟩
      exact ⟨s', by simp [popLoop, hp, hx, hl, ha1], hi', by simp [ha', ha1, hx]⟩

/-- `push_many`: one push per unit in array order, appended at the tail or each in front of the previous at the head -/
theorem push_many (hd : Bool) {s : St} (hi : Inv s) (us : List Nat) (hnd : us.Nodup) (hn : ∀ u ∈ us, u ≠ 0 ∧ u ∉ abs s) :
    ∃ s', us.foldlM (fun s u => pushWith (if hd then .pushHead else .pushTail) s u) s = some s' ∧ Inv s' ∧
      abs s' = if hd then us.reverse ++ abs s else abs s ++ us := by
  induction us generalizing s with
  | nil => exact ⟨s, rfl, hi, by simp⟩
  | cons u r ih =>
    obtain ⟨hu0, hum⟩ := hn u (by simp)
    obtain ⟨hur, hndr⟩ := List.nodup_cons.mp hnd
    obtain ⟨s1, he, hi1, ha1⟩ : ∃ s1, pushWith (if hd then .pushHead else .pushTail) s u = some s1 ∧ Inv s1 ∧
        abs s1 = if hd then u :: abs s else abs s ++ [u] := by
      cases hd
      · simpa [step, pushWith, specStep, hu0, hum] using step_refines hi (.pushTail u)
      · simpa [step, pushWith, specStep, hu0, hum] using step_refines hi (.pushHead u)
    obtain ⟨s', hf, hi', ha'⟩ := ih hi1 hndr fun v hv => by
      have := hn v (List.mem_cons_of_mem _ hv); cases hd <;> simp [ha1] <;> grind
    exact ⟨s', by simp [he, hf], hi', by cases hd <;> simp [ha', ha1]⟩
end ArgoVerif.Model.Pool
