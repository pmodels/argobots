import ArgoVerif.Proofs.KTable
/-
Proofs.KTableRace — the interleaving model of concurrent `ABTI_ktable_set` calls on one
(initially NULL) slot: protocol invariant (slot word, creator, lock), table invariant, their
preservation by every step, soundness of the executable step, two concrete interleavings.
-/
namespace ArgoVerif.Model.KTable
open ArgoVerif

/-! ### classification of program points -/

def scanPos : Pc → Option Nat
  | .walk j => some j
  | .acq j => some j
  | .lwalk j => some j
  | _ => none

def foundPos : Pc → Option Nat
  | .store j => some j
  | .lrel j => some j
  | _ => none

def isPub : Pc → Bool
  | .pub _ _ => true
  | _ => false

def present : Pc → Bool
  | .unlock => true
  | .done true => true
  | _ => false

def usesTbl : Pc → Bool
  | .walk _ | .store _ | .acq _ | .lwalk _ | .lrel _ | .pub _ _ | .unlock | .unlockFail | .done true => true
  | _ => false

def holds : Pc → Bool
  | .lwalk _ | .lrel _ | .pub _ _ | .unlock | .unlockFail => true
  | _ => false

theorem holds_of_isPub {pc : Pc} (h : isPub pc = true) : holds pc = true := by
  cases pc with
  | pub => rfl
  | _ => cases h

def CSt.ks (P : Params) (s : CSt) (t : Nat) : List Nat := (s.ch P t).map (·.keyId)

/-! ### protocol invariant (slot word, creator, lock) -/

structure PInv (P : Params) (s : CSt) : Prop where
  created : s.created = if s.slot = .valid then 1 else 0
  creating : ∀ t, s.pc t = .creating → s.slot = .locked
  creator1 : ∀ t t', s.pc t = .creating → s.pc t' = .creating → t = t'
  spin : ∀ t, s.pc t = .spin → s.slot ≠ .null
  tbl : ∀ t, usesTbl (s.pc t) = true → s.slot = .valid
  nofail : ∀ t, s.pc t ≠ .crashed ∧ s.pc t ≠ .done false ∧ s.pc t ≠ .unlockFail
  lock1 : ∀ t, holds (s.pc t) = true → s.lock = some t
  lock2 : ∀ t, s.lock = some t → holds (s.pc t) = true

theorem pinv_init (P : Params) : PInv P CSt.init := by
  constructor <;> simp [CSt.init, usesTbl, holds]

/-- the clauses of `PInv` that speak of no single caller -/
def Global (s : CSt) : Prop :=
  s.created = (if s.slot = .valid then 1 else 0) ∧ ∀ t t', s.pc t = .creating → s.pc t' = .creating → t = t'

/-- what `PInv` says of one caller `t` whose program point is `p`; `s.pc` does not occur -/
def Local (s : CSt) (t : Nat) (p : Pc) : Prop :=
  (p = .creating → s.slot = .locked) ∧ (p = .spin → s.slot ≠ .null) ∧ (usesTbl p = true → s.slot = .valid) ∧
  (p ≠ .crashed ∧ p ≠ .done false ∧ p ≠ .unlockFail) ∧ (holds p = true ↔ s.lock = some t)

theorem pinv_iff (P : Params) (s : CSt) : PInv P s ↔ Global s ∧ ∀ t, Local s t (s.pc t) := by
  refine ⟨fun h => ?_, fun ⟨g, l⟩ => ?_⟩
  · cases h; grind [Global, Local]
  · constructor <;> grind [Global, Local]

/-- `t` writes only its program point, the table and `lastw`, of which `PInv` says nothing -/
theorem pinv_setPc {P : Params} {s : CSt} {t : Nat} {p₀ p : Pc} {tb : Table} {lw : Nat → Nat} (h : PInv P s)
    (hp : s.pc t = p₀) (hc : p ≠ .creating) (hl : Local s t p₀ → Local s t p) :
    PInv P { s with tbl := tb, lastw := lw, pc := upd s.pc t p } :=
  inv_of_move (pinv_iff P) h rfl fun g l => ⟨⟨g.1, by grind [upd, Global]⟩, hl (hp ▸ l), fun _ _ => id⟩

theorem pinv_step (P : Params) (hf : P.faults = false) (s : CSt) (e : Nat × Act) (s' : CSt)
    (h : PInv P s) (hs : Step P s e s') : PInv P s' := by
  cases hs with
  | spinLocked => exact h
  | casOk | create | createFail | acquire | lrel | unlock | unlockFail | lwalkEndFail | spinNull =>
    -- `casOk` makes a creator: there was none, the slot being NULL
    have hc := h.creating
    refine inv_of_move (pinv_iff P) h rfl fun g l => ⟨?_, ?_, fun b hb lb => ?_⟩
    · grind [upd, Global, Local]
    · simp_all [Local, usesTbl, holds]
    · grind [Global, Local, usesTbl, holds]
  | _ => exact pinv_setPc h (by assumption) (by simp) (by simp_all [Local, usesTbl, holds])

/-! ### table invariant -/

structure TInv (P : Params) (s : CSt) : Prop where
  size : s.slot = .valid → s.tbl.size = P.size
  idx : ∀ i e, e ∈ s.tbl.b i → idx P.size e.keyId = i
  nodup : ∀ i, ((s.tbl.b i).map (·.keyId)).Nodup
  val : ∀ i e, e ∈ s.tbl.b i →
    e.val = P.val (s.lastw e.keyId) ∧ P.key (s.lastw e.keyId) = ⟨e.keyId, e.dtor⟩
  scan : ∀ t j, scanPos (s.pc t) = some j →
    j ≤ (s.ks P t).length ∧ ∀ i, i < j → (s.ks P t)[i]? ≠ some (P.key t).id
  pub : ∀ t, isPub (s.pc t) = true → (P.key t).id ∉ s.ks P t
  found : ∀ t j, foundPos (s.pc t) = some j → (s.ks P t)[j]? = some (P.key t).id
  present : ∀ t, present (s.pc t) = true → (P.key t).id ∈ s.ks P t

theorem tinv_init (P : Params) : TInv P CSt.init := by
  constructor <;> simp [CSt.init, emptyTable, scanPos, isPub, foundPos, present]

/-- `CSt.ks` as a function of the table object -/
def ksOf (P : Params) (tb : Table) (t : Nat) : List Nat := (tb.b (idx P.size (P.key t).id)).map (·.keyId)

/-- the last four clauses of `TInv` for one caller, by program point: what a caller with key id `k`
knows about the key ids `l` of its chain -/
def PcOk (k : Nat) (l : List Nat) : Pc → Prop
  | .walk j | .acq j | .lwalk j => Scanned l k j
  | .store j | .lrel j => l[j]? = some k
  | .pub _ _ => k ∉ l
  | .unlock | .done true => k ∈ l
  | _ => True

theorem pcOk_iff (k : Nat) (l : List Nat) (pc : Pc) : PcOk k l pc ↔
    (∀ j, scanPos pc = some j → Scanned l k j) ∧ (isPub pc = true → k ∉ l) ∧
    (∀ j, foundPos pc = some j → l[j]? = some k) ∧ (KTable.present pc = true → k ∈ l) := by
  cases pc with
  | done ok => cases ok <;> simp [PcOk, scanPos, isPub, foundPos, KTable.present]
  | _ => simp [PcOk, scanPos, isPub, foundPos, KTable.present]

theorem TInv.pcOk {P : Params} {s : CSt} (h : TInv P s) (t : Nat) : PcOk (P.key t).id (ksOf P s.tbl t) (s.pc t) :=
  (pcOk_iff _ _ _).mpr ⟨h.scan t, h.pub t, h.found t, h.present t⟩

theorem TInv.of {P : Params} {s : CSt} (hsz : s.slot = .valid → s.tbl.size = P.size) (hb : BOk P.size s.tbl.b)
    (hval : ∀ i e, e ∈ s.tbl.b i → e.val = P.val (s.lastw e.keyId) ∧ P.key (s.lastw e.keyId) = ⟨e.keyId, e.dtor⟩)
    (hpc : ∀ t, PcOk (P.key t).id (ksOf P s.tbl t) (s.pc t)) : TInv P s :=
  have h := fun t => (pcOk_iff _ _ _).mp (hpc t)
  ⟨hsz, hb.home, hb.nodup, hval, fun t => (h t).1, fun t => (h t).2.1, fun t => (h t).2.2.1, fun t => (h t).2.2.2⟩

/-- what a caller knows stays true when its chain grows at the tail, unless it is about to publish -/
theorem PcOk.append {k : Nat} {l : List Nat} {pc : Pc} (h : PcOk k l pc) (r : List Nat)
    (hp : isPub pc = true → r = []) : PcOk k (l ++ r) pc := by
  cases pc with
  | walk j | acq j | lwalk j => exact Scanned.append h r
  | store j | lrel j => exact getElem?_append_some h r
  | pub j blk => rw [hp rfl, List.append_nil]; exact h
  | unlock => exact List.mem_append_left r h
  | done ok =>
    cases ok with
    | true => exact List.mem_append_left r h
    | false => trivial
  | _ => trivial

theorem pcOk_of_not_usesTbl {k : Nat} {l : List Nat} {pc : Pc} (h : usesTbl pc = false) : PcOk k l pc := by
  cases pc with
  | done ok => cases ok <;> simp_all [usesTbl, PcOk]
  | _ => simp_all [usesTbl, PcOk]

/-- a step of caller `t`, given the table part of the invariant in the new state: the chains have only
grown (none under a caller about to publish), and `t`'s new program point is justified -/
theorem TInv.step {P : Params} {s s' : CSt} (h : TInv P s) (t : Nat) (pc' : Pc) (hpc : s'.pc = upd s.pc t pc')
    (hsz : s'.slot = .valid → s'.tbl.size = P.size) (hb : BOk P.size s'.tbl.b)
    (hval : ∀ i e, e ∈ s'.tbl.b i → e.val = P.val (s'.lastw e.keyId) ∧ P.key (s'.lastw e.keyId) = ⟨e.keyId, e.dtor⟩)
    (hks : ∀ t', t' ≠ t → ∃ r, ksOf P s'.tbl t' = ksOf P s.tbl t' ++ r ∧ (isPub (s.pc t') = true → r = []))
    (ht : PcOk (P.key t).id (ksOf P s'.tbl t) pc') : TInv P s' := by
  refine TInv.of hsz hb hval fun t' => ?_
  rw [hpc]
  by_cases e : t' = t
  · subst e; rw [upd_same]; exact ht
  · obtain ⟨r, hr, hp⟩ := hks t' e
    rw [upd_other _ _ _ _ e, hr]; exact (h.pcOk t').append r hp

theorem TInv.move {P : Params} {s : CSt} (h : TInv P s) {t : Nat} {pc pc' : Pc} {slot' : SlotV} {created' : Nat}
    {lock' : Option Nat} (hpc : s.pc t = pc) (hsl : slot' = .valid → s.slot = .valid)
    (ht : PcOk (P.key t).id (ksOf P s.tbl t) pc → PcOk (P.key t).id (ksOf P s.tbl t) pc') :
    TInv P { s with slot := slot', created := created', lock := lock', pc := upd s.pc t pc' } :=
  h.step t pc' rfl (fun hv => h.size (hsl hv)) ⟨h.idx, h.nodup⟩ h.val
    (fun _ _ => ⟨[], (List.append_nil _).symm, fun _ => rfl⟩) (ht (hpc ▸ h.pcOk t))

/-- `create`: the fresh table replaces the placeholder; nobody else is inside the table yet -/
theorem tinv_create {P : Params} {s : CSt} {t : Nat} (hp : PInv P s) (hpc : s.pc t = .creating) :
    TInv P { s with slot := .valid, tbl := createOk P.g P.size, created := s.created + 1,
                    pc := upd s.pc t (.walk 0) } := by
  refine TInv.of (fun _ => createOk_size _ _) ⟨?_, ?_⟩ ?_ fun t' => ?_
  · intro i e he; simp [createOk_b] at he
  · intro i; simp [createOk_b]
  · intro i e he; simp [createOk_b] at he
  · by_cases e : t' = t
    · subst e; simp only [upd_same]; exact Scanned.zero _ _
    · simp only [upd_other _ _ _ _ e]
      refine pcOk_of_not_usesTbl (Bool.eq_false_iff.mpr fun hu => ?_)
      have := hp.tbl t' hu
      rw [hp.creating t hpc] at this; cases this

/-- `lwalkEnd`: storage for the element is taken; chains unchanged -/
theorem tinv_alloc {P : Params} {s : CSt} {t j : Nat} {tb : Table} {blk : Nat} (h : TInv P s)
    (hpc : s.pc t = .lwalk j) (hnone : (s.ch P t)[j]? = none)
    (ha : allocElem P.g s.tbl true = some (tb, blk)) :
    TInv P { s with tbl := tb, pc := upd s.pc t (.pub j blk) } := by
  obtain ⟨hb, hsz⟩ := allocElem_b _ _ _ _ _ ha
  have hk := h.pcOk t
  rw [hpc] at hk
  have hks : ∀ t', ksOf P tb t' = ksOf P s.tbl t' := fun t' => by simp only [ksOf, hb]
  refine h.step t _ rfl (fun hv => hsz.trans (h.size hv)) ?_ ?_
    (fun t' _ => ⟨[], (hks t').trans (List.append_nil _).symm, fun _ => rfl⟩) ?_
  · show BOk P.size tb.b; rw [hb]; exact ⟨h.idx, h.nodup⟩
  · show ∀ i e, e ∈ tb.b i → _; rw [hb]; exact h.val
  · show _ ∉ ksOf P tb t; rw [hks]; exact (Scanned.at_end hk (keyId_getElem?_none hnone)).2

/-- `store`: overwrite `value` of element `j` (no lock held) -/
theorem tinv_store {P : Params} (hkey : ∀ a b, (P.key a).id = (P.key b).id → P.key a = P.key b)
    {s : CSt} {t j : Nat} {e : Elem} (h : TInv P s)
    (hpc : s.pc t = .store j) (hj : (s.ch P t)[j]? = some e) :
    TInv P { s with tbl := s.setCh P t ((s.ch P t).set j { e with val := P.val t }),
                    lastw := upd s.lastw (P.key t).id t, pc := upd s.pc t (.done true) } := by
  have hfd : (ksOf P s.tbl t)[j]? = some (P.key t).id := by have := h.pcOk t; rwa [hpc] at this
  have hek : e.keyId = (P.key t).id := Option.some.inj ((keyId_getElem? hj).symm.trans hfd)
  obtain ⟨hb, hkeys, hmem⟩ := BOk.store ⟨h.idx, h.nodup⟩ hj (P.val t)
  have hks : ∀ t', ksOf P (s.setCh P t ((s.ch P t).set j { e with val := P.val t })) t' = ksOf P s.tbl t' :=
    fun _ => hkeys _
  refine h.step t _ rfl h.size hb ?_ (fun t' _ => ⟨[], (hks t').trans (List.append_nil _).symm, fun _ => rfl⟩) ?_
  · intro i a ha
    rcases hmem i a ha with ⟨hx, -⟩ | ⟨hx, hne⟩
    · subst hx
      have hv := (h.val _ e (List.mem_of_getElem? hj)).2
      have hid : (P.key (s.lastw e.keyId)).id = (P.key t).id := by rw [hv]; exact hek
      simp only [hek, upd_same, true_and]
      rw [← hkey _ _ hid, hv, hek]
    · simp only [upd_other _ _ _ _ (hek ▸ hne)]; exact h.val i a hx
  · show _ ∈ ksOf P (s.setCh P t _) t; rw [hks]; exact List.mem_iff_getElem?.mpr ⟨j, hfd⟩

/-- `publish`: the release-store that links the new element at the tail -/
theorem tinv_publish {P : Params} {s : CSt} {t j blk : Nat} (hp : PInv P s) (h : TInv P s)
    (hpc : s.pc t = .pub j blk) :
    TInv P { s with tbl := s.setCh P t (s.ch P t ++ [newElem P t blk]),
                    lastw := upd s.lastw (P.key t).id t, pc := upd s.pc t .unlock } := by
  have hnot : (P.key t).id ∉ ksOf P s.tbl t := by have := h.pcOk t; rwa [hpc] at this
  obtain ⟨hb, hkeys, hmem⟩ := BOk.publish (e := newElem P t blk) ⟨h.idx, h.nodup⟩ hnot
  have hks : ∀ t', ksOf P (s.setCh P t (s.ch P t ++ [newElem P t blk])) t' =
      ksOf P s.tbl t' ++ if idx P.size (P.key t').id = idx P.size (P.key t).id then [(P.key t).id] else [] :=
    fun _ => hkeys _
  refine h.step t _ rfl h.size hb ?_ (fun t' ht' => ⟨_, hks t', fun hpb => ?_⟩) ?_
  · intro i a ha
    rcases hmem i a ha with ⟨hx, -⟩ | ⟨hx, hne⟩
    · subst hx; simp [newElem]
    · have hne : a.keyId ≠ (P.key t).id := hne
      simp only [upd_other _ _ _ _ hne]; exact h.val i a hx
  · -- only the lock holder can be about to publish
    have h1 := hp.lock1 t' (holds_of_isPub hpb)
    rw [hp.lock1 t (by rw [hpc]; rfl)] at h1
    exact absurd (Option.some.inj h1).symm ht'
  · show _ ∈ ksOf P (s.setCh P t _) t; rw [hks]; simp

theorem tinv_step (P : Params) (hkey : ∀ a b, (P.key a).id = (P.key b).id → P.key a = P.key b)
    (hf : P.faults = false) (s : CSt) (e : Nat × Act) (s' : CSt)
    (hp : PInv P s) (h : TInv P s) (hs : Step P s e s') : TInv P s' := by
  cases hs with
  | spinLocked => exact h
  | createFail _ _ hfl => rw [hf] at hfl; cases hfl
  | lwalkEndFail _ _ _ _ hfl => rw [hf] at hfl; cases hfl
  | spinNull _ hpc hsl => exact absurd hsl (hp.spin _ hpc)
  | unlockFail _ hpc => exact absurd hpc (hp.nofail _).2.2
  | create _ hpc => exact tinv_create hp hpc
  | lwalkEnd _ hpc hj ha => exact tinv_alloc h hpc hj ha
  | store _ hpc hj => exact tinv_store hkey h hpc hj
  | publish _ hpc => exact tinv_publish hp h hpc
  | casOk _ hpc => exact h.move hpc (fun hv => nomatch hv) id
  | loadValid _ hpc | reloadValid _ hpc | spinValid _ hpc => exact h.move hpc id fun _ => Scanned.zero _ _
  | loadInvalid _ hpc | casFail _ hpc | reloadNull _ hpc | reloadLocked _ hpc => exact h.move hpc id id
  | walkNext _ hpc hj hne | lwalkNext _ hpc hj hne =>
    exact h.move hpc id fun hk => Scanned.next hk (keyId_getElem? hj) hne
  | walkFound _ hpc hj heq | lwalkFound _ hpc hj heq => exact h.move hpc id fun _ => heq ▸ keyId_getElem? hj
  -- the new program point claims what the old one did
  | walkEnd _ hpc | acquire _ hpc | lrel _ hpc | unlock _ hpc => exact h.move hpc id id

/-- last conjunct: no caller other than `0` is named by `lastw` without having stored -/
theorem race_inv (P : Params) (hf : P.faults = false)
    (hkey : ∀ a b, (P.key a).id = (P.key b).id → P.key a = P.key b)
    (tr : List (Nat × Act)) (s : CSt) (h : Star (Step P) CSt.init tr s) :
    PInv P s ∧ TInv P s ∧ ∀ k, s.lastw k < P.n ∨ s.lastw k = 0 := by
  refine Star.invariant (fun s => PInv P s ∧ TInv P s ∧ (∀ k, s.lastw k < P.n ∨ s.lastw k = 0)) ?_ h
    ⟨pinv_init P, tinv_init P, fun _ => Or.inr rfl⟩
  intro s e s' ⟨hp, ht, hl⟩ hs
  refine ⟨pinv_step P hf s e s' hp hs, tinv_step P hkey hf s e s' hp ht hs, ?_⟩
  cases hs with
  | store ht | publish ht =>
    intro k
    simp only [upd]
    split
    · exact Or.inl ht
    · exact hl k
  | _ => exact hl

/-- every branch of `exec` either rejects or is literally one constructor of `Step` -/
theorem exec_sound (P : Params) (s : CSt) (ev : Nat × Act) (s' : CSt) (h : exec P s ev = some s') :
    Step P s ev s' := by
  obtain ⟨t, a⟩ := ev
  simp only [exec] at h
  split at h
  · cases h
  · next hnt =>
    have ht : t < P.n := Decidable.not_not.mp hnt
    repeat' split at h
    all_goals cases h <;> (constructor <;> assumption)

theorem execTrace_star (P : Params) (tr : List (Nat × Act)) (s s' : CSt) (h : execTrace P s tr = some s') :
    Star (Step P) s tr s' := by
  induction tr generalizing s with
  | nil => simp only [execTrace, Option.some.injEq] at h; subst h; exact Star.refl _
  | cons e es ih =>
    simp only [execTrace] at h
    cases he : exec P s e with
    | none => simp [he] at h
    | some s1 => simp only [he] at h; exact Star.cons (exec_sound P s e s1 he) (ih s1 h)

def exGeom : Geom := ⟨108, 32, 8, 16, 32⟩

def failTrace : List (Nat × Act) :=
  [(0, .loadInvalid), (0, .casOk), (1, .loadInvalid), (1, .casFail), (1, .reloadLocked),
   (0, .createFail), (1, .spinNull)]

def failP : Params := { g := ⟨108, 32, 8, 16, 32⟩, size := 4, n := 2, key := fun t => ⟨2 + t, 0⟩,
                        val := fun t => t + 1, faults := true }

theorem failTrace_ok : (execTrace failP CSt.init failTrace).isSome = true := by decide

theorem race_failure_example : ∃ tr s, Star (Step failP) CSt.init tr s ∧ s.pc 1 = .crashed :=
  ⟨failTrace, (execTrace failP CSt.init failTrace).get failTrace_ok,
   execTrace_star failP _ _ _ (Option.some_get failTrace_ok).symm, by decide⟩

def okTrace : List (Nat × Act) :=
  [(0, .loadInvalid), (0, .casOk), (1, .loadInvalid), (1, .casFail), (1, .reloadLocked), (1, .spinLocked),
   (0, .create), (1, .spinValid), (0, .walkEnd), (1, .walkEnd),
   (0, .acquire), (0, .lwalkEnd), (0, .publish), (0, .unlock),
   (1, .acquire), (1, .lwalkNext), (1, .lwalkEnd), (1, .publish), (1, .unlock)]

def okP : Params := { g := ⟨108, 32, 8, 16, 32⟩, size := 1, n := 2, key := fun t => ⟨2 + t, 0⟩,
                      val := fun t => t + 1, faults := false }

theorem okTrace_ok : (execTrace okP CSt.init okTrace).isSome = true := by decide

theorem race_success_example :
    ∃ tr s, Star (Step { g := ⟨108, 32, 8, 16, 32⟩, size := 1, n := 2, key := fun t => ⟨2 + t, 0⟩,
                         val := fun t => t + 1, faults := false }) CSt.init tr s ∧
    s.pc 0 = .done true ∧ s.pc 1 = .done true ∧ tget s.tbl 2 = 1 ∧ tget s.tbl 3 = 2 :=
  ⟨okTrace, (execTrace okP CSt.init okTrace).get okTrace_ok,
   execTrace_star okP _ _ _ (Option.some_get okTrace_ok).symm, by decide, by decide, by decide, by decide⟩

end ArgoVerif.Model.KTable
