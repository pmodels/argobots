import ArgoVerif.Model.Assoc
import ArgoVerif.Proofs.UnitMap
/-
Proofs.Assoc — invariant of the association model: the unit→thread table, the
descriptors' `unit`/`p_pool` fields and the create/free log agree.

An operation rewrites one descriptor, the table entries of that descriptor's old and new user
handle, and puts callback events in front of the log.  `ainv_move` is the invariant for a change of
the first two; the log is followed event by event against what the state says: who is live
(`Bridge`) and how many units with a given handle are outstanding (`Cnt`).
-/
namespace ArgoVerif.Model.Assoc
open ArgoVerif.Model.UnitMap

def live (s : St) (u : UInt64) (p : Nat) : Bool :=
  match absMap s.map u with
  | some t => (s.thr t).pool == some p
  | none => false

structure AInv (s : St) : Prop where
  wf : WF s.map
  bi : ∀ t t', (s.thr t).unit = .builtin t' → t' = t
  user_ok : ∀ t u, (s.thr t).unit = .user u →
    u ≠ s.map.nul ∧ absMap s.map u = some t ∧ (s.thr t).pool ≠ none ∧ ∀ p, (s.thr t).pool = some p → s.isBuiltin p = false
  map_ok : ∀ u t, absMap s.map u = some t → (s.thr t).unit = .user u
  bridge : ∀ u p, u ≠ s.map.nul → liveL s.map.nul s.log u p = live s u p
  log_ok : LogOK s.map.nul s.log
  cnt : ∀ u, u ≠ s.map.nul → crT s.log u = frT s.log u + (if (absMap s.map u).isSome then 1 else 0)
  count_ok : CountOK s.map.nul s.log

theorem ainv_init (exp : Nat) (z : UInt64) (isb : Nat → Bool) : AInv (St.init exp z isb) := by
  constructor
  · exact empty_wf exp z
  · intro t t' h; simp [St.init] at h
  · intro t u h; simp [St.init] at h
  · intro u t h; simp [St.init, absMap_empty] at h
  · intro u p _; simp [St.init, liveL, live, absMap_empty]
  · simp [St.init, LogOK]
  · intro u _; simp [St.init, crT, frT, absMap_empty]
  · simp [St.init, CountOK]

theorem countU_nodup (z : UInt64) (c : List Entry) (u : UInt64) (hu : u ≠ z) (hnd : (units z c).Nodup) :
    (c.filter (fun e => e.unit == u)).length = if u ∈ units z c then 1 else 0 := by
  rw [← hnd.count, units, List.count, List.countP_map, List.countP_filter, List.countP_eq_length_filter]
  congr 2; funext e; grind

theorem tblCount_wf (m : UM) (u : UInt64) (hw : WF m) (hu : u ≠ m.nul) :
    tblCount m u = if (absMap m u).isSome then 1 else 0 := by
  simp only [tblCount]
  rw [countU_nodup m.nul _ u hu (hw.nodup _)]
  by_cases hm : u ∈ units m.nul (m.b (hashIndex m.exp u))
  · have : absMap m u ≠ none := fun h => (absMap_none_iff m u hu).mp h hm
    cases ha : absMap m u with
    | none => exact absurd ha this
    | some t => simp [hm]
  · have := (absMap_none_iff m u hu).mpr hm
    simp [hm, this]

/-! ### following the log, one event at a time -/

def Bridge (z : UInt64) (log : List Ev) (lv : UInt64 → Nat → Bool) : Prop :=
  (∀ u p, u ≠ z → liveL z log u p = lv u p) ∧ LogOK z log

def Cnt (z : UInt64) (log : List Ev) (c : UInt64 → Nat) : Prop :=
  (∀ u, u ≠ z → crT log u = frT log u + c u) ∧ CountOK z log

variable {z : UInt64} {r : List Ev} {lv : UInt64 → Nat → Bool} {c : UInt64 → Nat}

theorem Bridge.congr {lv' : UInt64 → Nat → Bool} (hb : Bridge z r lv) (h : ∀ x q, x ≠ z → lv x q = lv' x q) :
    Bridge z r lv' :=
  ⟨fun x q hx => (hb.1 x q hx).trans (h x q hx), hb.2⟩

theorem Cnt.congr {c' : UInt64 → Nat} (hc : Cnt z r c) (h : ∀ x, x ≠ z → c x = c' x) : Cnt z r c' :=
  ⟨fun x hx => h x hx ▸ hc.1 x hx, hc.2⟩

theorem Bridge.create (hb : Bridge z r lv) (p t : Nat) (nu : UInt64) (m : Nat)
    (hl : nu ≠ z → lv nu p = false) :
    Bridge z (.create p t nu m :: r) (fun x q => if nu = x ∧ p = q then true else lv x q) := by
  refine ⟨fun x q hx => ?_, fun hnu => by rw [hb.1 nu p hnu]; exact hl hnu, hb.2⟩
  simp only [liveL, hx, ne_eq, not_false_eq_true, and_true, hb.1 x q hx]

theorem Bridge.free (hb : Bridge z r lv) (p : Nat) (u : UInt64) (n : Nat) (hu : u ≠ z) (hl : lv u p = true) :
    Bridge z (.free p u n :: r) (fun x q => if u = x ∧ p = q then false else lv x q) := by
  refine ⟨fun x q hx => ?_, by rw [hb.1 u p hu]; exact hl, hb.2⟩
  simp only [liveL, hb.1 x q hx]

theorem Bridge.use (hb : Bridge z r lv) (p : Nat) (u : UInt64) (hu : u ≠ z) (hl : lv u p = true) :
    Bridge z (.use p u :: r) lv :=
  ⟨fun x q hx => hb.1 x q hx, by rw [hb.1 u p hu]; exact hl, hb.2⟩

theorem Cnt.create (hc : Cnt z r c) (p t : Nat) (nu : UInt64) (m : Nat) (hm : nu ≠ z → m = c nu) :
    Cnt z (.create p t nu m :: r) (fun x => (if nu = x then 1 else 0) + c x) := by
  refine ⟨fun x hx => ?_, fun hnu => ?_, hc.2⟩
  · have := hc.1 x hx; simp only [crT, frT]; omega
  · have := hc.1 nu hnu; have := hm hnu; omega

theorem Cnt.free (hc : Cnt z r c) (p : Nat) (u : UInt64) (n : Nat) (hu : u ≠ z) (hn : c u = n + 1) :
    Cnt z (.free p u n :: r) (fun x => c x - if u = x then 1 else 0) := by
  refine ⟨fun x hx => ?_, ?_, hc.2⟩
  · have := hc.1 x hx; simp only [crT, frT]
    by_cases h : u = x
    · subst h; simp only [if_true]; omega
    · simp only [h, if_false]; omega
  · have := hc.1 u hu; omega

theorem AInv.bridged {s : St} (hi : AInv s) : Bridge s.map.nul s.log (live s) := ⟨hi.bridge, hi.log_ok⟩

theorem AInv.counted {s : St} (hi : AInv s) :
    Cnt s.map.nul s.log (fun u => if (absMap s.map u).isSome then 1 else 0) := ⟨hi.cnt, hi.count_ok⟩

/-! ### the invariant after an operation -/

/-- Work unit `t` gets the descriptor fields `th'`, the table becomes `m'`: it has lost the old user
handle of `t` and maps the new one to `t` (the new handle wins if they are the same, as after a move
between two user pools that share it), and the log `log'` accounts for that. -/
theorem ainv_move {s : St} (hi : AInv s) (t : Nat) (th' : Thr) (m' : UM) (log' : List Ev)
    (lv : UInt64 → Nat → Bool) (c : UInt64 → Nat) (hwf : WF m') (hnul : m'.nul = s.map.nul)
    (hbi : ∀ t', th'.unit = .builtin t' → t' = t)
    (hnew : ∀ nu, th'.unit = .user nu → nu ≠ s.map.nul ∧
      (absMap s.map nu = none ∨ (s.thr t).unit = .user nu) ∧ ∃ p, th'.pool = some p ∧ s.isBuiltin p = false)
    (hmap : ∀ x, absMap m' x =
      if th'.unit = .user x then some t else if (s.thr t).unit = .user x then none else absMap s.map x)
    (hb : Bridge s.map.nul log' lv)
    (hlv : ∀ x q, x ≠ s.map.nul → lv x q =
      if th'.unit = .user x then th'.pool == some q else if (s.thr t).unit = .user x then false else live s x q)
    (hc : Cnt s.map.nul log' c) (hcv : ∀ x, x ≠ s.map.nul → c x = if (absMap m' x).isSome then 1 else 0) :
    AInv { s with thr := updT s.thr t th', map := m', log := log' } := by
  have hthr_t : updT s.thr t th' t = th' := by simp [updT]
  have hthr_o : ∀ t1, t1 ≠ t → updT s.thr t th' t1 = s.thr t1 := fun t1 h => by simp [updT, h]
  have hother : ∀ x t1, absMap s.map x = some t1 → t1 ≠ t → th'.unit ≠ .user x ∧ (s.thr t).unit ≠ .user x := by
    intro x t1 hx hne
    have hold : (s.thr t).unit ≠ .user x := fun h => by
      rw [(hi.user_ok t x h).2.1] at hx; exact hne (Option.some.inj hx).symm
    refine ⟨fun h => ?_, hold⟩
    rcases (hnew x h).2.1 with h1 | h1
    · rw [h1] at hx; cases hx
    · exact hold h1
  refine ⟨hwf, ?_, ?_, ?_, ?_, hnul ▸ hb.2, ?_, hnul ▸ hc.2⟩
  · intro t1 t2 h1
    by_cases ht : t1 = t
    · subst ht; exact hbi t2 (hthr_t ▸ h1)
    · exact hi.bi t1 t2 (hthr_o t1 ht ▸ h1)
  · intro t1 u h1
    simp only at h1 ⊢
    by_cases ht : t1 = t
    · subst ht; rw [hthr_t] at h1 ⊢
      obtain ⟨a, _, p, hp, hpb⟩ := hnew u h1
      refine ⟨hnul ▸ a, by rw [hmap, if_pos h1], by simp [hp], fun p' hp' => ?_⟩
      rw [hp] at hp'; cases hp'; exact hpb
    · rw [hthr_o t1 ht] at h1 ⊢
      obtain ⟨a, b, cd⟩ := hi.user_ok t1 u h1
      have := hother u t1 b ht
      exact ⟨hnul ▸ a, by rw [hmap, if_neg this.1, if_neg this.2]; exact b, cd⟩
  · intro x t1 hx
    show (updT s.thr t th' t1).unit = .user x
    rw [hmap] at hx
    split at hx
    · cases hx; rw [hthr_t]; assumption
    · split at hx
      · cases hx
      · next hn => rw [hthr_o t1 (fun h => hn (h ▸ hi.map_ok x t1 hx))]; exact hi.map_ok x t1 hx
  · intro x q hx
    rw [hnul] at hx ⊢
    rw [hb.1 x q hx, hlv x q hx]
    show _ = match absMap m' x with
      | some t1 => (updT s.thr t th' t1).pool == some q
      | none => false
    rw [hmap]
    split
    · simp only [hthr_t]
    · split
      · rfl
      · next hn =>
        simp only [live]
        cases hm : absMap s.map x with
        | none => rfl
        | some t1 => simp only [hthr_o t1 (fun h => hn (h ▸ hi.map_ok x t1 hm))]
  · intro x hx
    rw [hnul] at hx
    rw [hc.1 x hx, hcv x hx]

variable {s : St}

theorem Thr.plain {th : Thr} {t : Nat} (hth : th.unit = .null ∨ th.unit = .builtin t) :
    (∀ x, th.unit ≠ .user x) ∧ ∀ t', th.unit = .builtin t' → t' = t := by
  rcases hth with h | h <;> rw [h] <;> exact ⟨fun _ h => (nomatch h), fun _ h => by cases h <;> rfl⟩

theorem ainv_plain (hi : AInv s) (t : Nat) (th' : Thr) (hold : ∀ u, (s.thr t).unit ≠ .user u)
    (hth : th'.unit = .null ∨ th'.unit = .builtin t) : AInv { s with thr := updT s.thr t th' } := by
  obtain ⟨hn, hbi⟩ := Thr.plain hth
  exact ainv_move hi t th' s.map s.log _ _ hi.wf rfl hbi (fun nu h => absurd h (hn nu))
    (fun x => by rw [if_neg (hn x), if_neg (hold x)]) hi.bridged
    (fun x q _ => by rw [if_neg (hn x), if_neg (hold x)]) hi.counted (fun _ _ => rfl)

theorem ainv_new (hi : AInv s) (t p : Nat) (nu : UInt64) (mem : Bool) (m' : UM)
    (hp : s.isBuiltin p = false) (hnu : nu ≠ s.map.nul) (hf : absMap s.map nu = none)
    (hm : mapThread s.map nu t mem = some m') (hold : ∀ u, (s.thr t).unit ≠ .user u) :
    AInv { s with map := m', log := .create p t nu (tblCount s.map nu) :: s.log,
                  thr := updT s.thr t ⟨.user nu, some p⟩ } := by
  obtain ⟨hw', hen, hmap', _⟩ := (map_spec s.map nu t mem hi.wf hnu hf).2 m' hm
  have hlive : ∀ q, live s nu q = false := fun q => by simp [live, hf]
  refine ainv_move hi t ⟨.user nu, some p⟩ m' _ _ _ hw' hen.2 (fun _ h => by cases h)
    (fun x h => by cases h; exact ⟨hnu, Or.inl hf, p, rfl, hp⟩) (fun x => ?_)
    (hi.bridged.create p t nu _ fun _ => hlive p) (fun x q _ => ?_)
    (hi.counted.create p t nu _ fun _ => tblCount_wf s.map nu hi.wf hnu) (fun x _ => ?_)
  · rw [hmap' x, if_neg (hold x)]; simp only [URef.user.injEq, eq_comm]
  · rw [if_neg (hold x)]; grind
  · rw [hmap' x]; grind

theorem ainv_drop (hi : AInv s) (t : Nat) (u : UInt64) (oldp : Nat) (th' : Thr)
    (hthr : s.thr t = ⟨.user u, some oldp⟩) (hth : th'.unit = .null ∨ th'.unit = .builtin t) :
    ∃ m', unmapThread s.map u = some m' ∧
      AInv { s with map := m', log := .free oldp u (tblCount m' u) :: s.log, thr := updT s.thr t th' } := by
  obtain ⟨hu0, hmu, _⟩ := hi.user_ok t u (by rw [hthr])
  obtain ⟨m', hm, hw', hen, hmap', _⟩ := unmap_spec s.map u hi.wf hu0 (by rw [hmu]; simp)
  obtain ⟨hn, hbi⟩ := Thr.plain hth
  have hlive : live s u oldp = true := by simp [live, hmu, hthr]
  have hc0 : tblCount m' u = 0 := by rw [tblCount_wf m' u hw' (hen.2 ▸ hu0), hmap' u]; simp
  refine ⟨m', hm, ainv_move hi t th' m' _ _ _ hw' hen.2 hbi (fun nu h => absurd h (hn nu))
    (fun x => ?_) (hi.bridged.free oldp u _ hu0 hlive) (fun x q _ => ?_)
    (hi.counted.free oldp u _ hu0 (by simp [hmu, hc0])) (fun x _ => ?_)⟩
  · rw [hmap' x, if_neg (hn x), hthr]; simp only [URef.user.injEq, eq_comm]
  · rw [if_neg (hn x), hthr]
    by_cases hx : u = x
    · subst hx; simp [live, hmu, hthr]
    · simp [hx]
  · rw [hmap' x]; grind

/-- `nu` is fresh, or `u` again in another pool (e.g. the `ABT_thread` handle serving as unit in both);
then the table holds `u` twice between the map and the unmap. -/
theorem ainv_swap (hi : AInv s) (t p : Nat) (u nu : UInt64) (oldp : Nat) (mem : Bool) (m1 : UM)
    (hthr : s.thr t = ⟨.user u, some oldp⟩) (hp : s.isBuiltin p = false) (hnu : nu ≠ s.map.nul)
    (hf : absMap s.map nu = none ∨ nu = u ∧ oldp ≠ p) (hm : mapThread s.map nu t mem = some m1) :
    ∃ m2, unmapThread m1 u = some m2 ∧
      AInv { s with map := m2, log := .free oldp u (tblCount m2 u) :: .create p t nu (tblCount s.map nu) :: s.log,
                    thr := updT s.thr t ⟨.user nu, some p⟩ } := by
  obtain ⟨hu0, hmu, _⟩ := hi.user_ok t u (by rw [hthr])
  have hne : nu ≠ u → absMap s.map nu = none := fun h => hf.resolve_right fun h' => h h'.1
  obtain ⟨m2, hm2, hw2, hnul, hmap2⟩ : ∃ m2, unmapThread m1 u = some m2 ∧ WF m2 ∧ m2.nul = s.map.nul ∧
      ∀ x, absMap m2 x = if nu = x then some t else if u = x then none else absMap s.map x := by
    by_cases h : nu = u
    · subst h
      obtain ⟨m2, hm2, hw2, hen, hmap2, _⟩ := (remap_spec s.map nu t mem hi.wf hu0 hmu).2 m1 hm
      refine ⟨m2, hm2, hw2, hen.2, fun x => ?_⟩
      rw [hmap2]; split
      · subst x; exact hmu
      · rfl
    · obtain ⟨hw1, hen1, hmap1, _⟩ := (map_spec s.map nu t mem hi.wf hnu (hne h)).2 m1 hm
      obtain ⟨m2, hm2, hw2, hen2, hmap2, _⟩ := unmap_spec m1 u hw1 (hen1.2 ▸ hu0) (by rw [hmap1, if_neg (Ne.symm h), hmu]; simp)
      refine ⟨m2, hm2, hw2, hen2.2.trans hen1.2, fun x => ?_⟩
      rw [hmap2, hmap1]
      by_cases hx : nu = x
      · subst hx; simp [h]
      · simp [hx, Ne.symm hx, eq_comm]
  have hlu : ∀ q, live s u q = (oldp == q) := fun q => by simp [live, hmu, hthr]
  have hln : ∀ q, nu ≠ u → live s nu q = false := fun q h => by simp [live, hne h]
  refine ⟨m2, hm2, ainv_move hi t ⟨.user nu, some p⟩ m2 _ _ _ hw2 hnul (fun _ h => by cases h)
    (fun x h => ?_) (fun x => ?_)
    ((hi.bridged.create p t nu _ fun _ => ?_).free oldp u _ hu0 ?_) (fun x q _ => ?_)
    ((hi.counted.create p t nu _ fun _ => tblCount_wf s.map nu hi.wf hnu).free oldp u _ hu0 ?_) (fun x _ => ?_)⟩
  · cases h; exact ⟨hnu, hf.imp_right fun h' => by rw [hthr, h'.1], p, rfl, hp⟩
  · rw [hmap2, hthr]; simp only [URef.user.injEq]
  · by_cases h : nu = u
    · rw [h, hlu]; simpa using (hf.resolve_left (by rw [h, hmu]; simp)).2
    · exact hln p h
  · simp only [hlu, beq_self_eq_true, ite_self]
  · rw [hthr]; simp only [URef.user.injEq]; grind
  · rw [tblCount_wf m2 u hw2 (hnul ▸ hu0), hmap2 u]; grind
  · rw [hmap2]; grind

/-! ### the operations -/

/-- what the user's `create_unit` may return: NULL, or a handle that is not the handle of a
live unit of another work unit (the table is global).  When a work unit moves from one user
pool to another the new pool may also return the handle the work unit already has (`Legal`):
abt.h allows e.g. the `ABT_thread` handle itself to serve as unit in every pool. -/
def fresh (s : St) (nu : UInt64) : Prop := nu = s.map.nul ∨ absMap s.map nu = none

/-- a unit handle the caller may pass to the runtime -/
def okRef (s : St) : URef → Prop
  | .builtin t => (s.thr t).unit = .builtin t
  | .user x => x ≠ s.map.nul ∧ absMap s.map x ≠ none
  | .null => False

/-- client contract of each operation -/
def Legal (s : St) : Op → Prop
  | .init t _ nu _ => (s.thr t).unit = .null ∧ fresh s nu
  | .setPool t _ nu _ => (s.thr t).unit ≠ .null ∧ (fresh s nu ∨ (s.thr t).unit = .user nu)
  | .unitSetPool u _ nu _ => okRef s u ∧ (fresh s nu ∨ u = .user nu)
  | .unset t => (s.thr t).unit ≠ .null
  | .use _ => True
  | .lookup u => okRef s u

def RolledBack (s s' : St) (t p : Nat) (nu : UInt64) : Prop :=
  s'.thr = s.thr ∧ s'.map = s.map ∧ s'.isBuiltin = s.isBuiltin ∧
  (s'.log = .create p t s.map.nul (tblCount s.map s.map.nul) :: s.log ∨
   (nu ≠ s.map.nul ∧ s'.log = .free p nu (tblCount s.map nu) :: .create p t nu (tblCount s.map nu) :: s.log))

/-- `create_unit` returned NULL, or a handle that the table then could not take (it holds the handle
as often before as after) -/
theorem RolledBack.ainv {s' : St} {t p : Nat} {nu : UInt64} (hr : RolledBack s s' t p nu) (hi : AInv s)
    (hl : nu ≠ s.map.nul → live s nu p = false) : AInv s' := by
  obtain ⟨h1, h2, h3, h4⟩ := hr
  obtain ⟨thr, map, isb, nb, log⟩ := s'
  simp only at h1 h2 h3 h4; subst h1 h2 h3
  have hb : Bridge s.map.nul log (live s) ∧ Cnt s.map.nul log fun u => if (absMap s.map u).isSome then 1 else 0 := by
    rcases h4 with h4 | ⟨hnu, h4⟩ <;> subst h4
    · exact ⟨(hi.bridged.create p t s.map.nul _ fun h => absurd rfl h).congr fun x q hx => if_neg fun h => hx h.1.symm,
        (hi.counted.create p t s.map.nul _ fun h => absurd rfl h).congr fun x hx => by simp [Ne.symm hx]⟩
    · refine ⟨((hi.bridged.create p t nu _ fun _ => hl hnu).free p nu _ hnu (by simp)).congr fun x q hx => ?_,
        ((hi.counted.create p t nu _ fun _ => tblCount_wf s.map nu hi.wf hnu).free p nu _ hnu
          (by simp [tblCount_wf s.map nu hi.wf hnu, Nat.add_comm])).congr fun x hx => by split <;> omega⟩
      by_cases h : nu = x ∧ p = q
      · simp only [if_pos h]; rw [← h.1, ← h.2, hl hnu]
      · simp only [if_neg h]
  exact ⟨hi.wf, hi.bi, hi.user_ok, hi.map_ok, hb.1.1, hb.1.2, hb.2.1, hb.2.2⟩

theorem newUserUnit_spec (hi : AInv s) (t p : Nat) (nu : UInt64) (mem : Bool)
    (hl : nu ≠ s.map.nul → live s nu p = false) :
    (nu ≠ s.map.nul ∧ ∃ m', mapThread s.map nu t mem = some m' ∧
      newUserUnit s t p nu mem = ({ s with map := m', log := .create p t nu (tblCount s.map nu) :: s.log }, .ok)) ∨
    (∃ s1 rc, newUserUnit s t p nu mem = (s1, rc) ∧ rc ≠ .ok ∧ AInv s1 ∧ RolledBack s s1 t p nu ∧
      (mem = true → nu = s.map.nul)) := by
  simp only [newUserUnit]
  by_cases h0 : nu = s.map.nul
  · have hr : RolledBack s { s with log := .create p t nu (tblCount s.map nu) :: s.log } t p nu :=
      ⟨rfl, rfl, rfl, Or.inl (by rw [h0])⟩
    exact Or.inr ⟨_, .other, by rw [if_pos h0], by simp, hr.ainv hi hl, hr, fun _ => h0⟩
  · rw [if_neg h0]
    cases hm : mapThread s.map nu t mem with
    | some m' => exact Or.inl ⟨h0, m', rfl, rfl⟩
    | none =>
      have hr : RolledBack s { s with log := .free p nu (tblCount s.map nu) :: .create p t nu (tblCount s.map nu) :: s.log }
          t p nu := ⟨rfl, rfl, rfl, Or.inr ⟨h0, rfl⟩⟩
      refine Or.inr ⟨_, .mem, rfl, by simp, hr.ainv hi hl, hr, fun hmem => ?_⟩
      subst hmem; have := mapThread_mem s.map nu t; rw [hm] at this; cases this

/-- postcondition of a (re)association of `t` with pool `p`; `nu` is the result of `create_unit`, `mem`
whether the table can allocate -/
structure SetPost (s : St) (t p : Nat) (nu : UInt64) (mem : Bool) (s' : St) (rc : Rc) : Prop where
  ainv : AInv s'
  nul : s'.map.nul = s.map.nul
  rollback : rc ≠ .ok → RolledBack s s' t p nu
  assigned : rc = .ok → (s'.thr t).pool = some p ∧ (∀ t', t' ≠ t → s'.thr t' = s.thr t') ∧
    (s.isBuiltin p = true → (s'.thr t).unit = .builtin t) ∧ (s.isBuiltin p = false → ∃ u', (s'.thr t).unit = .user u')
  mem_ok : mem = true → nu ≠ s.map.nul → rc = .ok

theorem SetPost.ok {t p : Nat} {nu : UInt64} {mem : Bool} {m : UM} {l : List Ev} {th : Thr}
    (hi : AInv { s with map := m, log := l, thr := updT s.thr t th }) (hn : m.nul = s.map.nul) (hp : th.pool = some p)
    (hu : th.unit = if s.isBuiltin p then .builtin t else .user nu) :
    SetPost s t p nu mem { s with map := m, log := l, thr := updT s.thr t th } .ok :=
  ⟨hi, hn, fun h => absurd rfl h, fun _ => ⟨by simp [updT, hp], fun t' ht' => by simp [updT, ht'],
    fun hb => by simp [updT, hu, hb], fun hb => ⟨nu, by simp [updT, hu, hb]⟩⟩, fun _ _ => rfl⟩

theorem SetPost.fail {t p : Nat} {nu : UInt64} {mem : Bool} {s1 : St} {rc : Rc} (hrc : rc ≠ .ok) (hi : AInv s1)
    (hrb : RolledBack s s1 t p nu) (hmem : mem = true → nu = s.map.nul) : SetPost s t p nu mem s1 rc :=
  ⟨hi, by rw [hrb.2.1], fun _ => hrb, fun h => absurd h hrc, fun hm h0 => absurd (hmem hm) h0⟩

theorem setAssocCore_spec (s : St) (t : Nat) (unit : URef) (p : Nat) (nu : UInt64) (mem : Bool) (hi : AInv s)
    (hu : (s.thr t).unit = unit) (hnn : unit ≠ .null) (hf : fresh s nu ∨ unit = .user nu) :
    ∃ s' rc, setAssocCore s t unit p nu mem = some (s', rc) ∧ SetPost s t p nu mem s' rc := by
  have hfn : nu ≠ s.map.nul → unit ≠ .user nu → absMap s.map nu = none := fun h0 h1 =>
    (hf.resolve_right h1).resolve_left h0
  cases unit with
  | null => exact absurd rfl hnn
  | builtin t0 =>
    obtain rfl : t0 = t := hi.bi t t0 hu
    have hold : ∀ u, (s.thr t0).unit ≠ .user u := fun u h => by rw [hu] at h; cases h
    simp only [setAssocCore]
    cases hb : s.isBuiltin p with
    | true => exact ⟨_, .ok, if_pos rfl, .ok (ainv_plain hi t0 _ hold (Or.inr hu)) rfl rfl (by simp [hb, hu])⟩
    | false =>
      simp only [Bool.false_eq_true, if_false]
      rcases newUserUnit_spec hi t0 p nu mem (fun h => by simp [live, hfn h (by simp)])
        with ⟨h0, m', hm, he⟩ | ⟨s1, rc, he, hrc, hi1, hrb, hmem⟩ <;> rw [he]
      · exact ⟨_, .ok, if_pos rfl, .ok (ainv_new hi t0 p nu mem m' hb h0 (hfn h0 (by simp)) hm hold)
          (mapThread_nul _ _ _ _ _ hm) rfl (by simp [hb])⟩
      · exact ⟨s1, rc, if_neg hrc, .fail hrc hi1 hrb hmem⟩
  | user u =>
    obtain ⟨hu0, hmu, hpn, hpu⟩ := hi.user_ok t u hu
    simp only [setAssocCore]
    cases hpool : (s.thr t).pool with
    | none => exact absurd hpool hpn
    | some oldp =>
      have hthr : s.thr t = ⟨.user u, some oldp⟩ := by rw [← hu, ← hpool]
      simp only
      cases hb : s.isBuiltin p with
      | true =>
        obtain ⟨m', hm, hi'⟩ := ainv_drop hi t u oldp ⟨.builtin t, some p⟩ hthr (Or.inr rfl)
        rw [if_pos rfl, hm]
        exact ⟨_, .ok, rfl, .ok hi' (unmapThread_nul _ _ _ hm) rfl (by simp [hb])⟩
      | false =>
        simp only [Bool.false_eq_true, if_false]
        by_cases hsame : oldp = p
        · rw [if_pos hsame]
          exact ⟨s, .ok, rfl, hi, rfl, fun h => absurd rfl h,
            fun _ => ⟨by rw [hpool, hsame], fun _ _ => rfl, fun h => by simp [hb] at h, fun _ => ⟨u, hu⟩⟩, fun _ _ => rfl⟩
        · rw [if_neg hsame]
          have hlv : nu ≠ s.map.nul → live s nu p = false := fun h0 => by
            by_cases hsm : nu = u
            · simp [live, hsm, hmu, hthr, hsame]
            · simp [live, hfn h0 (by simpa using Ne.symm hsm)]
          rcases newUserUnit_spec hi t p nu mem hlv with ⟨h0, m', hm, he⟩ | ⟨s1, rc, he, hrc, hi1, hrb, hmem⟩ <;> rw [he]
          · have hf' : absMap s.map nu = none ∨ nu = u ∧ oldp ≠ p := by
              by_cases hsm : nu = u
              · exact Or.inr ⟨hsm, hsame⟩
              · exact Or.inl (hfn h0 (by simpa using Ne.symm hsm))
            obtain ⟨m2, hm2, hi'⟩ := ainv_swap hi t p u nu oldp mem m' hthr hb h0 hf' hm
            simp only [if_true, hm2]
            exact ⟨_, .ok, rfl, .ok hi' ((unmapThread_nul _ _ _ hm2).trans (mapThread_nul _ _ _ _ _ hm)) rfl (by simp [hb])⟩
          · exact ⟨s1, rc, if_neg hrc, .fail hrc hi1 hrb hmem⟩

theorem initPool_spec (s : St) (t p : Nat) (nu : UInt64) (mem : Bool) (hi : AInv s)
    (hu : (s.thr t).unit = .null) (hf : fresh s nu) :
    SetPost s t p nu mem (initPool s t p nu mem).1 (initPool s t p nu mem).2 := by
  have hold : ∀ u, (s.thr t).unit ≠ .user u := fun u h => by rw [hu] at h; cases h
  simp only [initPool]
  cases hb : s.isBuiltin p with
  | true => exact .ok (ainv_plain hi t _ hold (Or.inr rfl)) rfl rfl (by simp [hb])
  | false =>
    simp only [Bool.false_eq_true, if_false]
    rcases newUserUnit_spec hi t p nu mem (fun h => by simp [live, hf.resolve_left h])
      with ⟨h0, m', hm, he⟩ | ⟨s1, rc, he, hrc, hi1, hrb, hmem⟩ <;> rw [he]
    · exact .ok (ainv_new hi t p nu mem m' hb h0 (hf.resolve_left h0) hm hold) (mapThread_nul _ _ _ _ _ hm) rfl (by simp [hb])
    · simp only [hrc, if_false]; exact .fail hrc hi1 hrb hmem

theorem unsetAssoc_spec (s : St) (t : Nat) (hi : AInv s) (hu : (s.thr t).unit ≠ .null) :
    ∃ s', unsetAssoc s t = some s' ∧ AInv s' ∧ s'.map.nul = s.map.nul ∧ s'.thr t = ⟨.null, none⟩ ∧
      ∀ t', t' ≠ t → s'.thr t' = s.thr t' := by
  simp only [unsetAssoc]
  cases hun : (s.thr t).unit with
  | null => exact absurd hun hu
  | builtin t0 =>
    exact ⟨_, rfl, ainv_plain hi t _ (fun u h => by rw [hun] at h; cases h) (Or.inl rfl), rfl, by simp [updT],
      fun t' ht' => by simp [updT, ht']⟩
  | user u =>
    cases hpool : (s.thr t).pool with
    | none => exact absurd hpool (hi.user_ok t u hun).2.2.1
    | some oldp =>
      obtain ⟨m', hm, hi'⟩ := ainv_drop hi t u oldp ⟨.null, none⟩ (by rw [← hun, ← hpool]) (Or.inl rfl)
      simp only [hm]
      exact ⟨_, rfl, hi', unmapThread_nul _ _ _ hm, by simp [updT], fun t' ht' => by simp [updT, ht']⟩

theorem poolUse_spec (s : St) (t : Nat) (hi : AInv s) : AInv (poolUse s t) := by
  simp only [poolUse]
  split
  · next u p hun hpool =>
    obtain ⟨hu0, hmu, _⟩ := hi.user_ok t u hun
    have hb := hi.bridged.use p u hu0 (by simp [live, hmu, hpool])
    exact ⟨hi.wf, hi.bi, hi.user_ok, hi.map_ok, hb.1, hb.2, hi.cnt, hi.count_ok⟩
  · exact hi

/-- `ABT_unit_get_thread` on a legal handle returns the work unit that carries it -/
theorem unitThread_spec (s : St) (u : URef) (hi : AInv s) (hl : okRef s u) :
    ∃ t, unitThread s u = some t ∧ (s.thr t).unit = u := by
  cases u with
  | null => exact absurd hl (by simp [okRef])
  | builtin t => exact ⟨t, rfl, hl⟩
  | user x =>
    obtain ⟨hx0, hm⟩ := hl
    cases hg : absMap s.map x with
    | none => exact absurd hg hm
    | some t =>
      refine ⟨t, ?_, hi.map_ok x t hg⟩
      simp only [absMap, hx0, if_false] at hg
      exact hg

theorem step_spec (s : St) (op : Op) (hi : AInv s) (hl : Legal s op) :
    ∃ s' o, step s op = some (s', o) ∧ AInv s' ∧ s'.map.nul = s.map.nul := by
  cases op with
  | init t p nu mem =>
    have h := initPool_spec s t p nu mem hi hl.1 hl.2
    exact ⟨_, _, rfl, h.ainv, h.nul⟩
  | setPool t p nu mem =>
    obtain ⟨s', rc, h1, h2⟩ := setAssocCore_spec s t _ p nu mem hi rfl hl.1 hl.2
    exact ⟨s', .rc rc, by simp [step, setAssoc, h1], h2.ainv, h2.nul⟩
  | unitSetPool u p nu mem =>
    obtain ⟨t, ht, htu⟩ := unitThread_spec s u hi hl.1
    have hnn : u ≠ .null := by intro h; rw [h] at hl; exact hl.1
    obtain ⟨s', rc, h1, h2⟩ := setAssocCore_spec s t u p nu mem hi htu hnn hl.2
    exact ⟨s', .rc rc, by simp [step, unitSetAssoc, ht, h1], h2.ainv, h2.nul⟩
  | unset t =>
    obtain ⟨s', h1, h2, h3, _⟩ := unsetAssoc_spec s t hi hl
    exact ⟨s', .done, by simp [step, h1], h2, h3⟩
  | use t => exact ⟨_, _, rfl, poolUse_spec s t hi, by simp only [poolUse]; split <;> rfl⟩
  | lookup u =>
    obtain ⟨t, ht, _⟩ := unitThread_spec s u hi hl
    exact ⟨s, .thread t, by simp [step, ht], hi, rfl⟩

def LegalRun : St → List Op → Prop
  | _, [] => True
  | s, op :: ops => Legal s op ∧ match step s op with
    | some (s1, _) => LegalRun s1 ops
    | none => True

theorem run_spec (ops : List Op) (s : St) (hi : AInv s) (hl : LegalRun s ops) :
    ∃ s' os, runOps s ops = some (s', os) ∧ AInv s' ∧ s'.map.nul = s.map.nul := by
  induction ops generalizing s with
  | nil => exact ⟨s, [], rfl, hi, rfl⟩
  | cons op ops ih =>
    obtain ⟨s1, o, h1, h2, hn⟩ := step_spec s op hi hl.1
    have hl2 : LegalRun s1 ops := by have := hl.2; rw [h1] at this; exact this
    obtain ⟨s2, os, h3, h4, h5⟩ := ih s1 h2 hl2
    exact ⟨s2, o :: os, by simp [runOps, h1, h3], h4, h5.trans hn⟩

theorem run_init_spec (exp : Nat) (z : UInt64) (isb : Nat → Bool) (ops : List Op) (hl : LegalRun (St.init exp z isb) ops) :
    ∃ s os, runOps (St.init exp z isb) ops = some (s, os) ∧ AInv s ∧ s.map.nul = z :=
  run_spec ops _ (ainv_init exp z isb) hl

/-! ### pure log facts -/

theorem log_balance (z : UInt64) (log : List Ev) (h : LogOK z log) (u : UInt64) (p : Nat) (hu : u ≠ z) :
    creates log u p = frees log u p + (if liveL z log u p = true then 1 else 0) := by
  induction log with
  | nil => rfl
  | cons e r ih =>
    -- a create of `(u, p)` finds it dead and makes it live, a free finds it live and makes it dead
    cases e <;> simp only [LogOK] at h <;> have := ih h.2 <;> grind [creates, frees, liveL]

end ArgoVerif.Model.Assoc
