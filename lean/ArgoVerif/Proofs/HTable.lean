import ArgoVerif.Model.HTable
/-
Proofs.HTable — the hashtable refines a finite map `Int → Option Val`: a bucket is an
association list (`Bucket.entries`), on which `set` and `delete` are `chainSet` and `chainDel`.
-/
namespace ArgoVerif.Model.HTable

/-! ### chain lemmas -/

theorem chainGet_none_iff (k : Int) (c : List (Int × Val)) :
    chainGet k c = none ↔ k ∉ c.map Prod.fst := by
  induction c with
  | nil => simp [chainGet]
  | cons p r ih => simp only [chainGet]; grind

theorem chainSet_get (k : Int) (v : Val) (c : List (Int × Val)) (k' : Int) :
    chainGet k' (chainSet k v c).1 = if k' = k then some v else chainGet k' c := by
  induction c with
  | nil => simp only [chainSet, chainGet]; grind
  | cons p r ih => simp only [chainSet]; split <;> grind [chainGet]

theorem chainSet_snd (k : Int) (v : Val) (c : List (Int × Val)) :
    (chainSet k v c).2 = (chainGet k c).isSome := by
  induction c with
  | nil => simp [chainSet, chainGet]
  | cons p r ih => simp only [chainSet, chainGet]; grind

theorem chainSet_keys (k : Int) (v : Val) (c : List (Int × Val)) :
    (chainSet k v c).1.map Prod.fst =
      if k ∈ c.map Prod.fst then c.map Prod.fst else c.map Prod.fst ++ [k] := by
  induction c with
  | nil => simp [chainSet]
  | cons p r ih => simp only [chainSet]; grind

theorem chainDel_get (k : Int) (c : List (Int × Val)) (hnd : (c.map Prod.fst).Nodup) (k' : Int) :
    chainGet k' (chainDel k c).1 = if k' = k then none else chainGet k' c := by
  induction c with
  | nil => simp [chainDel, chainGet]
  | cons p r ih =>
    have := chainGet_none_iff k r
    simp only [chainDel]; split <;> grind [chainGet]

theorem chainDel_snd (k : Int) (c : List (Int × Val)) :
    (chainDel k c).2 = (chainGet k c).isSome := by
  induction c with
  | nil => simp [chainDel, chainGet]
  | cons p r ih => simp only [chainDel, chainGet]; grind

theorem chainDel_keys_sub (k : Int) (c : List (Int × Val)) :
    ∀ x, x ∈ (chainDel k c).1.map Prod.fst → x ∈ c.map Prod.fst := by
  induction c with
  | nil => simp [chainDel]
  | cons p r ih => simp only [chainDel]; grind

theorem chainDel_nodup (k : Int) (c : List (Int × Val)) (hnd : (c.map Prod.fst).Nodup) :
    ((chainDel k c).1.map Prod.fst).Nodup := by
  induction c with
  | nil => simp [chainDel]
  | cons p r ih =>
    have := chainDel_keys_sub k r
    simp only [chainDel]; grind

/-! ### bucket well-formedness -/

def Bucket.keys (bk : Bucket) : List Int :=
  (if bk.hasData then [bk.key] else []) ++ bk.chain.map Prod.fst

structure Bucket.WF (n i : Nat) (bk : Bucket) : Prop where
  nodup : bk.keys.Nodup
  home : ∀ k ∈ bk.keys, idx n k = i
  emptyChain : bk.hasData = false → bk.chain = []

def Bucket.entries (bk : Bucket) : List (Int × Val) :=
  (if bk.hasData then [(bk.key, bk.val)] else []) ++ bk.chain

theorem Bucket.keys_eq (bk : Bucket) : bk.keys = bk.entries.map Prod.fst := by
  cases h : bk.hasData <;> simp [keys, entries, h]

theorem Bucket.get_eq (bk : Bucket) (k : Int) (he : bk.hasData = false → bk.chain = []) :
    bk.get k = chainGet k bk.entries := by
  cases h : bk.hasData <;> simp [get, entries, chainGet, h, he]

theorem Bucket.set_entries (bk : Bucket) (k : Int) (v : Val) (he : bk.hasData = false → bk.chain = []) :
    (bk.set k v).1.entries = (chainSet k v bk.entries).1 ∧ (bk.set k v).2 = (chainSet k v bk.entries).2 ∧
    (bk.set k v).1.hasData = true := by
  unfold set entries
  cases h : bk.hasData
  · simp [he h, chainSet]
  · by_cases hk : bk.key = k <;> simp [hk, chainSet]

/-- a miss in a bucket without chain leaves the out-parameter untouched -/
theorem Bucket.delete_entries (bk : Bucket) (k : Int) (he : bk.hasData = false → bk.chain = []) :
    (bk.delete k).1.entries = (chainDel k bk.entries).1 ∧
    ((bk.delete k).2 = some (chainDel k bk.entries).2 ∨
      (bk.delete k).2 = none ∧ (chainDel k bk.entries).2 = false) ∧
    ((bk.delete k).1.hasData = false → (bk.delete k).1.chain = []) := by
  unfold delete entries
  cases h : bk.hasData
  · simp [he h, h, chainDel]
  · by_cases hk : bk.key = k <;> cases hc : bk.chain <;> simp [hk, h, hc, chainDel]

theorem Bucket.get_none_of_not_mem (bk : Bucket) (k : Int) (h : k ∉ bk.keys) : bk.get k = none := by
  have := chainGet_none_iff k bk.chain
  cases hd : bk.hasData <;> simp only [get, keys, hd] at h ⊢ <;> grind

theorem Bucket.mem_keys_of_get (bk : Bucket) (k : Int) (v : Val) (h : bk.get k = some v) :
    k ∈ bk.keys := by
  apply Classical.byContradiction
  intro hn
  rw [Bucket.get_none_of_not_mem bk k hn] at h
  cases h

theorem Bucket.set_spec (n i : Nat) (bk : Bucket) (k : Int) (v : Val)
    (hw : bk.WF n i) (hk : idx n k = i) :
    (bk.set k v).1.WF n i ∧ (bk.set k v).2 = (bk.get k).isSome ∧
    ∀ k', (bk.set k v).1.get k' = if k' = k then some v else bk.get k' := by
  obtain ⟨hnd, hhome, hec⟩ := hw
  obtain ⟨he, ho, hd⟩ := bk.set_entries k v hec
  have hec' : (bk.set k v).1.hasData = false → (bk.set k v).1.chain = [] := by simp [hd]
  rw [keys_eq] at hnd hhome
  refine ⟨⟨?_, ?_, hec'⟩, ?_, fun k' => ?_⟩
  · rw [keys_eq, he, chainSet_keys]; grind
  · rw [keys_eq, he, chainSet_keys]; grind
  · rw [ho, chainSet_snd, get_eq _ _ hec]
  · rw [get_eq _ _ hec', he, chainSet_get, get_eq _ _ hec]

theorem Bucket.delete_spec (n i : Nat) (bk : Bucket) (k : Int) (hw : bk.WF n i) :
    (bk.delete k).1.WF n i ∧
    ((bk.delete k).2 = some (bk.get k).isSome ∨ ((bk.delete k).2 = none ∧ bk.get k = none)) ∧
    ∀ k', (bk.delete k).1.get k' = if k' = k then none else bk.get k' := by
  obtain ⟨hnd, hhome, hec⟩ := hw
  obtain ⟨he, hd, hec'⟩ := bk.delete_entries k hec
  rw [keys_eq] at hnd hhome
  refine ⟨⟨?_, ?_, hec'⟩, ?_, fun k' => ?_⟩
  · rw [keys_eq, he]; exact chainDel_nodup k _ hnd
  · rw [keys_eq, he]; exact fun x hx => hhome x (chainDel_keys_sub k _ x hx)
  · rw [chainDel_snd, ← get_eq _ _ hec] at hd
    exact hd.imp_right (.imp_right (by simp))
  · rw [get_eq _ _ hec', he, chainDel_get k _ hnd, get_eq _ _ hec]

/-! ### table level -/

def WF (h : HT) : Prop := 0 < h.n ∧ ∀ i, (h.b i).WF h.n i

theorem idx_lt (n : Nat) (hn : 0 < n) (k : Int) : idx n k < n := by
  unfold idx
  have h1 := Int.tmod_lt_of_pos k (show (0 : Int) < n by omega)
  have h2 := Int.lt_tmod_of_pos k (show (0 : Int) < n by omega)
  simp only
  split <;> omega

theorem create_wf (n : Nat) (hn : 0 < n) : WF (create n) := by
  refine ⟨hn, fun i => ⟨?_, ?_, ?_⟩⟩ <;> simp [create, emptyBucket, Bucket.keys]

theorem create_get (n : Nat) (k : Int) : get (create n) k = none := by
  simp [get, create, emptyBucket, Bucket.get]

theorem get_other_bucket (h : HT) (hw : WF h) (i : Nat) (k : Int) (hne : idx h.n k ≠ i) :
    (h.b i).get k = none := by
  apply Bucket.get_none_of_not_mem
  intro hm
  exact hne ((hw.2 i).home k hm)

theorem updB_spec (h : HT) (hw : WF h) (k : Int) (bk : Bucket) (r : Option Val) (hb : bk.WF h.n (idx h.n k))
    (hg : ∀ k', bk.get k' = if k' = k then r else (h.b (idx h.n k)).get k') :
    WF { h with b := updB h.b (idx h.n k) bk } ∧
    ∀ k', get { h with b := updB h.b (idx h.n k) bk } k' = if k' = k then r else get h k' := by
  refine ⟨⟨hw.1, fun i => ?_⟩, fun k' => ?_⟩
  · by_cases hi : i = idx h.n k
    · subst hi; simpa [updB] using hb
    · simpa [updB, hi] using hw.2 i
  · by_cases hi : idx h.n k' = idx h.n k
    · simp only [get, updB, hi, if_true]; exact hg k'
    · have hne : ¬ k' = k := fun e => hi (by rw [e])
      simp [get, updB, hi, hne]

theorem set_spec (h : HT) (k : Int) (v : Val) (hw : WF h) :
    WF (set h k v).1 ∧ (set h k v).2 = (get h k).isSome ∧
    ∀ k', get (set h k v).1 k' = if k' = k then some v else get h k' :=
  have hb := Bucket.set_spec h.n (idx h.n k) (h.b (idx h.n k)) k v (hw.2 _) rfl
  have hu := updB_spec h hw k _ (some v) hb.1 hb.2.2
  ⟨hu.1, hb.2.1, hu.2⟩

theorem delete_spec (h : HT) (k : Int) (hw : WF h) :
    WF (delete h k).1 ∧
    ((delete h k).2 = some (get h k).isSome ∨ ((delete h k).2 = none ∧ get h k = none)) ∧
    ∀ k', get (delete h k).1 k' = if k' = k then none else get h k' :=
  have hb := Bucket.delete_spec h.n (idx h.n k) (h.b (idx h.n k)) k (hw.2 _)
  have hu := updB_spec h hw k _ none hb.1 hb.2.2
  ⟨hu.1, hb.2.1, hu.2⟩

end ArgoVerif.Model.HTable
