import ArgoVerif.Proofs.AffinityLex
/-
Proofs.Affinity — the recursive-descent functions of the affinity parser against
the documented grammar.  Per function: completeness (every string of the grammar
within the limits is accepted with the documented lists), soundness (whatever is
accepted is a string of the grammar; nothing but success or failure happens) and
independence of the bytes behind the NUL.  Then: the documented left-recursive BNF
(`GList` …) is the comma-separated rendering used here, and the lists the model
builds are the documented expansions converted to `int`.
-/
namespace ArgoVerif.Proofs.Affinity
open ArgoVerif.Model.Affinity
open ArgoVerif.Gen.EnvTable
open ArgoVerif.Props.C20Spec (Tok Lex symTok NumStride IdInterval EsIdList Interval GNumStride GIdInterval GIdList
  GEsIdList GInterval GList intOk nsOk wrapInt32 expandList)
open ArgoVerif.Proofs.AffinityLex
open ArgoVerif.Proofs.AffinityBounds (ext ext_bind)

/-! ### right-recursive rendering of the abstract syntax -/

/- Naming, per syntactic category `X` (`NS` num-stride, `IdInterval`, `Es` es-id-list, `Interval`, `List`):
`rX` renders a value into the tokens the parser reads, `mX` is the list the model builds for it,
`xWf` / `xPos` are the side conditions of the parser's limits resp. of the BNF on it. -/

def rNS : NumStride → List Tok
  | none => []
  | some (n, so) => .colon :: .int n :: (match so with | none => [] | some s => [.colon, .int s])

def rIdInterval (x : IdInterval) : List Tok := .int x.id :: rNS x.ns

def rSep {α : Type} (r : α → List Tok) : List α → List Tok
  | [] => []
  | x :: ys => r x ++ ys.flatMap fun y => .comma :: r y

abbrev rIdList : List IdInterval → List Tok := rSep rIdInterval

def rEs : EsIdList → List Tok
  | .id v => [.int v]
  | .braces l => .lbrace :: rIdList l ++ [.rbrace]

def rInterval (x : Interval) : List Tok := rEs x.es ++ rNS x.ns

abbrev rList : List Interval → List Tok := rSep rInterval

theorem rSep_cons {α : Type} (r : α → List Tok) (x : α) (rest : List α) :
    rSep r (x :: rest) = r x ++ (match rest with | [] => [] | y :: l => .comma :: rSep r (y :: l)) := by
  cases rest <;> simp [rSep]

def nsPos (ns : NumStride) : Prop := 0 < ns.num

theorem colon_tok : symTok 58 = some .colon := by decide
theorem comma_tok : symTok 44 = some .comma := by decide
theorem lbrace_tok : symTok 123 = some .lbrace := by decide
theorem rbrace_tok : symTok 125 = some .rbrace := by decide

theorem intOk_unfold (v : Int) : intOk v ↔ (-2147483647 ≤ v ∧ v ≤ 2147483647) := by
  unfold intOk cIntMax; rfl

/-! ### the optional `":" <num> [":" <stride>]` -/

@[simp] theorem num_none : NumStride.num none = 1 := rfl
@[simp] theorem num_some (n : Int) (s : Option Int) : NumStride.num (some (n, s)) = n := rfl
@[simp] theorem stride_none : NumStride.stride none = 1 := rfl
@[simp] theorem stride_some_none (n : Int) : NumStride.stride (some (n, none)) = 1 := rfl
@[simp] theorem stride_some_some (n s : Int) : NumStride.stride (some (n, some s)) = s := rfl

theorem ns_complete (b : List Byte) (ns : NumStride) (ts : List Tok) (h : Lex b (rNS ns ++ ts))
    (hpos : nsPos ns) (hok : nsOk ns) (hfollow : ∀ ts', ts ≠ .colon :: ts') :
    ∃ b', parseNumStride b = .ok (ns.num, ns.stride) b' ∧ Lex b' ts ∧ b'.length ≤ b.length := by
  obtain ⟨hn, hs, hmax⟩ := hok
  rw [intOk_unfold] at hn hs
  have hmax' : ¬ (ns.num ≥ (maxNumElems : Int)) := by omega
  rcases ns with _ | ⟨n, so⟩
  · have hm := sym_miss b ts 58 .colon colon_tok h hfollow
    exact ⟨b, by simp only [parseNumStride, hm, R.bind, num_none, stride_none]; rw [if_neg (by decide)], h, Nat.le_refl _⟩
  · simp only [num_some] at hn hmax'
    obtain ⟨b1, e1, l1, len1⟩ := sym_hit b _ 58 .colon colon_tok h
    obtain ⟨b2, e2, l2, len2⟩ := int_hit b1 _ n l1
    rw [if_pos hn] at e2
    have hp : n > 0 := hpos
    cases so with
    | none =>
      have hm := sym_miss b2 ts 58 .colon colon_tok l2 hfollow
      exact ⟨b2, by simp only [parseNumStride, e1, consumePint, e2, R.bind, hp, if_true, hm, num_some,
        stride_some_none, if_neg hmax'], l2, by omega⟩
    | some s =>
      obtain ⟨b3, e3, l3, len3⟩ := sym_hit b2 _ 58 .colon colon_tok l2
      obtain ⟨b4, e4, l4, len4⟩ := int_hit b3 _ s l3
      rw [if_pos (by simpa using hs)] at e4
      exact ⟨b4, by simp only [parseNumStride, e1, consumePint, e2, R.bind, hp, if_true, e3, e4, num_some,
        stride_some_some, if_neg hmax'], l4, by omega⟩

theorem pint_sound (b : List Byte) (h0 : (0 : Byte) ∈ b) :
    Post (consumePint b) fun v b' => ((∀ ts, Lex b' ts → Lex b (.int v :: ts)) ∧
      (-2147483647 ≤ v ∧ v ≤ 2147483647) ∧ b'.length < b.length ∧ (0 : Byte) ∈ b') ∧ v > 0 := by
  unfold consumePint
  refine (int_sound b h0).bind fun v s h => ?_
  split
  · exact ⟨h, ‹_›⟩
  · trivial

theorem pint_ext (b post : List Byte) (h0 : (0 : Byte) ∈ b) :
    consumePint (b ++ post) = ext post (consumePint b) := by
  unfold consumePint
  exact ext_bind (int_ext b post h0) fun v s _ => by split <;> rfl

theorem ns_sound (b : List Byte) (h0 : (0 : Byte) ∈ b) :
    Post (parseNumStride b) fun p b' => ∃ ns : NumStride, p = (ns.num, ns.stride) ∧ nsPos ns ∧ nsOk ns ∧
      (∀ ts, Lex b' ts → Lex b (rNS ns ++ ts)) ∧ b'.length ≤ b.length ∧ (0 : Byte) ∈ b' := by
  have ok1 : intOk 1 := by rw [intOk_unfold]; omega
  simp only [parseNumStride]
  -- what was read, before the `num >= MAX_NUM_ELEMS` test
  refine Post.bind (P := fun p b' => ∃ ns : NumStride, p = (ns.num, ns.stride) ∧ nsPos ns ∧ intOk ns.num ∧
    intOk ns.stride ∧ (∀ ts, Lex b' ts → Lex b (rNS ns ++ ts)) ∧ b'.length ≤ b.length ∧ (0 : Byte) ∈ b') ?_ ?_
  · rcases (sym_sound b 58 .colon colon_tok h0).cases with hc | ⟨⟨⟩, s1, hc, pl1, len1, h01⟩ <;> rw [hc] <;>
      dsimp only
    · exact ⟨none, rfl, by simp [nsPos], ok1, ok1, fun ts h => h, Nat.le_refl _, h0⟩
    · refine (pint_sound s1 h01).bind fun n s2 ⟨⟨pl2, okn, len2, h02⟩, hp⟩ => ?_
      have okn := (intOk_unfold n).mpr okn
      rcases (sym_sound s2 58 .colon colon_tok h02).cases with hc2 | ⟨⟨⟩, s3, hc2, pl3, len3, h03⟩ <;> rw [hc2] <;>
        dsimp only
      · exact ⟨some (n, none), rfl, hp, okn, ok1, fun ts hts => pl1 _ (pl2 _ hts), by omega, h02⟩
      · refine (int_sound s3 h03).bind fun st s4 ⟨pl4, oks, len4, h04⟩ => ?_
        exact ⟨some (n, some st), rfl, hp, okn, (intOk_unfold st).mpr oks,
          fun ts hts => pl1 _ (pl2 _ (pl3 _ (pl4 _ hts))), by omega, h04⟩
  · rintro _ s ⟨ns, rfl, hpos, hn, hs, pl, len, h0'⟩
    dsimp only
    split
    · trivial
    · exact ⟨ns, rfl, hpos, ⟨hn, hs, by omega⟩, pl, len, h0'⟩

theorem ns_ext (b post : List Byte) (h0 : (0 : Byte) ∈ b) :
    parseNumStride (b ++ post) = ext post (parseNumStride b) := by
  simp only [parseNumStride]
  refine ext_bind ?_ fun p s _ => by split <;> rfl
  rw [sym_ext 58 b post h0]
  cases hc : consumeSymbol 58 b with
  | ok u s1 =>
    cases u
    have h01 := ((sym_sound b 58 .colon colon_tok h0).of_eq hc).2.2
    refine ext_bind (pint_ext s1 post h01) fun n s2 hi => ?_
    have h02 := ((pint_sound s1 h01).of_eq hi).1.2.2.2
    rw [sym_ext 58 s2 post h02]
    cases hc2 : consumeSymbol 58 s2 with
    | ok u s3 =>
      cases u
      exact ext_bind (int_ext s3 post ((sym_sound s2 58 .colon colon_tok h02).of_eq hc2).2.2) fun _ _ _ => rfl
    | _ => rfl
  | _ => rfl

/-! ### `{ <id-list> }` -/

def mIdList (ids : List Int) (xs : List IdInterval) : List Int :=
  xs.foldl (fun acc x => idListAdd acc x.id x.ns.num x.ns.stride) ids

theorem idl_complete (xs : List IdInterval) (hne : xs ≠ []) :
    ∀ (f : Nat) (b : List Byte) (ids : List Int) (ts : List Tok),
      Lex b (rIdList xs ++ .rbrace :: ts) → (∀ x ∈ xs, nsPos x.ns ∧ x.ok) → b.length < f →
      ∃ b', parseIdIntervals f b ids = .ok (mIdList ids xs) b' ∧ Lex b' ts ∧ b'.length < b.length := by
  induction xs with
  | nil => exact absurd rfl hne
  | cons x rest ih =>
    intro f b ids ts hlex hall hf
    cases f with
    | zero => omega
    | succ f =>
      obtain ⟨hpos, hidok, hnsok⟩ := hall x (by simp)
      rw [rIdList, rSep_cons, List.append_assoc] at hlex
      obtain ⟨b1, e1, l1, len1⟩ := int_hit b _ x.id hlex
      rw [if_pos ((intOk_unfold _).mp hidok)] at e1
      obtain ⟨b2, e2, l2, len2⟩ := ns_complete b1 x.ns _ l1 hpos hnsok (by cases rest <;> intro ts' h <;> cases h)
      cases rest with
      | nil =>
        have hm := sym_miss b2 _ 44 .comma comma_tok l2 (by intro ts' h; cases h)
        obtain ⟨b3, e3, l3, len3⟩ := sym_hit b2 ts 125 .rbrace rbrace_tok l2
        exact ⟨b3, by simp only [parseIdIntervals, e1, R.bind, e2, hm, e3, mIdList, List.foldl_cons, List.foldl_nil],
          l3, by omega⟩
      | cons y l =>
        obtain ⟨b3, e3, l3, len3⟩ := sym_hit b2 _ 44 .comma comma_tok l2
        obtain ⟨b4, e4, l4, len4⟩ := ih (by simp) f b3 (idListAdd ids x.id x.ns.num x.ns.stride) ts l3
          (List.forall_mem_cons.mp hall).2 (by omega)
        exact ⟨b4, by simp only [parseIdIntervals, e1, R.bind, e2, e3, e4, mIdList, List.foldl_cons], l4, by omega⟩

theorem idl_sound (f : Nat) : ∀ (b : List Byte) (ids : List Int), (0 : Byte) ∈ b → b.length < f →
    Post (parseIdIntervals f b ids) fun L b' =>
      ∃ xs : List IdInterval, xs ≠ [] ∧ L = mIdList ids xs ∧ (∀ x ∈ xs, nsPos x.ns ∧ x.ok) ∧
        (∀ ts, Lex b' ts → Lex b (rIdList xs ++ .rbrace :: ts)) ∧ b'.length < b.length ∧ (0 : Byte) ∈ b' := by
  induction f with
  | zero => intro b ids _ h; omega
  | succ f ih =>
    intro b ids h0 hf
    simp only [parseIdIntervals]
    refine (int_sound b h0).bind fun id s1 ⟨pl1, okid, len1, h01⟩ => (ns_sound s1 h01).bind ?_
    rintro _ s2 ⟨ns, rfl, hpos, hnsok, pl2, len2, h02⟩
    have hx : nsPos (IdInterval.mk id ns).ns ∧ (IdInterval.mk id ns).ok :=
      ⟨hpos, (intOk_unfold _).mpr okid, hnsok⟩
    dsimp only
    rcases (sym_sound s2 44 .comma comma_tok h02).cases with hc | ⟨⟨⟩, s3, hc, pl3, len3, h03⟩ <;> rw [hc] <;>
      dsimp only
    · refine (sym_sound s2 125 .rbrace rbrace_tok h02).bind fun _ s4 ⟨pl4, len4, h04⟩ => ?_
      refine ⟨[⟨id, ns⟩], by simp, rfl, by simpa using hx, fun ts hts => ?_, by omega, h04⟩
      simpa [rSep, rIdInterval] using pl1 _ (pl2 _ (pl4 _ hts))
    · refine (ih s3 _ h03 (by omega)).mono ?_
      rintro L b' ⟨xs, hne, rfl, hall, pl4, len4, h04⟩
      refine ⟨⟨id, ns⟩ :: xs, by simp, rfl, List.forall_mem_cons.mpr ⟨hx, hall⟩, fun ts hts => ?_, by omega, h04⟩
      obtain ⟨y, l, rfl⟩ := List.exists_cons_of_ne_nil hne
      simpa [rSep, rIdInterval] using pl1 _ (pl2 _ (pl3 _ (pl4 _ hts)))

theorem idl_ext (f : Nat) : ∀ (b post : List Byte) (ids : List Int), (0 : Byte) ∈ b →
    parseIdIntervals f (b ++ post) ids = ext post (parseIdIntervals f b ids) := by
  induction f with
  | zero => intros; rfl
  | succ f ih =>
    intro b post ids h0
    simp only [parseIdIntervals]
    refine ext_bind (int_ext b post h0) fun id s1 hi => ?_
    have h01 := ((int_sound b h0).of_eq hi).2.2.2
    refine ext_bind (ns_ext s1 post h01) fun p s2 hr => ?_
    obtain ⟨_, _, _, _, _, _, h02⟩ := (ns_sound s1 h01).of_eq hr
    rw [sym_ext 44 s2 post h02]
    cases hc : consumeSymbol 44 s2 with
    | ok u s3 =>
      cases u
      exact ih s3 post _ ((sym_sound s2 44 .comma comma_tok h02).of_eq hc).2.2
    | fail => exact ext_bind (sym_ext 125 s2 post h02) fun _ _ _ => rfl
    | _ => rfl

/-! ### `<es-id-list>` -/

def mEs : EsIdList → List Int
  | .id v => idListAdd [] v 1 1
  | .braces l => mIdList [] l

def esWf : EsIdList → Prop
  | .id v => intOk v
  | .braces l => l ≠ [] ∧ ∀ x ∈ l, nsPos x.ns ∧ x.ok

theorem es_complete (es : EsIdList) (hwf : esWf es) (f : Nat) (b : List Byte) (ts : List Tok)
    (hlex : Lex b (rEs es ++ ts)) (hf : b.length < f) :
    ∃ b', parseEsIdList f b = .ok (mEs es) b' ∧ Lex b' ts ∧ b'.length < b.length := by
  cases es with
  | id v =>
    obtain ⟨b1, e1, l1, len1⟩ := int_hit b ts v hlex
    rw [if_pos ((intOk_unfold _).mp hwf)] at e1
    exact ⟨b1, by simp only [parseEsIdList, e1, mEs], l1, len1⟩
  | braces l =>
    obtain ⟨hne, hall⟩ := hwf
    have hlex' : Lex b (.lbrace :: (rIdList l ++ .rbrace :: ts)) := by simpa [rEs] using hlex
    have hm := int_miss b _ hlex' (by intro v ts' h; cases h)
    obtain ⟨b1, e1, l1, len1⟩ := sym_hit b _ 123 .lbrace lbrace_tok hlex'
    obtain ⟨b2, e2, l2, len2⟩ := idl_complete l hne f b1 [] ts l1 hall (by omega)
    exact ⟨b2, by simp only [parseEsIdList, hm, e1, R.bind, e2, mEs], l2, by omega⟩

theorem es_sound (f : Nat) (b : List Byte) (h0 : (0 : Byte) ∈ b) (hf : b.length < f) :
    Post (parseEsIdList f b) fun L b' =>
      ∃ es : EsIdList, esWf es ∧ L = mEs es ∧ (∀ ts, Lex b' ts → Lex b (rEs es ++ ts)) ∧
        b'.length < b.length ∧ (0 : Byte) ∈ b' := by
  unfold parseEsIdList
  rcases (int_sound b h0).cases with hi | ⟨v, s1, hi, pl1, okv, len1, h01⟩ <;> rw [hi] <;> dsimp only
  · refine (sym_sound b 123 .lbrace lbrace_tok h0).bind fun _ s1 ⟨pl1, len1, h01⟩ => ?_
    refine (idl_sound f s1 [] h01 (by omega)).mono ?_
    rintro L b' ⟨xs, hne, hL, hall, pl2, len2, h02⟩
    exact ⟨.braces xs, ⟨hne, hall⟩, hL, fun ts hts => by simpa [rEs] using pl1 _ (pl2 _ hts), by omega, h02⟩
  · exact ⟨.id v, (intOk_unfold _).mpr okv, rfl, fun ts hts => by simpa [rEs] using pl1 _ hts, len1, h01⟩

theorem es_ext (f : Nat) (b post : List Byte) (h0 : (0 : Byte) ∈ b) :
    parseEsIdList f (b ++ post) = ext post (parseEsIdList f b) := by
  unfold parseEsIdList
  rw [int_ext b post h0]
  cases hi : consumeInt b with
  | fail =>
    exact ext_bind (sym_ext 123 b post h0) fun _ s1 hc =>
      idl_ext f s1 post [] ((sym_sound b 123 .lbrace lbrace_tok h0).of_eq hc).2.2
  | _ => rfl

/-! ### `<list>` -/

def mList (l : List (List Int)) (xs : List Interval) : List (List Int) :=
  xs.foldl (fun acc x => listAdd acc (mEs x.es) x.ns.num x.ns.stride) l

def ivWf (x : Interval) : Prop := esWf x.es ∧ nsPos x.ns ∧ nsOk x.ns

theorem list_complete (xs : List Interval) (hne : xs ≠ []) :
    ∀ (f : Nat) (b : List Byte) (l : List (List Int)),
      Lex b (rList xs) → (∀ x ∈ xs, ivWf x) → b.length < f →
      ∃ b', parseIntervals f b l = .ok (mList l xs) b' := by
  induction xs with
  | nil => exact absurd rfl hne
  | cons x rest ih =>
    intro f b l hlex hall hf
    cases f with
    | zero => omega
    | succ f =>
      obtain ⟨heswf, hpos, hnsok⟩ := hall x (by simp)
      rw [rList, rSep_cons, rInterval, List.append_assoc] at hlex
      obtain ⟨b1, e1, l1, len1⟩ := es_complete x.es heswf (f + 1) b _ hlex hf
      obtain ⟨b2, e2, l2, len2⟩ := ns_complete b1 x.ns _ l1 hpos hnsok (by cases rest <;> intro ts' h <;> cases h)
      cases rest with
      | nil =>
        have hm := sym_miss b2 [] 44 .comma comma_tok l2 (by intro ts' h; cases h)
        obtain ⟨b3, e3⟩ := eos_hit b2 l2
        exact ⟨b3, by simp only [parseIntervals, e1, R.bind, e2, hm, e3, mList, List.foldl_cons, List.foldl_nil]⟩
      | cons y r =>
        obtain ⟨b3, e3, l3, len3⟩ := sym_hit b2 _ 44 .comma comma_tok l2
        obtain ⟨b4, e4⟩ := ih (by simp) f b3 (listAdd l (mEs x.es) x.ns.num x.ns.stride) l3
          (List.forall_mem_cons.mp hall).2 (by omega)
        exact ⟨b4, by simp only [parseIntervals, e1, R.bind, e2, e3, e4, mList, List.foldl_cons]⟩

theorem list_sound (f : Nat) : ∀ (b : List Byte) (l : List (List Int)), (0 : Byte) ∈ b → b.length < f →
    Post (parseIntervals f b l) fun L _ =>
      ∃ xs : List Interval, xs ≠ [] ∧ L = mList l xs ∧ (∀ x ∈ xs, ivWf x) ∧ Lex b (rList xs) := by
  induction f with
  | zero => intro b l _ h; omega
  | succ f ih =>
    intro b l h0 hf
    simp only [parseIntervals]
    refine (es_sound (f + 1) b h0 hf).bind ?_
    rintro _ s1 ⟨es, heswf, rfl, pl1, len1, h01⟩
    refine (ns_sound s1 h01).bind ?_
    rintro _ s2 ⟨ns, rfl, hpos, hnsok, pl2, len2, h02⟩
    have hx : ivWf ⟨es, ns⟩ := ⟨heswf, hpos, hnsok⟩
    dsimp only
    rcases (sym_sound s2 44 .comma comma_tok h02).cases with hc | ⟨⟨⟩, s3, hc, pl3, len3, h03⟩ <;> rw [hc] <;>
      dsimp only
    · refine (eos_sound s2 h02).bind fun _ s4 hl => ?_
      refine ⟨[⟨es, ns⟩], by simp, rfl, by simpa using hx, ?_⟩
      simpa [rSep, rInterval] using pl1 _ (pl2 _ hl)
    · refine (ih s3 _ h03 (by omega)).mono ?_
      rintro L b' ⟨xs, hne, rfl, hall, hlex⟩
      refine ⟨⟨es, ns⟩ :: xs, by simp, rfl, List.forall_mem_cons.mpr ⟨hx, hall⟩, ?_⟩
      obtain ⟨y, r, rfl⟩ := List.exists_cons_of_ne_nil hne
      simpa [rSep, rInterval] using pl1 _ (pl2 _ (pl3 _ hlex))

theorem list_ext (f : Nat) : ∀ (b post : List Byte) (l : List (List Int)), (0 : Byte) ∈ b → b.length < f →
    parseIntervals f (b ++ post) l = ext post (parseIntervals f b l) := by
  induction f with
  | zero => intros; rfl
  | succ f ih =>
    intro b post l h0 hf
    simp only [parseIntervals]
    refine ext_bind (es_ext (f + 1) b post h0) fun idl s1 he => ?_
    obtain ⟨_, _, _, _, len1, h01⟩ := (es_sound (f + 1) b h0 hf).of_eq he
    refine ext_bind (ns_ext s1 post h01) fun p s2 hr => ?_
    obtain ⟨_, _, _, _, _, len2, h02⟩ := (ns_sound s1 h01).of_eq hr
    rw [sym_ext 44 s2 post h02]
    cases hc : consumeSymbol 44 s2 with
    | ok u s3 =>
      cases u
      obtain ⟨_, len3, h03⟩ := (sym_sound s2 44 .comma comma_tok h02).of_eq hc
      exact ih s3 post _ h03 (by omega)
    | fail => exact ext_bind (sym_ext 0 s2 post h02) fun _ _ _ => rfl
    | _ => rfl

/-! ### BNF ↔ rendering -/

theorem gns_iff (t : List Tok) (ns : NumStride) : GNumStride t ns ↔ t = rNS ns ∧ nsPos ns := by
  constructor
  · intro h
    cases h with
    | full n s hn => exact ⟨rfl, hn⟩
    | num n hn => exact ⟨rfl, hn⟩
    | none => exact ⟨rfl, by simp [nsPos]⟩
  · rintro ⟨rfl, hp⟩
    rcases ns with _ | ⟨n, _ | s⟩
    · exact .none
    · exact .num n hp
    · exact .full n s hp

theorem gidi_iff (t : List Tok) (x : IdInterval) : GIdInterval t x ↔ t = rIdInterval x ∧ nsPos x.ns := by
  constructor
  · intro h
    cases h with
    | mk id t ns hns =>
      obtain ⟨rfl, hp⟩ := (gns_iff t ns).mp hns
      exact ⟨rfl, hp⟩
  · rintro ⟨rfl, hp⟩
    obtain ⟨id, ns⟩ := x
    exact GIdInterval.mk id _ ns ((gns_iff _ ns).mpr ⟨rfl, hp⟩)

/-- `<xs> = <x> | <xs> "," <x>`: the shape of the two list productions -/
inductive GSep {α : Type} (E : List Tok → α → Prop) : List Tok → List α → Prop
  | one (t : List Tok) (x : α) : E t x → GSep E t [x]
  | snoc (l t : List Tok) (xs : List α) (x : α) : GSep E l xs → E t x → GSep E (l ++ .comma :: t) (xs ++ [x])

theorem gsep_iff {α : Type} {E : List Tok → α → Prop} {r : α → List Tok} {pos : α → Prop}
    (hE : ∀ t x, E t x ↔ t = r x ∧ pos x) (t : List Tok) (xs : List α) :
    GSep E t xs ↔ xs ≠ [] ∧ t = rSep r xs ∧ ∀ z ∈ xs, pos z := by
  constructor
  · intro h
    induction h with
    | one t x hx =>
      obtain ⟨rfl, hp⟩ := (hE t x).mp hx
      exact ⟨by simp, by simp [rSep], by simpa using hp⟩
    | snoc l t xs z _ hz ih =>
      obtain ⟨hne, rfl, hall⟩ := ih
      obtain ⟨rfl, hp⟩ := (hE t z).mp hz
      obtain ⟨x, ys, rfl⟩ := List.exists_cons_of_ne_nil hne
      exact ⟨by simp, by simp [rSep], List.forall_mem_append.mpr ⟨hall, by simpa using hp⟩⟩
  · rintro ⟨hne, rfl, hall⟩
    obtain ⟨x, ys, rfl⟩ := List.exists_cons_of_ne_nil hne
    -- start from `[x]` and append the elements of `ys` one by one
    obtain ⟨hx, hys⟩ := List.forall_mem_cons.mp hall
    suffices h : ∀ (ys : List α) l xs, GSep E l xs → (∀ z ∈ ys, pos z) →
        GSep E (l ++ ys.flatMap fun y => .comma :: r y) (xs ++ ys) from
      h ys _ [x] (.one _ x ((hE _ x).mpr ⟨rfl, hx⟩)) hys
    intro ys
    induction ys with
    | nil => intro l xs h _; simpa using h
    | cons y ys ih =>
      intro l xs h hall
      obtain ⟨hy, hys⟩ := List.forall_mem_cons.mp hall
      simpa [List.append_assoc] using ih _ _ (.snoc l _ xs y h ((hE _ y).mpr ⟨rfl, hy⟩)) hys

theorem gidl_iff (t : List Tok) (xs : List IdInterval) :
    GIdList t xs ↔ xs ≠ [] ∧ t = rIdList xs ∧ ∀ z ∈ xs, nsPos z.ns := by
  refine Iff.trans ?_ (gsep_iff gidi_iff t xs)
  constructor <;> intro h <;> induction h with
  | one t x hx => exact .one t x hx
  | snoc l t xs x _ hx ih => exact .snoc l t xs x ih hx

def esPos : EsIdList → Prop
  | .id _ => True
  | .braces l => l ≠ [] ∧ ∀ z ∈ l, nsPos z.ns

theorem ges_iff (t : List Tok) (es : EsIdList) : GEsIdList t es ↔ t = rEs es ∧ esPos es := by
  constructor
  · intro h
    cases h with
    | id v => exact ⟨rfl, trivial⟩
    | braces l xs hl =>
      obtain ⟨hne, rfl, hall⟩ := (gidl_iff l xs).mp hl
      exact ⟨rfl, hne, hall⟩
  · rintro ⟨rfl, hp⟩
    cases es with
    | id v => exact GEsIdList.id v
    | braces l => exact GEsIdList.braces _ l ((gidl_iff _ l).mpr ⟨hp.1, rfl, hp.2⟩)

theorem giv_iff (t : List Tok) (x : Interval) : GInterval t x ↔ t = rInterval x ∧ esPos x.es ∧ nsPos x.ns := by
  constructor
  · intro h
    cases h with
    | mk e t es ns he hns =>
      obtain ⟨rfl, hp1⟩ := (ges_iff e es).mp he
      obtain ⟨rfl, hp2⟩ := (gns_iff t ns).mp hns
      exact ⟨rfl, hp1, hp2⟩
  · rintro ⟨rfl, hp1, hp2⟩
    obtain ⟨es, ns⟩ := x
    exact GInterval.mk _ _ es ns ((ges_iff _ es).mpr ⟨rfl, hp1⟩) ((gns_iff _ ns).mpr ⟨rfl, hp2⟩)

def ivPos (x : Interval) : Prop := esPos x.es ∧ nsPos x.ns

theorem glist_iff (t : List Tok) (xs : List Interval) :
    GList t xs ↔ xs ≠ [] ∧ t = rList xs ∧ ∀ z ∈ xs, ivPos z := by
  refine Iff.trans ?_ (gsep_iff giv_iff t xs)
  constructor <;> intro h <;> induction h with
  | one t x hx => exact .one t x hx
  | snoc l t xs x _ hx ih => exact .snoc l t xs x ih hx

theorem ivWf_iff (x : Interval) : ivWf x ↔ ivPos x ∧ x.ok := by
  obtain ⟨es, ns⟩ := x
  cases es <;> simp only [ivWf, ivPos, Interval.ok, esWf, esPos, EsIdList.ok] <;> grind

/-! ### the lists the model builds are the documented ones, converted to `int` -/

theorem strideAdd_eq (id stride : Int) (i : Nat) : strideAdd id stride i = wrapInt32 (id + stride * (i : Int)) := by
  unfold strideAdd toU32 ofU32 wrapInt32
  have h1 : (stride % 4294967296 * (i : Int)) % 4294967296 = (stride * (i : Int)) % 4294967296 := by
    rw [Int.mul_emod, Int.emod_emod, ← Int.mul_emod]
  rw [h1, ← Int.add_emod]
  generalize id + stride * (i : Int) = y
  split <;> omega

theorem wrap_wrap_add (a b : Int) : wrapInt32 (wrapInt32 a + b) = wrapInt32 (a + b) := by
  unfold wrapInt32; omega

theorem wrap_id (v : Int) (h1 : -2147483648 ≤ v) (h2 : v ≤ 2147483647) : wrapInt32 v = v := by
  unfold wrapInt32; omega

theorem idListAdd_eq (ids : List Int) (x : IdInterval) :
    idListAdd ids x.id x.ns.num x.ns.stride = ids ++ x.expand.map wrapInt32 := by
  simp [idListAdd, IdInterval.expand, strideAdd_eq]

theorem foldl_append_eq {α β : Type} (step : List β → α → List β) (g : α → List β) (xs : List α)
    (h : ∀ acc, ∀ x ∈ xs, step acc x = acc ++ g x) (acc : List β) : xs.foldl step acc = acc ++ xs.flatMap g := by
  induction xs generalizing acc with
  | nil => simp
  | cons x xs ih =>
    rw [List.foldl_cons, h acc x (by simp), ih (fun acc z hz => h acc z (by simp [hz])), List.flatMap_cons,
      List.append_assoc]

theorem mIdList_eq (xs : List IdInterval) (ids : List Int) :
    mIdList ids xs = ids ++ (xs.flatMap IdInterval.expand).map wrapInt32 := by
  rw [mIdList, foldl_append_eq _ _ xs (fun acc x _ => idListAdd_eq acc x), List.map_flatMap]

theorem mEs_eq (es : EsIdList) : mEs es = es.expand.map wrapInt32 := by
  cases es with
  | id v => simp [mEs, idListAdd, EsIdList.expand, strideAdd_eq]
  | braces l => simp [mEs, mIdList_eq, EsIdList.expand]

theorem listAdd_eq (l : List (List Int)) (x : Interval) (hpos : 0 < x.ns.num) :
    listAdd l (mEs x.es) x.ns.num x.ns.stride = l ++ x.expand.map (List.map wrapInt32) := by
  unfold listAdd Interval.expand
  rw [mEs_eq]
  obtain ⟨n, hn⟩ : ∃ n, x.ns.num.toNat = n + 1 := ⟨x.ns.num.toNat - 1, by omega⟩
  rw [hn, List.range_succ_eq_map]
  simp [Function.comp_def, strideAdd_eq, wrap_wrap_add]

theorem mList_eq (xs : List Interval) (hpos : ∀ x ∈ xs, 0 < x.ns.num) (l : List (List Int)) :
    mList l xs = l ++ (expandList xs).map (List.map wrapInt32) := by
  rw [mList, foldl_append_eq _ _ xs (fun acc x hx => listAdd_eq acc x (hpos x hx)), expandList, List.map_flatMap]

theorem map_wrap_id (ls : List (List Int)) (h : ∀ l ∈ ls, ∀ v ∈ l, -2147483648 ≤ v ∧ v ≤ 2147483647) :
    ls.map (List.map wrapInt32) = ls := by
  refine (List.map_congr_left fun l hl => ?_).trans (List.map_id ls)
  exact (List.map_congr_left fun v hv => wrap_id v (h l hl v hv).1 (h l hl v hv).2).trans (List.map_id l)

/-! ### assembly -/

theorem parse_complete (b : List Byte) (ts : List Tok) (ast : List Interval) (hlex : Lex b ts)
    (hg : GList ts ast) (hok : ∀ x ∈ ast, x.ok) :
    ∃ rest, parseList b = .ok ((expandList ast).map (List.map wrapInt32)) rest := by
  obtain ⟨hne, rfl, hpos⟩ := (glist_iff ts ast).mp hg
  have hwf : ∀ x ∈ ast, ivWf x := fun x hx => (ivWf_iff x).mpr ⟨hpos x hx, hok x hx⟩
  obtain ⟨rest, e⟩ := list_complete ast hne (b.length + 1) b [] hlex hwf (by omega)
  refine ⟨rest, ?_⟩
  unfold parseList
  rw [e, mList_eq ast (fun x hx => (hpos x hx).2)]
  simp

theorem parse_sound (b : List Byte) (h0 : (0 : Byte) ∈ b) :
    Post (parseList b) fun L _ =>
      ∃ ts ast, Lex b ts ∧ GList ts ast ∧ (∀ x ∈ ast, x.ok) ∧ L = (expandList ast).map (List.map wrapInt32) := by
  refine (list_sound (b.length + 1) b [] h0 (by omega)).mono ?_
  rintro L _ ⟨xs, hne, hL, hall, hlex⟩
  have hp : ∀ x ∈ xs, ivPos x := fun x hx => ((ivWf_iff x).mp (hall x hx)).1
  refine ⟨rList xs, xs, hlex, (glist_iff _ xs).mpr ⟨hne, rfl, hp⟩, fun x hx => ((ivWf_iff x).mp (hall x hx)).2, ?_⟩
  rw [hL, mList_eq xs (fun x hx => (hp x hx).2)]
  simp

end ArgoVerif.Proofs.Affinity
