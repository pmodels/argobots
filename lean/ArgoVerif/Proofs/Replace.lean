import ArgoVerif.Model.Replace
/-
Proofs.Replace — invariant of main-scheduler replacement when requests do not overlap.
-/
namespace ArgoVerif.Model.Replace

structure Inv (s : St) : Prop where
  uaf : s.uaf = false
  curAlive : s.freed s.cur = false
  pend : ∀ x, s.rsched s.cur = some x → s.freed x = false ∧ x ≠ s.cur ∧ s.rsched x = none ∧ s.rwaiter x = none
  both : s.rsched s.cur = none ↔ s.rwaiter s.cur = none
  active : ∀ u ∈ s.ults, (s.ustat u = .ready ∨ s.ustat u = .running) →
    s.upool u = s.cur ∨ s.rsched s.cur = some (s.upool u)
  blocked : ∀ u ∈ s.ults, s.ustat u = .blocked → s.rwaiter s.cur = some u ∧ s.rsched s.cur = some (s.upool u)
  waiter : ∀ w, s.rwaiter s.cur = some w → w ∈ s.ults ∧ s.ustat w = .blocked
  sched : s.onSched = true → ∀ u ∈ s.ults, s.ustat u ≠ .running
  oneRun : ∀ u ∈ s.ults, ∀ v ∈ s.ults, s.ustat u = .running → s.ustat v = .running → u = v

theorem inv_init (ults : List RId) (a : Bool) : Inv (init ults a) := by
  constructor <;> grind [init]

theorem only_runner {s : St} {u v : RId} {st : UStat} (hone : ∀ v ∈ s.ults, s.ustat v = .running → v = u)
    (hv : v ∈ s.ults) (hr : upd s.ustat u st v = .running) : v = u ∧ st = .running := by
  by_cases hvu : v = u
  · rw [hvu, upd_same] at hr
    exact ⟨hvu, hr⟩
  · rw [upd_other _ _ _ _ hvu] at hr
    exact absurd (hone v hv hr) hvu

/-- for `run`, `yield`, `finish` -/
theorem Inv.setStat {s : St} (h : Inv s) {u : RId} {st : UStat} {b : Bool} (hu : u ∈ s.ults)
    (hact : s.ustat u = .ready ∨ s.ustat u = .running) (hst : st ≠ .blocked) (hb : b = true → st ≠ .running)
    (hone : ∀ v ∈ s.ults, s.ustat v = .running → v = u) :
    Inv { s with ustat := upd s.ustat u st, onSched := b } := by
  refine ⟨h.uaf, h.curAlive, h.pend, h.both, ?_, ?_, ?_, ?_, ?_⟩
  · intro v hv hs
    by_cases hvu : v = u
    · exact hvu ▸ h.active u hu hact
    · exact h.active v hv (by simpa only [upd_other _ _ _ _ hvu] using hs)
  · intro v hv hs
    by_cases hvu : v = u
    · simp only [hvu, upd_same] at hs
      exact absurd hs hst
    · exact h.blocked v hv (by simpa only [upd_other _ _ _ _ hvu] using hs)
  · intro w hw
    have hwb := h.waiter w hw
    have hwu : w ≠ u := by
      intro e
      simp [← e, hwb.2] at hact
    exact ⟨hwb.1, by simpa only [upd_other _ _ _ _ hwu] using hwb.2⟩
  · intro hb' v hv hr
    exact hb hb' (only_runner hone hv hr).2
  · intro a ha c hc hra hrc
    exact (only_runner hone ha hra).1.trans (only_runner hone hc hrc).1.symm

theorem inv_request {s s' : St} {u x : RId} (h : Inv s) (hno : s.rsched s.cur = none)
    (hs : step s (.request u x) = some s') : Inv s' := by
  have hw : s.rwaiter s.cur = none := h.both.mp hno
  -- nothing is pending: every active ULT is in the current scheduler's pool, and nobody is blocked
  have hact : ∀ v ∈ s.ults, s.ustat v = .ready ∨ s.ustat v = .running → s.upool v = s.cur := fun v hv hst =>
    (h.active v hv hst).resolve_right (by simp [hno])
  have hnb : ∀ v ∈ s.ults, s.ustat v ≠ .blocked := fun v hv hb => by
    simpa [hw] using (h.blocked v hv hb).1
  simp only [step, Option.ite_none_right_eq_some] at hs
  obtain ⟨⟨-, h2, h3, h4, h5, h6, h7⟩, hs⟩ := hs
  simp only [hact u h3 (.inr h2), if_true, hno, hw, Option.some.injEq] at hs
  subst hs
  have hone : ∀ v ∈ s.ults, s.ustat v = .running → v = u := fun v hv hr => h.oneRun v hv u h3 hr h2
  constructor
  · exact h.uaf
  · exact h.curAlive
  · intro y hy
    simp only [upd_same, Option.some.injEq] at hy
    subst hy
    exact ⟨h5, h4, by simpa [upd, h4] using h6, by simpa [upd, h4] using h7⟩
  · simp [upd]
  · intro v hv hst
    have hvu : v ≠ u := by
      rintro rfl
      simp [upd] at hst
    simp only [upd, hvu, if_false] at hst ⊢
    exact Or.inl (hact v hv hst)
  · intro v hv hst
    by_cases hvu : v = u
    · simp [hvu, upd]
    · simp only [upd, hvu, if_false] at hst
      exact absurd hst (hnb v hv)
  · intro w hwt
    simp only [upd_same, Option.some.injEq] at hwt
    exact hwt ▸ ⟨h3, upd_same _ _ _⟩
  · intro _ v hv hr
    cases (only_runner hone hv hr).2
  · intro a ha c hc hra hrc
    exact (only_runner hone ha hra).1.trans (only_runner hone hc hrc).1.symm

theorem step_replace {s s' : St} (hs : step s .replace = some s') :
    s.onSched = true ∧ (∀ u ∈ s.ults, ¬ (s.ustat u = .ready ∧ s.upool u = s.cur)) ∧
    ∃ x w, s.rsched s.cur = some x ∧ s.rwaiter s.cur = some w ∧
      s' = resumePush { s with cur := x, freed := upd s.freed s.cur true } w := by
  simp only [step, Option.ite_none_right_eq_some] at hs
  obtain ⟨hc, hs⟩ := hs
  split at hs
  · rename_i x w hx hw
    refine ⟨hc.1, fun u hu hn => ?_, x, w, hx, hw, (Option.some.inj hs).symm⟩
    simpa [hn] using List.all_eq_true.mp hc.2 u hu
  · cases hs

theorem Inv.waiter_pool {s : St} (h : Inv s) {x w : RId} (hx : s.rsched s.cur = some x)
    (hw : s.rwaiter s.cur = some w) : s.upool w = x := by
  have hwm := h.waiter w hw
  have hp := (h.blocked w hwm.1 hwm.2).2
  rw [hx] at hp
  exact (Option.some.inj hp).symm

theorem inv_replace {s s' : St} (h : Inv s) (hs : step s .replace = some s') : Inv s' := by
  obtain ⟨h1, h2, x, w, hx, hwt, rfl⟩ := step_replace hs
  obtain ⟨hfx, hxc, hrx, hwx⟩ := h.pend x hx
  have hpw := h.waiter_pool hx hwt
  -- afterwards nobody runs or is blocked, and whoever is ready is in the pool of the new main scheduler
  have hall : ∀ v ∈ s.ults, upd s.ustat w .ready v ≠ .running ∧ upd s.ustat w .ready v ≠ .blocked ∧
      (upd s.ustat w .ready v = .ready → s.upool v = x) := by
    intro v hv
    by_cases hvw : v = w
    · simp [hvw, hpw]
    · rw [upd_other _ _ _ _ hvw]
      refine ⟨h.sched h1 v hv, fun hb => ?_, fun hr => ?_⟩
      · have hv' := (h.blocked v hv hb).1
        rw [hwt] at hv'
        exact hvw (Option.some.inj hv').symm
      · rcases h.active v hv (.inl hr) with e | e
        · exact absurd ⟨hr, e⟩ (h2 v hv)
        · rw [hx] at e
          exact (Option.some.inj e).symm
  simp only [resumePush]
  constructor
  · simp [h.uaf, upd, hpw, hxc, hfx]
  · simp [upd, hxc, hfx]
  · intro y hy
    simp [hrx] at hy
  · simp [hrx, hwx]
  · intro v hv hst
    rcases hst with e | e
    · exact Or.inl ((hall v hv).2.2 e)
    · exact absurd e (hall v hv).1
  · intro v hv hst
    exact absurd hst (hall v hv).2.1
  · intro w' hw'
    simp [hwx] at hw'
  · intro _ v hv
    exact (hall v hv).1
  · intro a ha _ _ hra
    exact absurd hra (hall a ha).1

theorem replace_resumes {s s' : St} {w : RId} (h : Inv s) (hw : s.rwaiter s.cur = some w)
    (hs : step s .replace = some s') : s'.ustat w = .ready ∧ s'.upool w = s'.cur := by
  obtain ⟨-, -, x, w', hx, hw', rfl⟩ := step_replace hs
  cases hw.symm.trans hw'
  exact ⟨upd_same _ _ _, h.waiter_pool hx hw⟩

theorem inv_stepNO {s s' : St} {e : Ev} (h : Inv s) (hs : stepNO s e = some s') : Inv s' := by
  cases e with
  | request u x =>
    simp only [stepNO, Option.ite_none_left_eq_some] at hs
    exact inv_request h (by simpa using hs.1) hs.2
  | run u =>
    simp only [stepNO, step, Option.ite_none_right_eq_some, Option.some.injEq] at hs
    obtain ⟨⟨h1, h2, h3, -⟩, rfl⟩ := hs
    exact h.setStat h2 (.inl h3) (by simp) (by simp) fun v hv hr => absurd hr (h.sched h1 v hv)
  | yield u | finish u =>
    simp only [stepNO, step, Option.ite_none_right_eq_some, Option.some.injEq] at hs
    obtain ⟨⟨-, h2, h3⟩, rfl⟩ := hs
    exact h.setStat h2 (.inr h3) (by simp) (by simp) fun v hv hr => h.oneRun v hv u h2 hr h3
  | replace => exact inv_replace h hs

theorem inv_runNO {tr : List Ev} {s s' : St} (h : Inv s) (hr : runNO s tr = some s') : Inv s' := by
  induction tr generalizing s with
  | nil => exact Option.some.inj hr ▸ h
  | cons e es ih =>
    simp only [runNO] at hr
    split at hr
    · cases hr
    · rename_i s1 hst
      exact ih (inv_stepNO h hst) hr

end ArgoVerif.Model.Replace
