import ArgoVerif.Model.RWLock
/-
Proofs.RWLock — the inductive invariant of Model.RWLock, its preservation by every step function, and deadlock
freedom from the invariant: which progress event is enabled at each program counter, and why a sleeper always has
somebody who can step.
-/
namespace ArgoVerif.Model.RWLock
open ArgoVerif

/-- program counters at which the actor holds the internal mutex -/
def InM : Pc → Prop
  | .rTest | .wTest | .uUpd | .rUnlock | .wUnlock | .uBcast => True
  | _ => False

/-- asleep in the cond wait-list -/
def Asleep : Pc → Prop
  | .rSleep | .wSleep => True
  | _ => False

/-- program counters a reader holder can be at: idle, inside a (nested) rdlock that has not slept, inside unlock -/
def RdOk : Pc → Prop
  | .idle | .rLock | .rTest | .rUnlock | .rDone | .uLock | .uUpd | .uBcast | .uDone => True
  | _ => False

/-- program counters the writer holder can be at: finishing wrlock, idle, starting unlock -/
def WrOk : Pc → Prop
  | .wUnlock | .wDone | .idle | .uLock | .uUpd => True
  | _ => False

/-- an unlocker is between its counter update and the end of its broadcast (it holds the mutex) -/
def Bcasting (o : Option Actor) (pc : Actor → Pc) : Prop :=
  o ≠ none ∧ ∀ b, o = some b → pc b = .uBcast

structure Inv (s : St) : Prop where
  mhIff : ∀ a, s.mholder = some a ↔ InM (s.pc a)
  qIff : ∀ a, a ∈ s.q ↔ Asleep (s.pc a)
  nodup : s.q.Nodup
  wfIff : s.writeFlag = true ↔ s.writer ≠ none
  rcLen : s.readerCount = (s.readers.length : Int)
  excl : s.writer ≠ none → s.readers = []
  writerPc : ∀ a, s.writer = some a → WrOk (s.pc a)
  readerPc : ∀ a, a ∈ s.readers → RdOk (s.pc a)
  wHolds : ∀ a, (s.pc a = .wUnlock ∨ s.pc a = .wDone) → s.writer = some a
  rHolds : ∀ a, (s.pc a = .rUnlock ∨ s.pc a = .rDone) → a ∈ s.readers
  uHolds : ∀ a, (s.pc a = .uLock ∨ s.pc a = .uUpd) → (a ∈ s.readers ∨ s.writer = some a)
  rSleepOk : ∀ a, s.pc a = .rSleep → s.writeFlag = true ∨ Bcasting s.mholder s.pc
  wSleepOk : ∀ a, s.pc a = .wSleep → s.writeFlag = true ∨ s.readerCount ≠ 0 ∨ Bcasting s.mholder s.pc
  taskPc : ∀ a, s.kind a = .tasklet → (s.pc a = .idle ∨ s.pc a = .rRejected ∨ s.pc a = .wRejected)
  taskNoHold : ∀ a, s.kind a = .tasklet → a ∉ s.readers ∧ s.writer ≠ some a

theorem inv_init (k : Actor → Kind) : Inv (init k) := by
  constructor <;> simp [init, InM, Asleep, RdOk, WrOk, Bcasting]

def Global (s : St) : Prop :=
  s.q.Nodup ∧ (s.writeFlag = true ↔ s.writer ≠ none) ∧ s.readerCount = (s.readers.length : Int) ∧
  (s.writer ≠ none → s.readers = [])

/-- `s.pc` occurs only in `Bcasting` -/
def Local (s : St) (a : Actor) (p : Pc) : Prop :=
  (s.mholder = some a ↔ InM p) ∧ (a ∈ s.q ↔ Asleep p) ∧ (s.writer = some a → WrOk p) ∧ (a ∈ s.readers → RdOk p) ∧
  (p = .wUnlock ∨ p = .wDone → s.writer = some a) ∧ (p = .rUnlock ∨ p = .rDone → a ∈ s.readers) ∧
  (p = .uLock ∨ p = .uUpd → a ∈ s.readers ∨ s.writer = some a) ∧
  (p = .rSleep → s.writeFlag = true ∨ Bcasting s.mholder s.pc) ∧
  (p = .wSleep → s.writeFlag = true ∨ s.readerCount ≠ 0 ∨ Bcasting s.mholder s.pc) ∧
  (s.kind a = .tasklet → p = .idle ∨ p = .rRejected ∨ p = .wRejected) ∧
  (s.kind a = .tasklet → a ∉ s.readers ∧ s.writer ≠ some a)

macro "inv_tac" h:ident : tactic => `(tactic|
  (cases $h:ident; first | assumption | grind [upd, Bcasting, Global, Local]))

macro "close_tac" h:ident hs:ident : tactic => `(tactic|
  first
  | (cases $hs:ident; done)
  | (cases $hs:ident; constructor <;> inv_tac $h))

theorem inv_iff (s : St) : Inv s ↔ Global s ∧ ∀ a, Local s a (s.pc a) := by
  constructor
  · exact fun h => ⟨by inv_tac h, fun a => by inv_tac h⟩
  · intro ⟨⟨_, _, _, _⟩, l⟩
    constructor <;> first | assumption | (intro a; have := l a; grind [Local]) | grind [Local]

theorem inv_move {s s' : St} {a : Actor} {p : Pc} (h : Inv s) (hpc : s'.pc = upd s.pc a p)
    (hs : Global s → Local s a (s.pc a) →
      Global s' ∧ Local s' a p ∧ ∀ b, b ≠ a → Local s b (s.pc b) → Local s' b (s.pc b)) : Inv s' :=
  inv_of_move inv_iff h hpc hs

theorem inv_setPc {s : St} {a : Actor} {p₀ p : Pc} (h : Inv s) (hp : s.pc a = p₀)
    (hl : Local s a p₀ → Local (setPc s a p) a p ∧ ¬ InM p₀) : Inv (setPc s a p) :=
  inv_move h rfl fun g l => by
    obtain ⟨hl, hm⟩ := hl (hp ▸ l)
    refine ⟨g, hl, fun b hb lb => ?_⟩
    simp only [Local, setPc] at l lb ⊢
    grind [Bcasting, upd]

theorem inv_takeM {s : St} {a : Actor} {p₀ p : Pc} (h : Inv s) (hp : s.pc a = p₀) (hf : s.mholder = none)
    (hl : Local s a p₀ → Local (takeM s a p) a p) : Inv (takeM s a p) :=
  inv_move h rfl fun g l => by
    refine ⟨g, hl (hp ▸ l), fun b hb lb => ?_⟩
    simp only [Local, takeM, setPc] at lb ⊢
    grind [Bcasting]

/-- the wait-list may change with the release of the internal mutex -/
theorem inv_dropM {s : St} {a : Actor} {p₀ p : Pc} {q : List Actor} (h : Inv s) (hp : s.pc a = p₀)
    (hq : q.Nodup ∧ ∀ b, b ≠ a → (b ∈ q ↔ b ∈ s.q))
    (hl : Global s → Local s a p₀ →
      Local (dropM { s with q := q } a p) a p ∧ InM p₀ ∧ (p₀ = .uBcast → s.q = [])) :
    Inv (dropM { s with q := q } a p) :=
  inv_move h rfl fun g l => by
    obtain ⟨hl, hm, hb⟩ := hl g (hp ▸ l)
    refine ⟨by grind [Global, dropM, setPc], hl, fun b hb lb => ?_⟩
    simp only [Local, dropM, setPc] at l lb ⊢
    grind [Bcasting, Asleep]

theorem inv_stepCall (s s' : St) (a : Actor) (op : Op) (h : Inv s) (hs : stepCall s a op = some s') : Inv s' := by
  cases op <;> simp only [stepCall] at hs <;> (repeat' split at hs) <;> cases hs <;>
    exact inv_setPc h (by simpa using ‹¬ s.pc a ≠ .idle›)
      (by simp_all [Local, setPc, InM, Asleep, RdOk, WrOk] <;> grind)

theorem inv_stepRet (s s' : St) (a : Actor) (op : Op) (rc : Rc) (h : Inv s) (hs : stepRet s a op rc = some s') :
    Inv s' := by
  unfold stepRet at hs
  split at hs <;> cases hs <;>
    exact inv_setPc h (by assumption) (by simp +contextual [Local, setPc, InM, Asleep, RdOk, WrOk])

theorem inv_stepMutexLock (s s' : St) (a : Actor) (h : Inv s) (hs : stepMutexLock s a = some s') : Inv s' := by
  unfold stepMutexLock at hs
  split at hs
  · cases hs
  · rename_i hf
    split at hs <;> cases hs <;>
      exact inv_takeM h (by assumption) (by simpa using hf)
        (by simp +contextual [Local, takeM, setPc, InM, Asleep, RdOk, WrOk])

theorem inv_stepMutexUnlock (s s' : St) (a : Actor) (h : Inv s) (hs : stepMutexUnlock s a = some s') : Inv s' := by
  unfold stepMutexUnlock at hs
  (repeat' (split at hs)) <;> cases hs <;>
    exact inv_dropM (q := s.q) h (by assumption) ⟨h.nodup, fun _ _ => Iff.rfl⟩
      (by simp_all [Local, dropM, setPc, InM, Asleep, RdOk, WrOk])

theorem inv_stepEnq (s s' : St) (a : Actor) (h : Inv s) (hs : stepEnq s a = some s') : Inv s' := by
  unfold stepEnq at hs
  split at hs <;> close_tac h hs

theorem inv_stepSleep (s s' : St) (a : Actor) (h : Inv s) (hs : stepSleep s a = some s') : Inv s' := by
  have hq : a ∉ s.q → (s.q ++ [a]).Nodup ∧ ∀ b, b ≠ a → (b ∈ s.q ++ [a] ↔ b ∈ s.q) := by
    have := h.nodup
    grind
  unfold stepSleep at hs
  (repeat' (split at hs)) <;> cases hs <;> rename_i hp hw <;>
    have ha : a ∉ s.q := (by simp [(h.qIff a), hp, Asleep]) <;>
    exact inv_dropM h hp (hq ha) (by simp_all [Global, Local, dropM, setPc, InM, Asleep, RdOk, WrOk, Bcasting] <;> grind)

theorem readers_nil_of_zero (s : St) (h : Inv s) (h0 : s.readerCount = 0) : s.readers = [] := by
  have := h.rcLen
  rw [h0] at this
  exact List.eq_nil_of_length_eq_zero (by omega)

theorem inv_stepUpdate (s s' : St) (a : Actor) (h : Inv s) (hs : stepUpdate s a = some s') : Inv s' := by
  have hr0 := readers_nil_of_zero s h
  have hlen : a ∈ s.readers → ((s.readers.erase a).length : Int) = (s.readers.length : Int) - 1 := by
    intro hm
    have := List.length_erase_of_mem hm
    have : s.readers.length > 0 := List.length_pos_of_mem hm
    omega
  have hmem : ∀ b, b ≠ a → (b ∈ s.readers.erase a ↔ b ∈ s.readers) := fun b hb => List.mem_erase_of_ne hb
  have hsub : ∀ b, b ∈ s.readers.erase a → b ∈ s.readers := fun b hb => List.mem_of_mem_erase hb
  unfold stepUpdate at hs
  (repeat' (split at hs)) <;> cases hs <;> refine inv_move h rfl fun g l => ?_ <;>
    simp [‹s.pc a = _›, Local, InM, Asleep, RdOk, WrOk] at l <;> refine ⟨?_, ?_, fun b hb lb => ?_⟩
  -- for each of `rTest`, `wTest`, `uUpd` by the writer, `uUpd` by a reader: `Global`, `Local` of `a`, `Local` of another actor
  iterate 4
    · simp only [Global, setPc] at g ⊢
      grind
    · simp_all [Global, Local, setPc, InM, Asleep, RdOk, WrOk, Bcasting, upd] <;> grind
    · simp only [Global, Local, setPc] at g lb ⊢
      grind [Bcasting, upd]

/-- the mover is the woken sleeper `n`, not the broadcaster `a`, which stays at `uBcast` -/
theorem inv_stepWake (s s' : St) (a n : Actor) (h : Inv s) (hs : stepWake s a n = some s') : Inv s' := by
  unfold stepWake at hs
  (repeat' split at hs) <;> cases hs
  rename_i hd tl hpc hq hn
  subst hn
  have la := ((inv_iff s).1 h).2 a
  simp [hpc, Local, InM, Asleep, RdOk, WrOk] at la
  refine inv_move (a := hd) (p := wokenPc (s.pc hd)) h rfl fun g l => ?_
  have hw : (s.pc hd = .rSleep ∧ wokenPc (s.pc hd) = .rWoken) ∨ (s.pc hd = .wSleep ∧ wokenPc (s.pc hd) = .wWoken) := by
    have : Asleep (s.pc hd) := by simp only [Local] at l; grind
    generalize s.pc hd = p at this
    cases p <;> simp [Asleep, wokenPc] at this ⊢
  refine ⟨by simp only [Global, hq] at g ⊢; grind, ?_, fun b hb lb => ?_⟩
  · rcases hw with ⟨h1, h2⟩ | ⟨h1, h2⟩ <;> simp_all [Global, Local, InM, Asleep, RdOk, WrOk]
  · simp only [Global, Local, hq] at g lb ⊢
    grind [Bcasting, upd]

/-- waiting for the internal mutex -/
def NeedsM : Pc → Prop
  | .rLock | .rWoken | .wLock | .wWoken | .uLock => True
  | _ => False

theorem enabledFor_of (s : St) (b : Actor) (e : Ev) (hm : e ∈ candidates s b) (hs : (step s e).isSome = true) :
    enabledFor s b = true := by
  simp only [enabledFor, List.any_eq_true]; exact ⟨e, hm, hs⟩

theorem inM_enabled (s : St) (b : Actor) (hb : InM (s.pc b)) : enabledFor s b = true := by
  cases hp : s.pc b <;> rw [hp] at hb <;> simp only [InM] at hb
  · -- rTest
    by_cases hw : s.writeFlag = true
    · exact enabledFor_of s b (.sleep b) (by simp [candidates]) (by simp [step, stepSleep, hp, hw])
    · exact enabledFor_of s b (.update b) (by simp [candidates]) (by simp [step, stepUpdate, hp, hw])
  · -- rUnlock
    exact enabledFor_of s b (.mutexUnlock b) (by simp [candidates]) (by simp [step, stepMutexUnlock, hp])
  · -- wTest
    by_cases hw : s.writeFlag = true ∨ s.readerCount ≠ 0
    · exact enabledFor_of s b (.sleep b) (by simp [candidates]) (by simp [step, stepSleep, hp, hw])
    · have h1 : s.writeFlag = false := by
        cases h : s.writeFlag with
        | false => rfl
        | true => exact absurd (Or.inl h) hw
      have h2 : s.readerCount = 0 := by
        by_cases h : s.readerCount = 0
        · exact h
        · exact absurd (Or.inr h) hw
      exact enabledFor_of s b (.update b) (by simp [candidates]) (by simp [step, stepUpdate, hp, h1, h2])
  · -- wUnlock
    exact enabledFor_of s b (.mutexUnlock b) (by simp [candidates]) (by simp [step, stepMutexUnlock, hp])
  · -- uUpd
    exact enabledFor_of s b (.update b) (by simp [candidates]) (by simp [step, stepUpdate, hp])
  · -- uBcast
    cases hq : s.q with
    | nil => exact enabledFor_of s b (.mutexUnlock b) (by simp [candidates]) (by simp [step, stepMutexUnlock, hp, hq])
    | cons n t =>
      exact enabledFor_of s b (.wake b n) (by simp [candidates, hq]) (by simp [step, stepWake, hp, hq])

theorem en_needsM (s : St) (b : Actor) (hm : s.mholder = none) (h : NeedsM (s.pc b)) : enabledFor s b = true := by
  refine enabledFor_of s b (.mutexLock b) (by simp [candidates]) ?_
  cases hpc : s.pc b <;> rw [hpc] at h <;> simp only [NeedsM] at h <;> simp [step, stepMutexLock, hpc, hm]

theorem enabled_cases (s : St) (b : Actor) (hp : s.pc b ≠ .idle) :
    enabledFor s b = true ∨ (NeedsM (s.pc b) ∧ s.mholder ≠ none) ∨ Asleep (s.pc b) := by
  cases hpc : s.pc b with
  | idle => exact absurd hpc hp
  | rRejected => exact .inl (enabledFor_of s b (.ret b .rdlock .err) (by simp [candidates]) (by simp [step, stepRet, hpc]))
  | wRejected => exact .inl (enabledFor_of s b (.ret b .wrlock .err) (by simp [candidates]) (by simp [step, stepRet, hpc]))
  | rDone => exact .inl (enabledFor_of s b (.ret b .rdlock .ok) (by simp [candidates]) (by simp [step, stepRet, hpc]))
  | wDone => exact .inl (enabledFor_of s b (.ret b .wrlock .ok) (by simp [candidates]) (by simp [step, stepRet, hpc]))
  | uDone => exact .inl (enabledFor_of s b (.ret b .unlock .ok) (by simp [candidates]) (by simp [step, stepRet, hpc]))
  | rSleep | wSleep => exact .inr (.inr trivial)
  | rTest | wTest | uUpd | rUnlock | wUnlock | uBcast => exact .inl (inM_enabled s b (by rw [hpc]; trivial))
  | rLock | rWoken | wLock | wWoken | uLock =>
    by_cases hm : s.mholder = none
    · exact .inl (en_needsM s b hm (by rw [hpc]; trivial))
    · exact .inr (.inl ⟨trivial, hm⟩)

/-- a holder of the rwlock is never asleep -/
theorem holder_enabled (s : St) (hi : Inv s) (hm : s.mholder = none) (b : Actor)
    (hb : s.writer = some b ∨ b ∈ s.readers) : enabledFor s b = true := by
  by_cases hp : s.pc b = .idle
  · refine enabledFor_of s b (.call b .unlock) (by simp [candidates]) ?_
    rcases hb with hb | hb <;> simp [step, stepCall, hp, hb]
  · rcases enabled_cases s b hp with h1 | h1 | h1
    · exact h1
    · exact absurd hm h1.2
    · exfalso
      rcases hb with hb | hb
      · have := hi.writerPc b hb
        cases hpc : s.pc b <;> rw [hpc] at this h1 <;> simp [WrOk, Asleep] at this h1
      · have := hi.readerPc b hb
        cases hpc : s.pc b <;> rw [hpc] at this h1 <;> simp [RdOk, Asleep] at this h1

theorem active_of_pc (s : St) (b : Actor) (hp : s.pc b ≠ .idle) : active s b = true := by
  simp [active, hp]

theorem active_of_holder (s : St) (b : Actor) (hb : s.writer = some b ∨ b ∈ s.readers) : active s b = true := by
  rcases hb with hb | hb <;> simp [active, hb]

theorem sleeper_has_holder (s : St) (hi : Inv s) (hm : s.mholder = none) (a : Actor) (ha : Asleep (s.pc a)) :
    ∃ b, s.writer = some b ∨ b ∈ s.readers := by
  have hnb : ¬ Bcasting s.mholder s.pc := fun h => h.1 hm
  have hw : s.writeFlag = true → ∃ b, s.writer = some b ∨ b ∈ s.readers := by
    intro hwf
    have := hi.wfIff.mp hwf
    cases hwr : s.writer with
    | none => exact absurd hwr this
    | some w => exact ⟨w, Or.inl rfl⟩
  cases hpc : s.pc a <;> rw [hpc] at ha <;> simp only [Asleep] at ha
  · rcases hi.rSleepOk a hpc with h1 | h1
    · exact hw h1
    · exact absurd h1 hnb
  · rcases hi.wSleepOk a hpc with h1 | h1 | h1
    · exact hw h1
    · cases hr : s.readers with
      | nil => have := hi.rcLen; rw [hr] at this; simp at this; exact absurd this h1
      | cons r t => exact ⟨r, Or.inr (by simp)⟩
    · exact absurd h1 hnb

theorem deadlock_free_of_inv (s : St) (hi : Inv s) (a : Actor) (ha : active s a = true) :
    ∃ b, active s b = true ∧ enabledFor s b = true := by
  cases hm : s.mholder with
  | some c =>
    have hc : InM (s.pc c) := (hi.mhIff c).mp hm
    refine ⟨c, active_of_pc s c ?_, inM_enabled s c hc⟩
    intro hidle; rw [hidle] at hc; exact hc
  | none =>
    by_cases hp : s.pc a = .idle
    · have hb : s.writer = some a ∨ a ∈ s.readers := by
        simp only [active, hp, ne_eq, not_true_eq_false, decide_false, Bool.false_or, Bool.or_eq_true,
          decide_eq_true_eq] at ha
        exact ha.symm
      exact ⟨a, active_of_holder s a hb, holder_enabled s hi hm a hb⟩
    · rcases enabled_cases s a hp with h1 | h1 | h1
      · exact ⟨a, active_of_pc s a hp, h1⟩
      · exact absurd hm h1.2
      · obtain ⟨b, hb⟩ := sleeper_has_holder s hi hm a h1
        exact ⟨b, active_of_holder s b hb, holder_enabled s hi hm b hb⟩

theorem blocked_has_cause_of_inv (s : St) (hi : Inv s) (a : Actor) (hp : s.pc a ≠ .idle) :
    enabledFor s a = true ∨
    (∃ b, s.mholder = some b ∧ b ≠ a ∧ enabledFor s b = true) ∨
    ((s.pc a = .rSleep ∨ s.pc a = .wSleep) ∧ s.mholder = none ∧
      ∃ b, (s.writer = some b ∨ b ∈ s.readers) ∧ enabledFor s b = true) := by
  rcases enabled_cases s a hp with h1 | h1 | h1
  · exact Or.inl h1
  · right; left
    cases hm : s.mholder with
    | none => exact absurd hm h1.2
    | some c =>
      have hc : InM (s.pc c) := (hi.mhIff c).mp hm
      refine ⟨c, rfl, ?_, inM_enabled s c hc⟩
      intro he; subst he
      have := h1.1
      cases hpc : s.pc c <;> rw [hpc] at this hc <;> simp [InM, NeedsM] at this hc
  · cases hm : s.mholder with
    | some c =>
      right; left
      have hc : InM (s.pc c) := (hi.mhIff c).mp hm
      refine ⟨c, rfl, ?_, inM_enabled s c hc⟩
      intro he; subst he
      cases hpc : s.pc c <;> rw [hpc] at h1 hc <;> simp [InM, Asleep] at h1 hc
    | none =>
      right; right
      obtain ⟨b, hb⟩ := sleeper_has_holder s hi hm a h1
      refine ⟨?_, rfl, b, hb, holder_enabled s hi hm b hb⟩
      cases hpc : s.pc a <;> rw [hpc] at h1 <;> simp [Asleep] at h1 ⊢

end ArgoVerif.Model.RWLock
