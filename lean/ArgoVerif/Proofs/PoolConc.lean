import ArgoVerif.Model.PoolConc
import ArgoVerif.Proofs.TQ
/- Proofs.PoolConc — the two inductive invariants of the concurrent pool model.  `Inv`: lock discipline, the `is_empty`
flag against the content, the linearisation history against the deque specification (`specRun` of Proofs.TQ), what a
call has seen when it returns.  `Inv2`: one API-level push_many / pop_many is one atomic multi-unit operation
(`contig`: while a push call is inside its critical section the content is what it found there plus, contiguously and
in array order, the units it has pushed so far; `taken`: for a pop call the content it found is what it has taken so
far plus what is left).

A step is taken by one actor `a`: it moves `a`'s program counter, writes `a`'s own fields and, as lock owner only, the
ring.  Both invariants are therefore read as a part without program counters (`Global`) and, per actor, what is said
of it at its program counter (`Local`, `Local2`); see `inv_move`.  The clauses mention a program counter only through its classes
(`InCS`, `Wanting`, ...) and a few equations: where a step has several next program counters, their classes are
stated once (`leave_cases`, `emptied_cases`, `bodyPc_classes`, a local `cls`) and the clauses are proved for a variable. -/
namespace ArgoVerif.Model.PoolConc
open ArgoVerif ArgoVerif.Model.TQ

/-- program counters between taking the lock and releasing it (private callbacks: between call and return) -/
def InCS : Pc → Prop
  | .csPush | .pub | .setIn | .sig | .csPop | .pubE | .clrIn | .csRm | .wChk | .wWait | .rel => True
  | _ => False

instance (p : Pc) : Decidable (InCS p) := by cases p <;> simp [InCS] <;> infer_instance

/-- program counters at which a pop-like call still wants a unit -/
def Wanting : Pc → Prop
  | .aTop | .aTry | .aSpinE | .aSpinL | .mLock | .fChk | .csPop | .wChk | .wWait | .wSleep | .wRelock | .wIdle
  | .sAcq | .sSpin => True
  | _ => False

instance (p : Pc) : Decidable (Wanting p) := by cases p <;> simp [Wanting] <;> infer_instance

def isRemove : Call → Bool
  | .remove _ => true
  | _ => false

/-- program counters only a push / push_many reaches -/
def PushPc : Pc → Prop
  | .pmCb | .csPush | .pub | .setIn | .sig => True
  | _ => False

instance (p : Pc) : Decidable (PushPc p) := by cases p <;> simp [PushPc] <;> infer_instance

/-- program counters only a pop / pop_many / pop_wait reaches -/
def PopPc : Pc → Prop
  | .aTop | .aTry | .aSpinE | .aSpinL | .fChk | .csPop | .wChk | .wWait | .wSleep | .wRelock | .wIdle => True
  | _ => False

instance (p : Pc) : Decidable (PopPc p) := by cases p <;> simp [PopPc] <;> infer_instance

/-- program counters only a remove reaches -/
def RmPc : Pc → Prop
  | .rChkE | .rChkIn | .csRm => True
  | _ => False

instance (p : Pc) : Decidable (RmPc p) := by cases p <;> simp [RmPc] <;> infer_instance

/-- the call in progress has the kind its program counter belongs to -/
def Typed (p : Pc) (c : Call) : Prop :=
  (PushPc p → isPopLike c = false ∧ isRemove c = false) ∧ (PopPc p → isPopLike c = true) ∧ (RmPc p → isRemove c = true)

structure Inv (cfg : Cfg) (s : St) : Prop where
  lockOwner : cfg.shared = true → s.lock = false → s.owner = none
  csOwner : ∀ a, InCS (s.pc a) → s.owner = some a
  privOwner : cfg.shared = false → ∀ a, s.pc a ≠ .idle → s.owner = some a
  flagQ : s.flag = true → s.q = []
  pubEQ : ∀ a, s.pc a = .pubE → s.q = []
  lagQ : s.flag = false → s.q = [] → s.lagF ≠ none
  lagPc : ∀ a, s.lagF = some a → s.pc a = .setIn ∨ s.pc a = .pubE
  pend : ∀ a, (s.pc a = .pub ∨ s.pc a = .setIn) → s.pu a ≠ 0 ∧ s.pu a ∉ s.q
  lin : specRun [] s.linOps = some (s.q, s.linOuts)
  inQ : ∀ u, u ∈ s.q → s.inPool u = true
  outQ : ∀ a, (s.pc a = .pubE ∨ s.pc a = .clrIn) → s.pu a ∉ s.q
  rmNZ : ∀ a, isRemove (s.cur a) = true → removeArg (s.cur a) ≠ 0
  typed : ∀ a, Typed (s.pc a) (s.cur a)
  cntGot : ∀ a, isPopLike (s.cur a) = true → s.pc a ≠ .idle → (s.got a).length + s.cnt a = wants (s.cur a)
  cntPos : ∀ a, isPopLike (s.cur a) = true → Wanting (s.pc a) → s.cnt a ≠ 0
  gotNE : ∀ a, isPopLike (s.cur a) = true → (s.pc a = .pubE ∨ s.pc a = .clrIn) → s.got a ≠ []
  emptySeen : ∀ a, isPopLike (s.cur a) = true → (s.pc a = .retp ∨ s.pc a = .rel ∨ s.pc a = .wIdle) →
    s.cnt a = 0 ∨ s.sawEmpty a = true
  rmSeen : ∀ a, isRemove (s.cur a) = true → (s.pc a = .retp ∨ s.pc a = .rel ∨ s.pc a = .pubE ∨ s.pc a = .clrIn) →
    s.rcOk a = true ∨ s.sawAbsent a = true
  setInFlag : ∀ a, s.pc a = .setIn → s.flag = false


theorem inv_init (cfg : Cfg) : Inv cfg init := by
  constructor <;> simp [init, InCS, Wanting, specRun, isPopLike, isRemove, Typed, PushPc, PopPc, RmPc]

def isPushLike : Call → Bool
  | .push _ _ | .pushMany _ _ => true
  | _ => false

def unitsOf : Call → List Nat
  | .push u _ => [u]
  | .pushMany us _ => us
  | _ => []

/-- the unit linked but not yet linearised -/
def pending (s : St) (a : Actor) : List Nat := if s.pc a = .pub ∨ s.pc a = .setIn then [s.pu a] else []

/-- before the critical section of a push -/
def PrePush : Pc → Prop
  | .pmCb | .sAcq | .sSpin | .mLock => True
  | _ => False

instance (p : Pc) : Decidable (PrePush p) := by cases p <;> simp [PrePush] <;> infer_instance

/-- program counters of a pop-like call at which it has taken nothing yet -/
def PreGot : Pc → Prop
  | .aTop | .aTry | .aSpinE | .aSpinL | .mLock | .fChk | .wChk | .wWait | .wSleep | .wRelock | .wIdle => True
  | _ => False

instance (p : Pc) : Decidable (PreGot p) := by cases p <;> simp [PreGot] <;> infer_instance

structure Inv2 (s : St) : Prop where
  batch : ∀ a, isPushLike (s.cur a) = true → s.pc a ≠ .idle → unitsOf (s.cur a) = s.done a ++ pending s a ++ s.todo a
  contig : ∀ a, InCS (s.pc a) → isPushLike (s.cur a) = true →
    s.q = if headOf (s.cur a) then (s.done a).reverse ++ s.base a else s.base a ++ s.done a
  taken : ∀ a, InCS (s.pc a) → isPopLike (s.cur a) = true →
    s.base a = if tailOf (s.cur a) then s.q ++ (s.got a).reverse else s.got a ++ s.q
  fin : ∀ a, isPushLike (s.cur a) = true → (s.pc a = .sig ∨ s.pc a = .rel ∨ s.pc a = .retp) → s.todo a = []
  pre : ∀ a, isPushLike (s.cur a) = true → PrePush (s.pc a) → s.done a = [] ∧ s.todo a = unitsOf (s.cur a)
  preGot : ∀ a, isPopLike (s.cur a) = true → PreGot (s.pc a) → s.got a = []
  spinPc : ∀ a, (s.pc a = .sAcq ∨ s.pc a = .sSpin) → isPopLike (s.cur a) = false
  popSide : ∀ a, (s.pc a = .pubE ∨ s.pc a = .clrIn) → isPushLike (s.cur a) = false

theorem inv2_init : Inv2 init := by
  constructor <;> simp [init, InCS, isPushLike, isPopLike, PreGot]

theorem call_kind (c : Call) :
    (isPushLike c = true ∧ isPopLike c = false ∧ isRemove c = false) ∨
    (isPushLike c = false ∧ isPopLike c = true ∧ isRemove c = false) ∨
    (isPushLike c = false ∧ isPopLike c = false ∧ isRemove c = true) := by
  cases c <;> simp [isPushLike, isPopLike, isRemove]

/-! ### the deque specification: appending one operation to a history -/

theorem specRun_snoc {xs ys zs : List Nat} {ops : List Op} {os : List Out} {op : Op} {o : Out}
    (h : specRun xs ops = some (ys, os)) (hs : specStep ys op = some (zs, o)) :
    specRun xs (ops ++ [op]) = some (zs, os ++ [o]) := by
  induction ops generalizing xs os with
  | nil =>
    simp only [specRun, Option.some.injEq, Prod.mk.injEq] at h
    obtain ⟨rfl, rfl⟩ := h
    simp [specRun, hs]
  | cons op1 ops ih =>
    obtain ⟨xs1, o1, os', h1, h2, rfl⟩ := specRun_cons h
    have := ih h2
    simp [specRun, h1, this]

theorem Inv.good {cfg : Cfg} {s : St} (h : Inv cfg s) : Good s.q := specRun_good good_nil h.lin

theorem Inv.flag_false {cfg : Cfg} {s : St} (h : Inv cfg s) (hq : s.q ≠ []) : s.flag = false := by
  cases hf : s.flag
  · rfl
  · exact absurd (h.flagQ hf) hq

theorem spec_push {q : List Nat} {u : Nat} (h : Bool) (hu : u ≠ 0) (hq : u ∉ q) :
    specStep q (pushOp u h) = some (if h then u :: q else q ++ [u], .unit) := by
  cases h <;> simp [pushOp, specStep, hu, hq]

theorem spec_pop (q : List Nat) (tl : Bool) :
    specStep q (popOp tl) = some (takeRest q tl, .popped (takeUnit q tl)) := by
  cases tl <;> simp [popOp, specStep, takeRest, takeUnit]

theorem spec_remove_ok {q : List Nat} {u : Nat} (hu : u ≠ 0) (hq : u ∈ q) :
    specStep q (.remove u) = some (q.erase u, .rc .success) := by
  have : q ≠ [] := by intro e; simp [e] at hq
  simp [specStep, this, hu, hq]

theorem spec_remove_fail {q : List Nat} {u : Nat} (hu : u ≠ 0) (hq : q = [] ∨ u ∉ q) :
    specStep q (.remove u) = some (q, .rc .errPool) := by
  by_cases he : q = []
  · simp [specStep, he]
  · simp [specStep, he, hu, hq.resolve_left he]

theorem take_split {q : List Nat} (hq : q ≠ []) (tl : Bool) :
    q = if tl then takeRest q tl ++ [takeUnit q tl] else takeUnit q tl :: takeRest q tl := by
  cases tl with
  | false =>
    cases q with
    | nil => exact absurd rfl hq
    | cons x r => simp [takeUnit, takeRest]
  | true =>
    have hl : q.getLast? = some (q.getLast hq) := List.getLast?_eq_some_getLast hq
    simp [takeUnit, takeRest, hl, List.dropLast_concat_getLast]

theorem take_facts {q : List Nat} (hg : Good q) (hq : q ≠ []) (tl : Bool) :
    takeUnit q tl ∈ q ∧ takeUnit q tl ≠ 0 ∧ takeUnit q tl ∉ takeRest q tl ∧ ∀ y ∈ takeRest q tl, y ∈ q := by
  have e := take_split hq tl
  generalize takeUnit q tl = x at e ⊢
  generalize takeRest q tl = r at e ⊢
  obtain ⟨hnd, h0⟩ := hg
  cases tl <;> simp only [Bool.false_eq_true, if_false, if_true] at e <;> subst e
  · have := List.nodup_cons.mp hnd; grind
  · have := List.nodup_append.mp hnd; grind

/-! ### one actor steps -/

/-- the fields of actor `b` that the invariants mention -/
def view (s : St) (b : Actor) :=
  (s.pc b, s.cur b, s.cnt b, s.pu b, s.got b, s.rcOk b, s.sawEmpty b, s.sawAbsent b, s.todo b, s.base b, s.done b)

def Global (cfg : Cfg) (s : St) : Prop :=
  (cfg.shared = true → s.lock = false → s.owner = none) ∧ (s.flag = true → s.q = []) ∧
  (s.flag = false → s.q = [] → s.lagF ≠ none) ∧ specRun [] s.linOps = some (s.q, s.linOuts) ∧
  (∀ u, u ∈ s.q → s.inPool u = true)

def Local (cfg : Cfg) (s : St) (a : Actor) (p : Pc) : Prop :=
  (InCS p → s.owner = some a) ∧ (cfg.shared = false → p ≠ .idle → s.owner = some a) ∧ (p = .pubE → s.q = []) ∧
  (s.lagF = some a → p = .setIn ∨ p = .pubE) ∧ ((p = .pub ∨ p = .setIn) → s.pu a ≠ 0 ∧ s.pu a ∉ s.q) ∧
  ((p = .pubE ∨ p = .clrIn) → s.pu a ∉ s.q) ∧ (isRemove (s.cur a) = true → removeArg (s.cur a) ≠ 0) ∧
  Typed p (s.cur a) ∧
  (isPopLike (s.cur a) = true → p ≠ .idle → (s.got a).length + s.cnt a = wants (s.cur a)) ∧
  (isPopLike (s.cur a) = true → Wanting p → s.cnt a ≠ 0) ∧
  (isPopLike (s.cur a) = true → (p = .pubE ∨ p = .clrIn) → s.got a ≠ []) ∧
  (isPopLike (s.cur a) = true → (p = .retp ∨ p = .rel ∨ p = .wIdle) → s.cnt a = 0 ∨ s.sawEmpty a = true) ∧
  (isRemove (s.cur a) = true → (p = .retp ∨ p = .rel ∨ p = .pubE ∨ p = .clrIn) →
    s.rcOk a = true ∨ s.sawAbsent a = true) ∧
  (p = .setIn → s.flag = false)

def Local2 (s : St) (a : Actor) (p : Pc) : Prop :=
  (isPushLike (s.cur a) = true → p ≠ .idle →
    unitsOf (s.cur a) = s.done a ++ (if p = .pub ∨ p = .setIn then [s.pu a] else []) ++ s.todo a) ∧
  (InCS p → isPushLike (s.cur a) = true →
    s.q = if headOf (s.cur a) then (s.done a).reverse ++ s.base a else s.base a ++ s.done a) ∧
  (InCS p → isPopLike (s.cur a) = true →
    s.base a = if tailOf (s.cur a) then s.q ++ (s.got a).reverse else s.got a ++ s.q) ∧
  (isPushLike (s.cur a) = true → (p = .sig ∨ p = .rel ∨ p = .retp) → s.todo a = []) ∧
  (isPushLike (s.cur a) = true → PrePush p → s.done a = [] ∧ s.todo a = unitsOf (s.cur a)) ∧
  (isPopLike (s.cur a) = true → PreGot p → s.got a = []) ∧
  ((p = .sAcq ∨ p = .sSpin) → isPopLike (s.cur a) = false) ∧
  ((p = .pubE ∨ p = .clrIn) → isPushLike (s.cur a) = false)

theorem inv_iff {cfg : Cfg} {s : St} : Inv cfg s ↔ Global cfg s ∧ ∀ a, Local cfg s a (s.pc a) :=
  ⟨fun h => ⟨⟨h.lockOwner, h.flagQ, h.lagQ, h.lin, h.inQ⟩, fun a => ⟨h.csOwner a, (h.privOwner · a), h.pubEQ a,
      h.lagPc a, h.pend a, h.outQ a, h.rmNZ a, h.typed a, h.cntGot a, h.cntPos a, h.gotNE a, h.emptySeen a, h.rmSeen a,
      h.setInFlag a⟩⟩,
    fun ⟨⟨g1, g2, g3, g4, g5⟩, l⟩ => by
      simp only [Local, forall_and] at l
      obtain ⟨l1, l2, l3, l4, l5, l6, l7, l8, l9, l10, l11, l12, l13, l14⟩ := l
      exact ⟨g1, l1, fun hp a => l2 a hp, g2, l3, g3, l4, fun a hc => ⟨l5.1 a hc, l5.2 a hc⟩, g4, g5, l6, l7, l8, l9, l10, l11, l12, l13, l14⟩⟩

theorem inv2_iff {s : St} : Inv2 s ↔ ∀ a, Local2 s a (s.pc a) :=
  ⟨fun h a => ⟨h.batch a, h.contig a, h.taken a, h.fin a, h.pre a, h.preGot a, h.spinPc a, h.popSide a⟩,
    fun l => by constructor <;> intro a <;> have := l a <;> grind [Local2, pending]⟩

theorem Inv.glob {cfg : Cfg} {s : St} (h : Inv cfg s) : Global cfg s := (inv_iff.mp h).1

theorem Inv.loc {cfg : Cfg} {s : St} (h : Inv cfg s) (a : Actor) : Local cfg s a (s.pc a) := (inv_iff.mp h).2 a

theorem Inv2.loc {s : St} (h : Inv2 s) (a : Actor) : Local2 s a (s.pc a) := inv2_iff.mp h a

theorem inCS_of {p : Pc} (h : p = .pub ∨ p = .setIn ∨ p = .pubE ∨ p = .clrIn) : InCS p := by
  rcases h with e | e | e | e <;> simp [e, InCS]

/-- **one actor steps**: `a` moves to `p`, having written (`t`) no field of another actor, not taken the lock from
another, and the ring (`q`, `is_empty`, its lag) only as lock owner.  Both invariants hold again if the global part
does and `a`'s own clauses do at `p`: another actor inside the critical section excludes a change of the ring. -/
theorem inv_move {cfg : Cfg} {s t : St} {a : Actor} {p : Pc} (h : Inv cfg s) (hv : ∀ b, b ≠ a → view t b = view s b)
    (ho : ∀ b, b ≠ a → s.owner = some b → t.owner = some b)
    (hr : (t.q = s.q ∧ t.flag = s.flag ∧ t.lagF = s.lagF) ∨
      (s.owner = some a ∧ (t.lagF = s.lagF ∨ t.lagF = none ∨ t.lagF = some a)))
    (hg : Global cfg t) (hl : Local cfg t a p) (hl2 : Inv2 s → Local2 t a p) :
    Inv cfg (setPc t a p) ∧ (Inv2 s → Inv2 (setPc t a p)) := by
  have frame : ∀ b, b ≠ a → (setPc t a p).pc b = s.pc b ∧ (Local cfg s b (s.pc b) → Local cfg t b (s.pc b)) ∧
      (Local cfg s b (s.pc b) → Local2 s b (s.pc b) → Local2 t b (s.pc b)) := by
    intro b hb
    have e := hv b hb
    simp only [view, Prod.mk.injEq] at e
    have hic := inCS_of (p := s.pc b)
    have same : Local cfg s b (s.pc b) → InCS (s.pc b) → t.q = s.q ∧ t.flag = s.flag := by grind [Local]
    have lag : t.lagF = some b → s.lagF = some b := by grind
    refine ⟨by simp [setPc, upd, hb, e.1], fun l => ?_, fun l l2 => ?_⟩
    · simp only [Local, e] at l ⊢; grind
    · simp only [Local2, e] at l2 ⊢; grind
  have hp : (setPc t a p).pc a = p := upd_same ..
  simp only [inv_iff, inv2_iff] at h ⊢
  refine ⟨⟨hg, fun b => ?_⟩, fun h2 b => ?_⟩ <;> by_cases hb : b = a
  · rw [hb, hp]; exact hl
  · rw [(frame b hb).1]; exact (frame b hb).2.1 (h.2 b)
  · rw [hb, hp]; exact hl2 (inv2_iff.mpr h2)
  · rw [(frame b hb).1]; exact (frame b hb).2.2 (h.2 b) (h2 b)

/-- program counters of which the invariants say nothing about the ring, a result or a return -/
def Quiet : Pc → Prop
  | .idle | .pub | .setIn | .pubE | .clrIn | .retp | .rel | .wIdle | .sig => False
  | _ => True

instance (p : Pc) : Decidable (Quiet p) := by cases p <;> simp [Quiet] <;> infer_instance

theorem Quiet.ne {p : Pc} (h : Quiet p) :
    p ≠ .idle ∧ p ≠ .pub ∧ p ≠ .setIn ∧ p ≠ .pubE ∧ p ≠ .clrIn ∧ p ≠ .retp ∧ p ≠ .rel ∧ p ≠ .wIdle ∧ p ≠ .sig := by
  cases p <;> simp [Quiet] at h ⊢

/-- moving from `p0` to the quiet `p` claims nothing that `p0` did not claim: critical section, kind of call, a unit
still wanted, nothing pushed or taken yet (or the kind of call makes the claim empty) -/
def Goto (p0 p : Pc) : Prop :=
  Quiet p ∧ p0 ≠ .idle ∧ p0 ≠ .pub ∧ p0 ≠ .setIn ∧ p0 ≠ .pubE ∧ (InCS p → InCS p0) ∧ (PushPc p → PushPc p0) ∧
    (PopPc p → PopPc p0) ∧ (RmPc p → RmPc p0) ∧ (Wanting p → Wanting p0 ∨ PushPc p0 ∨ RmPc p0) ∧
    (PrePush p → PrePush p0 ∨ PopPc p0 ∨ RmPc p0) ∧ (PreGot p → PreGot p0 ∨ PushPc p0 ∨ RmPc p0) ∧
    ((p = .sAcq ∨ p = .sSpin) → (p0 = .sAcq ∨ p0 = .sSpin))

instance (p0 p : Pc) : Decidable (Goto p0 p) := by unfold Goto; infer_instance

/-- program counters after the ring work of a call: in no class that goes with a kind of call or with the time before -/
def Late (p : Pc) : Prop := ¬ PushPc p ∧ ¬ PopPc p ∧ ¬ RmPc p ∧ ¬ Wanting p ∧ ¬ PrePush p ∧ ¬ PreGot p

instance (p : Pc) : Decidable (Late p) := by unfold Late; infer_instance

/-- loads of the lock word and of `is_empty`, failed test-and-sets, wake-ups: only the program counter moves -/
theorem inv_goto {cfg : Cfg} {s : St} {a : Actor} {p0 p : Pc} (h : Inv cfg s) (h0 : s.pc a = p0) (hg : Goto p0 p) :
    Inv cfg (setPc s a p) ∧ (Inv2 s → Inv2 (setPc s a p)) := by
  have l := h.loc a
  have k := call_kind (s.cur a)
  have hn := hg.1.ne
  simp only [h0, Local, Typed] at l
  refine inv_move h (fun _ _ => rfl) (fun _ _ => id) (.inl ⟨rfl, rfl, rfl⟩) h.glob ?_ fun h2 => ?_
  · simp only [Local, Typed]; grind [Goto]
  · have l2 := h2.loc a
    simp only [h0, Local2] at l2 ⊢
    grind [Goto]

theorem inv_loadLock {cfg : Cfg} {s s' : St} {a : Actor} {v : Bool} (h : Inv cfg s)
    (hs : stepLoadLock s a v = some s') : Inv cfg s' ∧ (Inv2 s → Inv2 s') := by
  unfold stepLoadLock at hs
  split at hs
  · cases hs
  split at hs <;> cases hs <;> cases v <;> exact inv_goto h ‹_› (by decide)

theorem inv_wake {cfg : Cfg} {s s' : St} {a : Actor} (h : Inv cfg s) (hs : stepWake s a = some s') :
    Inv cfg s' ∧ (Inv2 s → Inv2 s') := by
  unfold stepWake at hs
  split at hs <;> cases hs
  next hg => exact inv_goto h (Decidable.not_not.mp hg) (by decide)

theorem csEntry_cases (cfg : Cfg) (c : Call) :
    (csEntry cfg c = .csPush ∧ isPushLike c = true) ∨ ((csEntry cfg c = .csPop ∨ csEntry cfg c = .wChk) ∧ isPopLike c = true) ∨
    (csEntry cfg c = .csRm ∧ isRemove c = true) := by
  cases c <;> simp [csEntry, isPushLike, isPopLike, isRemove]
  cases cfg.lk <;> simp

/-- taking the free lock (spin: successful test-and-set; mutex: lock granted) and entering the critical section at the
program counter `p` of the call's kind: the content found is recorded; a push has pushed nothing yet, a pop has taken
nothing yet -/
theorem inv_acquire {cfg : Cfg} {s : St} {a : Actor} {p : Pc} (h : Inv cfg s) (hfree : s.lock = false)
    (hpc : s.pc a = .sAcq ∨ s.pc a = .aTry ∨ s.pc a = .mLock ∨ s.pc a = .wRelock)
    (hp : (p = .csPush ∧ isPushLike (s.cur a) = true) ∨ ((p = .csPop ∨ p = .wChk) ∧ isPopLike (s.cur a) = true) ∨
      (p = .csRm ∧ isRemove (s.cur a) = true)) :
    Inv cfg (setPc (acquire s a) a p) ∧ (Inv2 s → Inv2 (setPc (acquire s a) a p)) := by
  have l := h.loc a
  have g := h.glob
  have k := call_kind (s.cur a)
  have f : s.pc a ≠ .idle ∧ s.pc a ≠ .setIn ∧ s.pc a ≠ .pubE ∧ Wanting (s.pc a) ∧ (PrePush (s.pc a) ∨ PopPc (s.pc a)) ∧
      (PreGot (s.pc a) ∨ s.pc a = .sAcq) := by
    rcases hpc with e | e | e | e <;> simp [e, Wanting, PrePush, PopPc, PreGot]
  have cls : Quiet p ∧ InCS p ∧ (PushPc p → p = .csPush) ∧ (PopPc p → p = .csPop ∨ p = .wChk) ∧ (RmPc p → p = .csRm) ∧
      ¬ PrePush p ∧ p ≠ .sAcq ∧ p ≠ .sSpin := by
    rcases hp with ⟨rfl, _⟩ | ⟨rfl | rfl, _⟩ | ⟨rfl, _⟩ <;> decide
  have qn := cls.1.ne
  simp only [Local, Global, Typed] at l g
  refine inv_move h (fun b hb => by simp [view, acquire, upd, hb]) (fun b hb e => ?_) (.inl ⟨rfl, rfl, rfl⟩) ?_ ?_ fun h2 => ?_
  · grind
  · simp only [Global, acquire]; grind
  · simp only [Local, Typed, acquire]; grind
  · have l2 := h2.loc a
    simp only [Local2] at l2
    simp only [Local2, acquire, upd_same]; grind

theorem inv_tas {cfg : Cfg} {s s' : St} {a : Actor} {old : Bool} (h : Inv cfg s)
    (hs : stepTas cfg s a old = some s') : Inv cfg s' ∧ (Inv2 s → Inv2 s') := by
  unfold stepTas at hs
  split at hs
  · cases hs
  next hg =>
  have hlk : s.lock = old := (Decidable.not_not.mp (not_or.mp hg).2).symm
  -- at `sAcq` and at `aTry`: reading the lock free takes it, reading it held goes to the spin loop
  split at hs
  next hpc =>
    cases hs; cases old
    · exact inv_acquire h hlk (.inl hpc) (csEntry_cases cfg _)
    · exact inv_goto h hpc (by decide)
  next hpc =>
    cases hs; cases old
    · exact inv_acquire h hlk (.inr (.inl hpc)) (csEntry_cases cfg _)
    · exact inv_goto h hpc (by decide)
  · cases hs

theorem inv_mlock {cfg : Cfg} {s s' : St} {a : Actor} (h : Inv cfg s)
    (hs : stepMlock cfg s a = some s') : Inv cfg s' ∧ (Inv2 s → Inv2 s') := by
  unfold stepMlock at hs
  split at hs
  · cases hs
  next hg =>
  have hlk : s.lock = false := Bool.eq_false_iff.mpr (not_or.mp hg).2
  split at hs
  next hpc =>   -- `mLock`
    cases hs; exact inv_acquire h hlk (.inr (.inr (.inl hpc))) (csEntry_cases cfg _)
  next hpc =>   -- `wRelock`
    cases hs
    exact inv_acquire h hlk (.inr (.inr (.inr hpc))) (.inr (.inl ⟨.inl rfl, (h.typed a).2.1 (by simp [hpc, PopPc])⟩))
  · cases hs

theorem popWait_facts {c : Call} (h : isPopWait c = true) : isPopLike c = true ∧ wants c = 1 := by
  cases c <;> simp_all [isPopWait, isPopLike, wants]

/-- dropping the lock: clear / pthread_mutex_unlock at `rel` (a pop_wait that took nothing goes on polling), the unlock
inside pthread_cond_timedwait at `wWait` -/
theorem inv_release {cfg : Cfg} {s : St} {a : Actor} {p : Pc} (h : Inv cfg s) (hown : s.owner = some a)
    (hp : s.pc a = .rel ∧ (p = .retp ∨ p = .wIdle ∧ isPopWait (s.cur a) = true ∧ s.got a = []) ∨ s.pc a = .wWait ∧ p = .wSleep) :
    Inv cfg (setPc (release cfg s) a p) ∧ (Inv2 s → Inv2 (setPc (release cfg s) a p)) := by
  have l := h.loc a
  have g := h.glob
  have k := call_kind (s.cur a)
  have pw := popWait_facts (c := s.cur a)
  -- `wIdle` is entered anew; the other program counters are in no class in which the one before is not
  have cls : (Wanting p → p = .wIdle ∨ Wanting (s.pc a)) ∧ (PopPc p → p = .wIdle ∨ PopPc (s.pc a)) ∧ (PreGot p → p = .wIdle ∨ PreGot (s.pc a)) ∧
      (p = .retp → s.pc a = .rel) ∧ ¬ InCS p ∧ ¬ PushPc p ∧ ¬ RmPc p ∧ ¬ PrePush p ∧ s.pc a ≠ .idle ∧ s.pc a ≠ .setIn ∧
      s.pc a ≠ .pubE ∧ p ≠ .idle ∧ p ≠ .pub ∧ p ≠ .setIn ∧ p ≠ .pubE ∧ p ≠ .clrIn ∧ p ≠ .rel ∧ p ≠ .sig ∧ p ≠ .sAcq ∧
      p ≠ .sSpin := by
    rcases hp with ⟨e, rfl | ⟨rfl, _⟩⟩ | ⟨e, rfl⟩ <;> simp [e, InCS, Wanting, PushPc, PopPc, RmPc, PrePush, PreGot]
  refine inv_move h (fun _ _ => rfl) (fun b hb e => ?_) (.inl ⟨rfl, rfl, rfl⟩) ?_ ?_ fun h2 => ?_
  · grind
  · simp only [Global, release] at g ⊢; grind
  · simp only [Local, Typed] at l
    simp only [Local, Typed, release]
    grind
  · have l2 := h2.loc a
    simp only [Local2] at l2
    simp only [Local2, release]
    grind

theorem inv_clear {cfg : Cfg} {s s' : St} {a : Actor} (h : Inv cfg s) (hs : stepClear cfg s a = some s') :
    Inv cfg s' ∧ (Inv2 s → Inv2 s') := by
  unfold stepClear at hs
  split at hs <;> cases hs
  next hg =>
  simp only [not_or, Decidable.not_not] at hg
  obtain ⟨-, hpc, hown⟩ := hg
  split
  next hc => exact inv_release h hown (.inl ⟨hpc, .inr ⟨rfl, hc⟩⟩)
  next hc => exact inv_release h hown (.inl ⟨hpc, .inl rfl⟩)

theorem inv_munlock {cfg : Cfg} {s s' : St} {a : Actor} (h : Inv cfg s) (hs : stepMunlock cfg s a = some s') :
    Inv cfg s' ∧ (Inv2 s → Inv2 s') := by
  unfold stepMunlock at hs
  split at hs <;> cases hs
  next hg =>
  simp only [not_or, Decidable.not_not] at hg
  exact inv_release h hg.2.2 (.inl ⟨hg.2.1, .inl rfl⟩)

theorem inv_condWait {cfg : Cfg} {s s' : St} {a : Actor} (h : Inv cfg s) (hs : stepCondWait cfg s a = some s') :
    Inv cfg s' ∧ (Inv2 s → Inv2 s') := by
  unfold stepCondWait at hs
  split at hs <;> cases hs
  next hg =>
  simp only [not_or, Decidable.not_not] at hg
  exact inv_release h hg.2 (.inr ⟨hg.1, rfl⟩)

theorem inv_signal {cfg : Cfg} {s s' : St} {a : Actor} (h : Inv cfg s) (hs : stepSignal s a = some s') :
    Inv cfg s' ∧ (Inv2 s → Inv2 s') := by
  unfold stepSignal at hs
  split at hs <;> cases hs
  next hg =>
  have hpc : s.pc a = .sig := Decidable.not_not.mp (not_or.mp hg).1
  have l := h.loc a
  have k := call_kind (s.cur a)
  simp only [hpc, Local, InCS, Wanting, Typed, PushPc, PopPc, RmPc] at l
  refine inv_move h (fun _ _ => rfl) (fun _ _ => id) (.inl ⟨rfl, rfl, rfl⟩) h.glob ?_ fun h2 => ?_
  · simp [Local, InCS, Wanting, Typed, PushPc, PopPc, RmPc]; grind
  · have l2 := h2.loc a
    simp only [hpc, Local2, InCS, PrePush, PreGot] at l2
    simp [Local2, InCS, PrePush, PreGot]; grind

/-- a guard of remove fails: ABT_ERR_POOL, linearised at the observation (the unit is not in the queue then) -/
theorem inv_rmFailed {cfg : Cfg} {s : St} {a : Actor} {p : Pc} (h : Inv cfg s)
    (hpc : s.pc a = .rChkE ∨ s.pc a = .rChkIn ∨ s.pc a = .csRm)
    (habs : s.q = [] ∨ removeArg (s.cur a) ∉ s.q)
    (hp : p = .retp ∨ p = .rel ∧ s.pc a = .csRm) :
    Inv cfg (setPc (rmFailed s a) a p) ∧ (Inv2 s → Inv2 (setPc (rmFailed s a) a p)) := by
  have l := h.loc a
  have g := h.glob
  have k := call_kind (s.cur a)
  have hrm : isRemove (s.cur a) = true := (h.typed a).2.2 (by rcases hpc with e | e | e <;> simp [e, RmPc])
  have hspec := specRun_snoc h.lin (spec_remove_fail (h.rmNZ a hrm) habs)
  have hsa : decide (removeArg (s.cur a) ∉ s.q) = true := by grind
  have src : s.pc a ≠ .idle ∧ s.pc a ≠ .setIn ∧ s.pc a ≠ .pubE ∧ (s.pc a = .csRm → InCS (s.pc a)) := by
    rcases hpc with e | e | e <;> simp [e, InCS]
  have cls : (p = .retp ∨ p = .rel) ∧ (InCS p → p = .rel) ∧ Late p := by
    rcases hp with rfl | ⟨rfl, _⟩ <;> decide
  refine inv_move h (fun b hb => by simp [view, rmFailed, upd, hb]) (fun _ _ => id) (.inl ⟨rfl, rfl, rfl⟩) ?_ ?_ fun _ => ?_
  · simp only [Global, rmFailed] at g ⊢; exact ⟨g.1, g.2.1, g.2.2.1, hspec, g.2.2.2.2⟩
  · simp only [Local, Typed] at l
    simp only [Local, Typed, rmFailed, upd_same]
    grind [Late]
  · simp only [Local2, rmFailed]
    grind [Late]

theorem inv_rmFail {cfg : Cfg} {s s' : St} {a : Actor} (h : Inv cfg s) (hs : stepRmFail cfg s a = some s') :
    Inv cfg s' ∧ (Inv2 s → Inv2 s') := by
  unfold stepRmFail at hs
  split at hs
  · cases hs
  next hg =>
  have hpc : s.pc a = .csRm := Decidable.not_not.mp (not_or.mp hg).1
  split at hs <;> cases hs
  next hc =>
  refine inv_rmFailed h (.inr (.inr hpc)) (hc.imp_right fun e hm => by simp [h.inQ _ hm] at e) ?_
  unfold leave; split <;> simp [hpc]

theorem inv_loadIn {cfg : Cfg} {s s' : St} {a : Actor} {u : Nat} {v : Bool} (h : Inv cfg s)
    (hs : stepLoadIn s a u v = some s') : Inv cfg s' ∧ (Inv2 s → Inv2 s') := by
  unfold stepLoadIn at hs
  split at hs
  · cases hs
  next hg =>
  simp only [not_or, Decidable.not_not] at hg
  obtain ⟨hv, hcur⟩ := hg
  split at hs <;> cases hs
  next hpc =>
  cases v
  · refine inv_rmFailed h (.inr (.inl hpc)) (.inr fun hm => ?_) (.inl rfl)
    have := h.inQ _ hm; simp [hcur, removeArg, ← hv] at this
  · exact inv_goto h hpc (by decide)

/-- `is_empty` read as 1 on a lock-free path: then the queue is empty, and the call has seen it so -/
theorem inv_emptyFail {cfg : Cfg} {s : St} {a : Actor} (h : Inv cfg s)
    (hpc : s.pc a = .aTop ∨ s.pc a = .wIdle ∨ s.pc a = .aSpinE ∨ s.pc a = .fChk) (hq : s.q = []) :
    Inv cfg (emptyFail s a) ∧ (Inv2 s → Inv2 (emptyFail s a)) := by
  have l := h.loc a
  have k := call_kind (s.cur a)
  have f : PopPc (s.pc a) ∧ Wanting (s.pc a) ∧ PreGot (s.pc a) ∧ s.pc a ≠ .idle ∧ s.pc a ≠ .setIn ∧ s.pc a ≠ .pubE := by
    rcases hpc with e | e | e | e <;> simp [e, PopPc, Wanting, PreGot]
  simp only [Local, Typed] at l
  refine inv_move h (fun b hb => by simp [view, upd, hb]) (fun _ _ => id) (.inl ⟨rfl, rfl, rfl⟩) h.glob ?_ fun h2 => ?_
  · cases isPopWait (s.cur a) <;> simp [Local, hq, InCS, Wanting, Typed, PushPc, PopPc, RmPc] <;> grind
  · have l2 := h2.loc a
    simp only [Local2] at l2
    cases isPopWait (s.cur a) <;> simp [Local2, InCS, PrePush, PreGot] <;> grind

theorem inv_loadEmpty {cfg : Cfg} {s s' : St} {a : Actor} {v : Bool} (h : Inv cfg s)
    (hs : stepLoadEmpty s a v = some s') : Inv cfg s' ∧ (Inv2 s → Inv2 s') := by
  unfold stepLoadEmpty at hs
  split at hs
  · cases hs
  next hg =>
  have hqe : v = true → s.q = [] := fun e => h.flagQ ((Decidable.not_not.mp hg).symm.trans e)
  split at hs
  case h_5 hpc =>
    -- FIFO_WAIT remove: `!is_empty` pre-check
    cases hs; cases v
    · exact inv_goto h hpc (by decide)
    · exact inv_rmFailed h (.inl hpc) (.inl (hqe rfl)) (.inl rfl)
  case h_6 hpc =>
    -- FIFO_WAIT pop_wait under the mutex
    split at hs <;> cases hs
    cases v
    · exact inv_goto h hpc (by decide)
    · have l := h.loc a
      have k := call_kind (s.cur a)
      simp only [hpc, Local, InCS, Wanting, Typed, PushPc, PopPc, RmPc] at l
      refine inv_move h (fun b hb => by simp [view, upd, hb]) (fun _ _ => id) (.inl ⟨rfl, rfl, rfl⟩) h.glob ?_ fun h2 => ?_
      · simp [Local, InCS, Wanting, Typed, PushPc, PopPc, RmPc]; grind
      · have l2 := h2.loc a
        simp only [hpc, Local2, InCS, PrePush, PreGot] at l2
        simp [Local2, InCS, PrePush, PreGot]; grind
  case h_7 => cases hs
  all_goals (
    cases hs; cases v
    · exact inv_goto h ‹_› (by decide)
    · exact inv_emptyFail h (by simp [*]) (hqe rfl))

/-- what the invariants ask of the first program counter of the pool callback: it is `retp` only when there is nothing to
do, lies before or (private pool) at the critical section of the call's kind, and is none of the later ones -/
theorem bodyPc_classes (cfg : Cfg) (c : Call) :
    (bodyPc cfg c = .retp → isRemove c = false ∧ wants c = 0 ∧ unitsOf c = []) ∧
    (isPopLike c = true → Wanting (bodyPc cfg c) → wants c ≠ 0) ∧ (InCS (bodyPc cfg c) → cfg.shared = false) ∧
    (PushPc (bodyPc cfg c) → isPushLike c = true) ∧ (PopPc (bodyPc cfg c) → isPopLike c = true) ∧
    (RmPc (bodyPc cfg c) → isRemove c = true) ∧ (bodyPc cfg c = .sAcq → isPopLike c = false) ∧
    bodyPc cfg c ≠ .idle ∧ bodyPc cfg c ≠ .pmCb ∧ bodyPc cfg c ≠ .pub ∧ bodyPc cfg c ≠ .setIn ∧ bodyPc cfg c ≠ .pubE ∧
    bodyPc cfg c ≠ .clrIn ∧ bodyPc cfg c ≠ .rel ∧ bodyPc cfg c ≠ .wIdle ∧ bodyPc cfg c ≠ .sig ∧ bodyPc cfg c ≠ .sSpin := by
  rcases cfg with ⟨lk, sh⟩
  cases lk <;> cases sh <;> (cases c with
    | pushMany us h =>
      cases us <;> simp [bodyPc, csEntry, isPushLike, isPopLike, isRemove, wants, unitsOf, InCS, Wanting, PushPc, PopPc, RmPc]
    | popMany m t =>
      cases m <;> simp [bodyPc, isPushLike, isPopLike, isRemove, wants, unitsOf, InCS, Wanting, PushPc, PopPc, RmPc]
    | _ => simp [bodyPc, csEntry, isPushLike, isPopLike, isRemove, wants, unitsOf, InCS, Wanting, PushPc, PopPc, RmPc])

theorem local_body {cfg : Cfg} {t : St} {a : Actor} {c : Call} (hc : t.cur a = c) (hl : t.lagF ≠ some a)
    (ho : cfg.shared = false → t.owner = some a) (hz : isRemove c = true → removeArg c ≠ 0)
    (hpop : isPopLike c = true → t.got a = [] ∧ t.cnt a = wants c) : Local cfg t a (bodyPc cfg c) := by
  subst hc
  have k := call_kind (t.cur a)
  have cls := bodyPc_classes cfg (t.cur a)
  simp only [Local, Typed]
  grind

theorem local2_body {cfg : Cfg} {t : St} {a : Actor} {c : Call} (hc : t.cur a = c) (hpop : isPopLike c = true → t.got a = [])
    (hpush : isPushLike c = true → t.done a = [] ∧ t.todo a = unitsOf c) (hb : t.base a = t.q) :
    Local2 t a (bodyPc cfg c) := by
  subst hc
  have k := call_kind (t.cur a)
  have cls := bodyPc_classes cfg (t.cur a)
  simp only [Local2]
  grind

theorem entryPc_cases (cfg : Cfg) (c : Call) :
    (entryPc cfg c = .pmCb ∧ isPushLike c = true) ∨ entryPc cfg c = bodyPc cfg c := by
  cases c with
  | pushMany us h => cases us <;> simp [entryPc, isPushLike]
  | _ => simp [entryPc]

theorem todoInit_eq (c : Call) :
    (match c with | .push u _ => [u] | .pushMany us _ => us | _ => []) = unitsOf c := by
  cases c <;> rfl

theorem inv_call {cfg : Cfg} {s s' : St} {a : Actor} {c : Call} (h : Inv cfg s)
    (hs : stepCall cfg s a c = some s') : Inv cfg s' ∧ (Inv2 s → Inv2 s') := by
  unfold stepCall at hs
  split at hs
  · cases hs
  next hg =>
  split at hs <;> cases hs
  next hpriv =>
  simp only [not_or, Decidable.not_not] at hg
  obtain ⟨hidle, hcall⟩ := hg
  have hok : isRemove c = true → removeArg c ≠ 0 := by cases c <;> simp_all [isRemove, removeArg, callOk]
  have l := h.loc a
  have g := h.glob
  simp only [hidle, Local, Global] at l g
  refine inv_move h (fun b hb => by simp [view, upd, hb]) (fun b hb e => ?_) (.inl ⟨rfl, rfl, rfl⟩) ?_ ?_ fun _ => ?_
  · grind
  · simp only [Global]; grind
  all_goals rcases entryPc_cases cfg c with ⟨e, hk⟩ | e <;> rw [e]
  · have k := call_kind c
    simp [Local, InCS, Wanting, Typed, PushPc, PopPc, RmPc]; grind
  · exact local_body (by simp) (by simp; grind) (by simp +contextual) hok (by simp)
  · simp [Local2, InCS, PrePush, PreGot]; exact ⟨fun _ => (todoInit_eq c).symm, fun _ => todoInit_eq c⟩
  · exact local2_body (by simp) (by simp) (by simp; exact fun _ => todoInit_eq c) (by simp)

/-- hook 23: ABT_pool_push_threads(_ex) invokes the pool's push_many callback -/
theorem inv_cbPushMany {cfg : Cfg} {s s' : St} {a : Actor} {n : Nat} (h : Inv cfg s)
    (hs : stepCbPushMany cfg s a n = some s') : Inv cfg s' ∧ (Inv2 s → Inv2 s') := by
  unfold stepCbPushMany at hs
  split at hs <;> cases hs
  next hg =>
  have hpc : s.pc a = .pmCb := Decidable.not_not.mp (not_or.mp hg).1
  have l := h.loc a
  have k := call_kind (s.cur a)
  simp only [hpc, Local, InCS, Wanting, Typed, PushPc, PopPc, RmPc] at l
  refine inv_move h (fun b hb => by simp [view, upd, hb]) (fun _ _ => id) (.inl ⟨rfl, rfl, rfl⟩) h.glob
    (local_body rfl (by grind) (by grind) (by grind) (by grind)) fun h2 => local2_body rfl (by grind) ?_ (by simp)
  have := h2.pre a
  simp only [hpc, PrePush] at this
  grind

theorem inv_ret {cfg : Cfg} {s s' : St} {a : Actor} {r : Res} (h : Inv cfg s) (hs : stepRet cfg s a r = some s') :
    Inv cfg s' ∧ (Inv2 s → Inv2 s') := by
  unfold stepRet at hs
  split at hs <;> cases hs
  next hg =>
  have l := h.loc a
  have g := h.glob
  simp only [Local, Global] at l g
  refine inv_move h (fun _ _ => rfl) (fun b hb e => ?_) (.inl ⟨rfl, rfl, rfl⟩) ?_ ?_ fun _ => ?_
  · grind
  · simp only [Global]; grind
  · simp [Local, InCS, Wanting, Typed, PushPc, PopPc, RmPc]; grind
  · simp [Local2, InCS, PrePush, PreGot]

theorem inv_link {cfg : Cfg} {s s' : St} {a : Actor} {u : Nat} {hd : Bool} (h : Inv cfg s)
    (hs : stepLink s a u hd = some s') : Inv cfg s' ∧ (Inv2 s → Inv2 s') := by
  unfold stepLink at hs
  split at hs
  next rest hpc htodo =>
    split at hs <;> cases hs
    next hg =>
    simp only [not_or, Decidable.not_not] at hg
    have hu := hg.2.2
    have l := h.loc a
    have hf := h.flag_false
    have k := call_kind (s.cur a)
    simp only [Local, hpc, InCS, Wanting, Typed, PushPc, PopPc, RmPc] at l
    refine inv_move h (fun b hb => by simp [view, upd, hb]) (fun _ _ => id) (.inl ⟨rfl, rfl, rfl⟩) h.glob ?_ fun h2 => ?_
    · by_cases hq : s.q = [] <;> simp [Local, hq, InCS, Wanting, Typed, PushPc, PopPc, RmPc] <;> grind
    · have l2 := h2.loc a
      simp only [hpc, Local2, InCS, PrePush, PreGot] at l2
      by_cases hq : s.q = [] <;> simp [Local2, hq, InCS, PrePush, PreGot] <;> grind
  · cases hs

theorem inv_storeEmpty {cfg : Cfg} {s s' : St} {a : Actor} {v : Bool} (h : Inv cfg s)
    (hs : stepStoreEmpty s a v = some s') : Inv cfg s' ∧ (Inv2 s → Inv2 s') := by
  unfold stepStoreEmpty at hs
  split at hs
  · cases hs
  next hown =>
  rw [Decidable.not_not] at hown
  have l := h.loc a
  have g := h.glob
  have k := call_kind (s.cur a)
  simp only [Global] at g
  -- a push to the empty queue publishes `is_empty = 0`; the pop / remove of the last unit publishes `is_empty = 1`
  split at hs <;> first | cases hs | (split at hs <;> cases hs)
  all_goals
    next hpc _ =>
    simp only [hpc, Local, InCS, Wanting, Typed, PushPc, PopPc, RmPc] at l
    refine inv_move h (fun _ _ => rfl) (fun _ _ => id) (.inr ⟨hown, by simp⟩) ?_ ?_ fun h2 => ?_
    · simp [Global]; grind
    · simp [Local, InCS, Wanting, Typed, PushPc, PopPc, RmPc]; grind
    · have l2 := h2.loc a
      simp only [hpc, Local2, InCS, PrePush, PreGot] at l2
      simp [Local2, InCS, PrePush, PreGot]; grind

theorem leave_cases (cfg : Cfg) (c : Call) : (leave cfg c = .rel ∨ leave cfg c = .retp) ∧ Late (leave cfg c) := by
  unfold leave; split <;> decide

/-- after a unit has been taken out: `pubE` if that emptied the queue, else `clrIn`; the classes of both -/
theorem emptied_cases {r : List Nat} {p : Pc} (hp : (if r = [] then .pubE else .clrIn) = p) :
    (p = .pubE ∧ r = [] ∨ p = .clrIn ∧ r ≠ []) ∧ InCS p ∧ Late p := by
  subst hp
  by_cases hr : r = [] <;> simp [hr] <;> decide

theorem popMany_facts {c : Call} : (isPopMany c = true → isPopLike c = true) ∧ (isPopLike c = true → isPopMany c = false → wants c = 1) := by
  cases c <;> simp [isPopMany, isPopLike, wants]

theorem inv_storeIn {cfg : Cfg} {s s' : St} {a : Actor} {u : Nat} {v : Bool} (h : Inv cfg s)
    (hs : stepStoreIn cfg s a u v = some s') : Inv cfg s' ∧ (Inv2 s → Inv2 s') := by
  unfold stepStoreIn at hs
  split at hs
  · cases hs
  next hg =>
  simp only [not_or, Decidable.not_not] at hg
  obtain ⟨hown, hu⟩ := hg
  have l := h.loc a
  have g := h.glob
  have k := call_kind (s.cur a)
  simp only [Global] at g
  split at hs <;> first | cases hs | (split at hs <;> cases hs)
  next hpc _ =>
    -- push: is_in_pool := 1, the unit is in the queue from here on
    have hpend := h.pend a (.inr hpc)
    rw [← hu] at hpend
    have hfl := h.setInFlag a hpc
    have hspec := specRun_snoc h.lin (spec_push (headOf (s.cur a)) hpend.1 hpend.2)
    have hmem : ∀ x, x ∈ (if headOf (s.cur a) = true then u :: s.q else s.q ++ [u]) ↔ x = u ∨ x ∈ s.q := by
      intro x; split <;> simp [or_comm]
    generalize hnx : (if s.todo a ≠ [] then Pc.csPush else
        match cfg.lk with
        | .mutex => Pc.sig
        | .spin => leave cfg (s.cur a)) = nx
    have hnxc : nx = .csPush ∧ s.todo a ≠ [] ∨ (nx = .sig ∨ nx = .rel ∨ nx = .retp) ∧ s.todo a = [] := by
      rw [← hnx]
      by_cases ht : s.todo a = []
      · rcases (leave_cases cfg (s.cur a)).1 with e | e <;> cases cfg.lk <;> simp [ht, e]
      · simp [ht]
    have cls : ¬ Wanting nx ∧ ¬ PopPc nx ∧ ¬ RmPc nx ∧ ¬ PrePush nx ∧ ¬ PreGot nx ∧ nx ≠ .idle ∧ nx ≠ .pub ∧ nx ≠ .setIn ∧
        nx ≠ .pubE ∧ nx ≠ .clrIn ∧ nx ≠ .wIdle ∧ nx ≠ .sAcq ∧ nx ≠ .sSpin := by
      rcases hnxc with ⟨rfl, _⟩ | ⟨rfl | rfl | rfl, _⟩ <;> decide
    simp only [hpc, Local, InCS, Wanting, Typed, PushPc, PopPc, RmPc] at l
    refine inv_move h (fun b hb => by simp [view, upd, hb]) (fun _ _ => id) (.inr ⟨hown, by simp⟩) ?_ ?_ fun h2 => ?_
    · simp [Global, hfl, hspec, hmem, upd]; grind
    · simp only [Local, Typed]; grind
    · have l2 := h2.loc a
      simp only [hpc, Local2, InCS, PrePush, PreGot] at l2
      simp only [Local2, upd_same]; grind
  next hpc _ =>
    -- pop / remove: is_in_pool := 0
    have hout := h.outQ a (.inr hpc)
    rw [← hu] at hout
    have pm := popMany_facts (c := s.cur a)
    have hlen := List.length_eq_zero_iff (l := s.got a)
    generalize hnx : (if isPopMany (s.cur a) = true ∧ s.cnt a ≠ 0 then Pc.csPop else leave cfg (s.cur a)) = nx
    have hnxc : nx = .csPop ∧ isPopMany (s.cur a) = true ∧ s.cnt a ≠ 0 ∨
        (nx = .rel ∨ nx = .retp) ∧ ¬ (isPopMany (s.cur a) = true ∧ s.cnt a ≠ 0) := by
      rw [← hnx]; split
      next hc => exact .inl ⟨rfl, hc⟩
      next hc => exact .inr ⟨(leave_cases cfg (s.cur a)).1, hc⟩
    have cls : ¬ PushPc nx ∧ ¬ RmPc nx ∧ ¬ PrePush nx ∧ ¬ PreGot nx ∧ (PopPc nx → nx = .csPop) ∧ (Wanting nx → nx = .csPop) ∧
        nx ≠ .idle ∧ nx ≠ .pub ∧ nx ≠ .setIn ∧ nx ≠ .pubE ∧ nx ≠ .clrIn ∧ nx ≠ .wIdle ∧ nx ≠ .sAcq ∧ nx ≠ .sSpin := by
      rcases hnxc with ⟨rfl, _⟩ | ⟨rfl | rfl, _⟩ <;> decide
    simp only [hpc, Local, InCS, Wanting, Typed, PushPc, PopPc, RmPc] at l
    refine inv_move h (fun _ _ => rfl) (fun _ _ => id) (.inl ⟨rfl, rfl, rfl⟩) ?_ ?_ fun h2 => ?_
    · simp [Global, upd]; grind
    · simp only [Local, Typed]; grind
    · have l2 := h2.loc a
      simp only [hpc, Local2, InCS, PrePush, PreGot] at l2
      simp only [Local2]; grind

theorem inv_take {cfg : Cfg} {s s' : St} {a : Actor} {r : Nat} {hd : Bool} (h : Inv cfg s)
    (hs : stepTake cfg s a r hd = some s') : Inv cfg s' ∧ (Inv2 s → Inv2 s') := by
  unfold stepTake at hs
  split at hs
  · cases hs
  next hg =>
  simp only [not_or, Decidable.not_not] at hg
  obtain ⟨hpc, hown, -⟩ := hg
  have l := h.loc a
  have g := h.glob
  have k := call_kind (s.cur a)
  have hspec := specRun_snoc h.lin (spec_pop s.q (tailOf (s.cur a)))
  simp only [hpc, Local, InCS, Wanting, Typed, PushPc, PopPc, RmPc] at l
  simp only [Global] at g
  split at hs <;> cases hs
  next hq =>
    -- the queue is empty: NULL
    have hrest : takeRest s.q (tailOf (s.cur a)) = s.q := by simp [hq, takeRest]
    rw [hrest] at hspec
    have cls := leave_cases cfg (s.cur a)
    refine inv_move h (fun b hb => by simp [view, upd, hb]) (fun _ _ => id) (.inl ⟨rfl, rfl, rfl⟩) ?_ ?_ fun h2 => ?_
    · simp [Global, hspec]; grind
    · simp only [Local, Typed, upd_same]; grind [Late]
    · have l2 := h2.loc a
      simp only [hpc, Local2, InCS, PrePush, PreGot] at l2
      simp only [Local2]; grind [Late]
  next hq =>
    have hfl := h.flag_false hq
    obtain ⟨_, _, hnotin, hsub⟩ := take_facts h.good hq (tailOf (s.cur a))
    have hsplit := take_split hq (tailOf (s.cur a))
    generalize takeRest s.q (tailOf (s.cur a)) = rest at *
    generalize takeUnit s.q (tailOf (s.cur a)) = x at *
    generalize hnx : (if rest = [] then Pc.pubE else .clrIn) = nx
    have cls := emptied_cases hnx
    refine inv_move h (fun b hb => by simp [view, upd, hb]) (fun _ _ => id) (.inr ⟨hown, by split <;> simp⟩) ?_ ?_ fun h2 => ?_
    · simp [Global, hspec, hfl]; grind
    · simp only [Local, Typed, upd_same]; grind [Late]
    · have l2 := h2.loc a
      simp only [hpc, Local2, InCS, PrePush, PreGot] at l2
      have ht : s.base a = if tailOf (s.cur a) = true then rest ++ (s.got a ++ [x]).reverse else s.got a ++ [x] ++ rest := by
        rw [l2.2.2.1 trivial (by grind), hsplit]; split <;> simp
      simp only [Local2, upd_same]; grind [Late]

theorem inv_unlink {cfg : Cfg} {s s' : St} {a : Actor} {u : Nat} (h : Inv cfg s)
    (hs : stepUnlink s a u = some s') : Inv cfg s' ∧ (Inv2 s → Inv2 s') := by
  unfold stepUnlink at hs
  split at hs <;> cases hs
  next hg =>
  simp only [not_or, Decidable.not_not] at hg
  obtain ⟨hpc, hown, hcur, hq, -, hmem⟩ := hg
  have l := h.loc a
  have g := h.glob
  have k := call_kind (s.cur a)
  simp only [hpc, Local, InCS, Wanting, Typed, PushPc, PopPc, RmPc] at l
  simp only [Global] at g
  have hfl := h.flag_false hq
  have hspec := specRun_snoc h.lin (spec_remove_ok (by simpa [hcur, removeArg, isRemove] using h.rmNZ a) hmem)
  have hnotin : u ∉ s.q.erase u := fun hm => ((List.Nodup.mem_erase_iff h.good.1).mp hm).1 rfl
  have hsub : ∀ y ∈ s.q.erase u, y ∈ s.q := fun _ => List.mem_of_mem_erase
  generalize s.q.erase u = rest at *
  generalize hnx : (if rest = [] then Pc.pubE else .clrIn) = nx
  have cls := emptied_cases hnx
  refine inv_move h (fun b hb => by simp [view, upd, hb]) (fun _ _ => id) (.inr ⟨hown, by split <;> simp⟩) ?_ ?_ fun h2 => ?_
  · simp [Global, hspec, hfl]; grind
  · simp only [Local, Typed, upd_same]; grind [Late]
  · have l2 := h2.loc a
    simp only [hpc, Local2, InCS, PrePush, PreGot] at l2
    simp only [Local2, upd_same]; grind

theorem inv12_step {cfg : Cfg} {s s' : St} {e : Ev} (h : Inv cfg s) (hs : step cfg s e = some s') :
    Inv cfg s' ∧ (Inv2 s → Inv2 s') := by
  cases e with
  | call a c => exact inv_call h hs
  | ret a r => exact inv_ret h hs
  | cbPushMany a n => exact inv_cbPushMany h hs
  | tas a old => exact inv_tas h hs
  | loadLock a v => exact inv_loadLock h hs
  | loadEmpty a v => exact inv_loadEmpty h hs
  | loadIn a u v => exact inv_loadIn h hs
  | clear a => exact inv_clear h hs
  | mlock a => exact inv_mlock h hs
  | munlock a => exact inv_munlock h hs
  | link a u hd => exact inv_link h hs
  | take a r hd => exact inv_take h hs
  | unlink a u => exact inv_unlink h hs
  | rmFail a => exact inv_rmFail h hs
  | storeEmpty a v => exact inv_storeEmpty h hs
  | storeIn a u v => exact inv_storeIn h hs
  | signal a => exact inv_signal h hs
  | condWait a => exact inv_condWait h hs
  | wake a => exact inv_wake h hs

theorem inv_step {cfg : Cfg} {s s' : St} {e : Ev} (h : Inv cfg s) (hs : step cfg s e = some s') : Inv cfg s' :=
  (inv12_step h hs).1

theorem inv12_run {cfg : Cfg} {tr : List Ev} {s : St} (h : (machine cfg).run init tr = some s) : Inv cfg s ∧ Inv2 s :=
  Machine.invariant_run (machine cfg) (fun s => Inv cfg s ∧ Inv2 s)
    (fun _ _ _ hi hs => ⟨inv_step hi.1 hs, (inv12_step hi.1 hs).2 hi.2⟩) tr init s ⟨inv_init cfg, inv2_init⟩ h

theorem inv_run {cfg : Cfg} {tr : List Ev} {s : St} (h : (machine cfg).run init tr = some s) : Inv cfg s :=
  (inv12_run h).1

theorem inv_reachable {cfg : Cfg} {s : St} (h : (machine cfg).Reachable s) : Inv cfg s := by
  obtain ⟨tr, hr⟩ := h
  exact inv_run hr

theorem inv2_reachable {cfg : Cfg} {s : St} (h : (machine cfg).Reachable s) : Inv2 s := by
  obtain ⟨tr, hr⟩ := h
  exact (inv12_run hr).2

theorem run_snoc {cfg : Cfg} {tr : List Ev} {e : Ev} {s : St} (h : (machine cfg).run init (tr ++ [e]) = some s) :
    ∃ s0, (machine cfg).run init tr = some s0 ∧ step cfg s0 e = some s := by
  rw [Machine.run_append] at h
  cases h0 : (machine cfg).run init tr with
  | none => simp [h0] at h
  | some s0 =>
    refine ⟨s0, rfl, ?_⟩
    simp only [h0, Option.bind_some, Machine.run] at h
    cases h1 : (machine cfg).step s0 e with
    | none => simp [h1] at h
    | some s1 => simp only [h1, Option.some.injEq] at h; subst h; exact h1

end ArgoVerif.Model.PoolConc
