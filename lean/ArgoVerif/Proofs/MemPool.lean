import ArgoVerif.Proofs.MemPoolInv
/-
Proofs.MemPool — the operations on a local pool as compositions of a few ghost steps (`detach` /
`attach` a whole bucket between a pool slot and the bucket in flight, `handOut` / `takeIn` one
header between a pool's top bucket and the handed-out set) with the operations of the global pool;
every operation of Model.MemPool preserves the invariant `Inv` (`stepO_inv`), with the facts about
results that the property theorems need, and the vocabulary (`Place`, `At`, `ChainOK`) in which
Props.C15 states them.
-/
namespace ArgoVerif.Model.MemPool
open ArgoVerif

abbrev lo0 : Nat → Nat := fun _ => 0

theorem upd_upd {α β : Type} [DecidableEq α] (f : α → β) (a : α) (v w : β) : upd (upd f a v) a w = upd f a w := by
  funext x; by_cases e : x = a <;> simp [upd, e]

section Steps
variable {P : Params} {s : St} {th : Option Hdr} {tn : Nat} {lo lo' : Nat → Nat} {i : Nat} {lp : LPool}

/-- slot `j` of pool `i` with record `lp` holds a non-empty bucket that stores its length; it is full
unless it is the top one -/
abbrev SlotOK (P : Params) (s : St) (i : Nat) (lp : LPool) (j : Nat) : Prop :=
  IsBucket s.next s.own (lp.buckets j) (s.cnt (lp.buckets j)) (.loc i j) ∧
  1 ≤ s.cnt (lp.buckets j) ∧ s.cnt (lp.buckets j) ≤ P.perBucket ∧ (j < lp.bidx → s.cnt (lp.buckets j) = P.perBucket)

theorem LocOK.of_some {l : Nat} (hlp : s.lp i = some lp) (hb : lp.bidx < P.maxLocal)
    (hB : ∀ j, l ≤ j → j ≤ lp.bidx → SlotOK P s i lp j) (hown : ∀ x j, s.own x = .loc i j → l ≤ j ∧ j ≤ lp.bidx) :
    LocOK P s l i := by
  refine ⟨fun lp' e => ?_, fun lp' j e => ?_, fun x j hx => ⟨_, hlp, hown x j hx⟩⟩
  · cases hlp.symm.trans e; exact hb
  · cases hlp.symm.trans e; exact hB j

theorem InvG.loc_le (h : InvG P s th tn lo) (hlp : s.lp i = some lp) {x : Hdr} {j : Nat} (hx : s.own x = .loc i j) :
    lo i ≤ j ∧ j ≤ lp.bidx := by
  obtain ⟨lp', e, r⟩ := h.locOwn x i j hx
  cases hlp.symm.trans e; exact r

/-- a step on local pool `i` writing only the fields listed in `hs`: pool `i`, the bucket in flight and the
handed-out set are re-established by the caller, the rest carries over -/
theorem InvG.frame_pool {s' : St} {th' : Option Hdr} {tn' : Nat} {T : Owner → Prop} (h : InvG P s th tn lo)
    (f : Frame T s s') (i : Nat) (hT : ∀ o, T o → o = .out ∨ o = .tmp ∨ ∃ j, o = .loc i j)
    (hs : s' = { s with next := s'.next, cnt := s'.cnt, lp := s'.lp, own := s'.own, out := s'.out })
    (hlp : ∀ i', i' ≠ i → s'.lp i' = s.lp i') (hlo : ∀ i', i' ≠ i → lo' i' = lo i')
    (hloc : LocOK P s' (lo' i) i) (ht : TmpOK P s' th' tn') (ho : OutOK s') : InvG P s' th' tn' lo' := by
  refine .of_parts (fun i' => ?_) (h.lifoOK.frame f (fun b t => by simpa using hT _ t) (by rw [hs]))
    (h.partOK.frame f (fun t => by simpa using hT _ t) (by rw [hs])) ht ho
    (h.carvedOK.frame f (fun t => by simpa using hT _ t) (by rw [hs]) (by rw [hs]) (by rw [hs]) (by rw [hs]))
  by_cases e : i' = i
  · rw [e]; exact hloc
  · rw [hlo i' e]; exact (h.locOK i').frame f (fun j t => by simpa [e] using hT _ t) (hlp i' e)

/-- ghost step: the lowest not yet detached bucket of pool `i` becomes the bucket in flight -/
theorem detach_inv (h : InvG P s none 0 lo) (hlp : s.lp i = some lp) (hle : lo i ≤ lp.bidx) :
    InvG P { s with own := relabel s.own (.loc i (lo i)) .tmp } (some (lp.buckets (lo i)))
      (s.cnt (lp.buckets (lo i))) (upd lo i (lo i + 1)) := by
  obtain ⟨k1, k2, k3, _⟩ := h.lpB i lp (lo i) hlp (Nat.le_refl _) hle
  have f : Frame (fun o => o = .loc i (lo i) ∨ o = .tmp) s { s with own := relabel s.own (.loc i (lo i)) .tmp } :=
    .relabel rfl fun _ _ _ => ⟨rfl, rfl⟩
  refine h.frame_pool f i (by rintro o (rfl | rfl) <;> simp) rfl (fun _ _ => rfl) (fun _ e => upd_other _ _ _ _ e) ?_
    ⟨fun b e => ?_, nofun⟩ (h.outOK.frame f (by simp) rfl)
  · rw [upd_same]
    refine .of_some hlp (h.lpBidx i lp hlp) (fun j h1 h2 => ?_) fun x j hx => ?_
    · exact (h.locOK i).bucket_frame f hlp (by omega) h2 (by simp; omega)
    · have hj : j ≠ lo i := fun e => relabel_ne_source (by simp) x (e ▸ hx)
      have := h.loc_le hlp ((f.own x _ (by simp [hj])).mp hx)
      omega
  · cases e; exact ⟨k1.relabel_new (h.tmpOwn rfl), k2, k3⟩

/-- ghost step: the full bucket in flight becomes bucket 0 of local pool `i`, which holds no header -/
theorem attach_inv (hP : P.OK) {b : Hdr} (h : InvG P s (some b) P.perBucket lo) (hcb : s.cnt b = P.perBucket)
    (hemp : ∀ x j, s.own x ≠ .loc i j) (bk : Nat → Hdr) (hbk : bk 0 = b)
    (hlo : ∀ i', i' ≠ i → lo' i' = lo i') (hi : lo' i = 0) :
    InvG P { s with lp := upd s.lp i (some ⟨0, bk⟩), own := relabel s.own .tmp (.loc i 0) } none 0 lo' := by
  have f : Frame (fun o => o = .tmp ∨ o = .loc i 0) s
      { s with lp := upd s.lp i (some ⟨0, bk⟩), own := relabel s.own .tmp (.loc i 0) } :=
    .relabel rfl fun _ _ _ => ⟨rfl, rfl⟩
  refine h.frame_pool f i (by rintro o (rfl | rfl) <;> simp) rfl (fun _ e => upd_other _ _ _ _ e) hlo ?_
    (.none (relabel_ne_source (by simp)))
    (h.outOK.frame f (by simp) rfl)
  refine .of_some (upd_same _ _ _) hP.maxLocal_pos (fun j _ h2 => ?_) fun x j hx => ?_
  · cases Nat.le_zero.mp h2
    simp only [SlotOK, hbk, hcb]
    exact ⟨(h.tmpB b rfl).1.relabel_new fun x => hemp x 0, hP.perBucket_pos, Nat.le_refl _, fun e => absurd e (by simp)⟩
  · have hj : j = 0 := Classical.byContradiction fun hj => hemp x j ((relabel_eq_iff (by simp) (by simp; exact hj)).mp hx)
    omega

/-- ghost step of `alloc`: the head of the top bucket of pool `i` is handed out; the caller describes
pool `i` afterwards: its record `lp'`, its slots, and that they hold all its other headers -/
theorem handOut_inv {s' : St} {c' : Hdr → Nat} {lp' : LPool} (h : InvG P s th tn lo) (hlp : s.lp i = some lp)
    (hlo : lo i ≤ lp.bidx) (hlo' : ∀ i', i' ≠ i → lo' i' = lo i')
    (hs : s' = { s with cnt := c', lp := upd s.lp i (some lp'), own := upd s.own (lp.buckets lp.bidx) .out,
                        out := lp.buckets lp.bidx :: s.out })
    (hcnt : ∀ x, s.own x ≠ .loc i lp.bidx → c' x = s.cnt x) (hb : lp'.bidx < P.maxLocal)
    (hB : Frame (fun o => o = .loc i lp.bidx ∨ o = .out) s s' → ∀ j, lo' i ≤ j → j ≤ lp'.bidx → SlotOK P s' i lp' j)
    (hown : ∀ x j, x ≠ lp.buckets lp.bidx → s.own x = .loc i j → lo' i ≤ j ∧ j ≤ lp'.bidx) : InvG P s' th tn lo' := by
  obtain ⟨k1, k2, _⟩ := h.lpB i lp lp.bidx hlp hlo (Nat.le_refl _)
  have hco := k1.head_own k2
  have f : Frame _ s s' := .move hco (by rw [hs]) fun x hx _ => by rw [hs]; exact ⟨rfl, hcnt x hx⟩
  subst hs
  refine h.frame_pool f i (by rintro o (rfl | rfl) <;> simp) rfl (fun _ e => upd_other _ _ _ _ e) hlo'
    (.of_some (upd_same _ _ _) hb (hB f) fun x j hx => ?_) (h.tmpOK.frame f (by simp))
    ⟨fun x => ?_, List.nodup_cons.mpr ⟨fun hm => ?_, h.outNd⟩⟩
  · by_cases e : x = lp.buckets lp.bidx
    · exact absurd hx (by simp [e])
    · exact hown x j e ((upd_other _ _ _ _ e).symm.trans hx)
  · by_cases e : x = lp.buckets lp.bidx
    · simp [e]
    · simp only [List.mem_cons, e, false_or, upd_other _ _ _ _ e]; exact h.outOwn x
  · have := (h.outOwn _).mp hm; rw [hco] at this; cases this

/-- ghost step of `free`: the handed-out header `hd` becomes the head of bucket `k` of pool `i`
(the caller's obligations as in `handOut_inv`) -/
theorem takeIn_inv {s' : St} {hd : Hdr} {nx : Option Hdr} {c k : Nat} {lp' : LPool} (h : InvG P s th tn lo)
    (ho : hd ∈ s.out) (hlo' : ∀ i', i' ≠ i → lo' i' = lo i')
    (hs : s' = { s with next := upd s.next hd nx, cnt := upd s.cnt hd c, lp := upd s.lp i (some lp'),
                        own := upd s.own hd (.loc i k), out := s.out.erase hd })
    (hb : lp'.bidx < P.maxLocal) (hk : lo' i ≤ k ∧ k ≤ lp'.bidx)
    (hB : Frame (fun o => o = .out ∨ o = .loc i k) s s' → ∀ j, lo' i ≤ j → j ≤ lp'.bidx → SlotOK P s' i lp' j)
    (hown : ∀ x j, s.own x = .loc i j → lo' i ≤ j ∧ j ≤ lp'.bidx) : InvG P s' th tn lo' := by
  have hho := (h.outOwn hd).mp ho
  have f : Frame _ s s' := .move hho (by rw [hs]) fun x hx _ => by
    have : x ≠ hd := fun e => hx (e ▸ hho)
    rw [hs]; exact ⟨upd_other _ _ _ _ this, upd_other _ _ _ _ this⟩
  subst hs
  refine h.frame_pool f i (by rintro o (rfl | rfl) <;> simp) rfl (fun _ e => upd_other _ _ _ _ e) hlo'
    (.of_some (upd_same _ _ _) hb (hB f) fun x j hx => ?_) (h.tmpOK.frame f (by simp))
    ⟨fun x => ?_, h.outNd.sublist List.erase_sublist⟩
  · by_cases e : x = hd
    · obtain rfl : k = j := by simpa [e] using hx
      exact hk
    · exact hown x j ((upd_other _ _ _ _ e).symm.trans hx)
  · rw [h.outNd.mem_erase_iff]
    by_cases e : x = hd
    · simp [e]
    · simp only [ne_eq, e, not_false_eq_true, true_and, upd_other _ _ _ _ e]; exact h.outOwn x

end Steps

/-! ### local-pool operations -/

/-- **`ABTI_mem_pool_init_local_pool`** on a free slot is defined (no assertion fires) and keeps the invariant -/
theorem initLocal_inv {P : Params} (hP : P.OK) {s : St} {i : Nat} (h : Inv P s) (hlp : s.lp i = none) :
    ∃ r, initLocal P s i = some r ∧ Inv P r.1 := by
  unfold initLocal
  obtain ⟨⟨s1, ob⟩, htk, hpost, g⟩ := takeBucket_inv hP h
  rw [hlp, htk]
  cases ob with
  | none => exact ⟨_, rfl, hpost⟩
  | some b =>
    refine ⟨_, rfl, attach_inv hP hpost.1 hpost.2 (fun x j e => ?_) _ rfl (fun _ _ => rfl) rfl⟩
    obtain ⟨lp, q, _⟩ := hpost.1.locOwn x i j e
    rw [g.lp, hlp] at q; cases q

/-- **`ABTI_mem_pool_alloc`** on an initialised pool is defined — no assertion of the C code fires, no NULL
`p_next` is dereferenced: it returns a block or `ABT_ERR_MEM` — and keeps the invariant; a block that is
returned was not handed out before (it comes from the pool's own current bucket) -/
theorem alloc_inv {P : Params} (hP : P.OK) {s : St} {i : Nat} {lp : LPool} (h : Inv P s) (hlp : s.lp i = some lp) :
    ∃ r, alloc P s i = some r ∧ Inv P r.1 ∧
    (match r.2 with
      | some c => (∃ j, s.own c = .loc i j) ∧ r.1.out = c :: s.out
      | none => r.1.out = s.out) := by
  unfold alloc
  rw [hlp]
  simp only
  have hbl := h.lpBidx i lp hlp
  obtain ⟨k1, k2, k3, _⟩ := h.lpB i lp lp.bidx hlp (Nat.zero_le _) (Nat.le_refl _)
  have hco := k1.head_own k2
  obtain ⟨rest, sr, lr, ndr, mr⟩ := k1.uncons k2
  split
  · omega
  · split
    · rename_i hn1
      have hrest : rest = [] := List.eq_nil_of_length_eq_zero (by omega)
      subst hrest
      -- the header handed out is the last one of the top bucket: the others sit in the buckets below
      have hbelow : ∀ x j, x ≠ lp.buckets lp.bidx → s.own x = .loc i j → j < lp.bidx := fun x j e hx => by
        have := h.loc_le hlp hx
        have : j ≠ lp.bidx := fun e' => e (by simpa using (mr x).mpr (e' ▸ hx))
        omega
      split
      · -- last header of the only bucket: take a bucket from the global pool, hand out the old header
        rename_i hb0
        obtain ⟨⟨s1, ob⟩, htk, hpost, g⟩ := takeBucket_inv hP h
        rw [htk]
        cases ob with
        | none => exact ⟨_, rfl, hpost, g.out⟩
        | some b =>
          dsimp only at hpost g
          refine ⟨_, rfl, ?_, ⟨_, hco⟩, by simp [g.out]⟩
          have hlp1 : s1.lp i = some lp := g.lp ▸ hlp
          -- in `s1` pool `i` is the single header `cur`: after handing it out the pool is empty (`lo i = 1 > bucket_index`) …
          have h2 := handOut_inv (lo' := upd lo0 i 1) (lp' := lp) hpost.1 hlp1 (Nat.zero_le _)
            (fun i' e => upd_other _ _ _ _ e) rfl (fun _ _ => rfl) hbl (fun f j h1 h2 => by rw [upd_same] at h1; omega)
            fun x j e hx => absurd (hbelow x j e ((g.frame.own x _ (by simp)).mp hx)) (by omega)
          -- … and takes the new bucket as its bucket 0
          have h3 := attach_inv (lo' := lo0) (i := i) hP h2 hpost.2 (fun x j e => ?_) (upd lp.buckets 0 b) (upd_same _ _ _)
            (fun i' e => (upd_other _ _ _ _ e).symm) rfl
          · simp only [upd_upd] at h3
            have e : relabel (upd s1.own (lp.buckets lp.bidx) .out) .tmp (.loc i 0) =
                upd (relabel s1.own .tmp (.loc i 0)) (lp.buckets lp.bidx) .out := by
              funext x; by_cases e : x = lp.buckets lp.bidx <;> simp [relabel, upd, e]
            rw [e] at h3; exact h3
          · have := h2.loc_le (upd_same _ _ _) e
            rw [upd_same] at this; omega
      · -- last header of a bucket that is not the only one: step down to the full bucket below
        refine ⟨_, rfl, handOut_inv (lo' := lo0) h hlp (Nat.zero_le _) (fun _ _ => rfl) rfl (fun _ _ => rfl)
          (Nat.lt_of_le_of_lt (Nat.sub_le _ _) hbl) (fun f j _ h2 => ?_)
          fun x j e hx => ⟨Nat.zero_le _, Nat.le_sub_one_of_lt (hbelow x j e hx)⟩, ⟨_, hco⟩, rfl⟩
        simp only at h2
        obtain ⟨q1, q2, q3, q4⟩ := (h.locOK i).bucket_frame (j := j) f hlp (Nat.zero_le _) (by omega) (by simp; omega)
        exact ⟨q1, q2, q3, fun _ => q4 (by omega)⟩
    · -- more than one header left: pop the head of the current bucket
      rename_i hn0 hn1
      cases rest with
      | nil => simp at lr; omega
      | cons nx r =>
        rw [sr.1]
        have hnxo : s.own nx = .loc i lp.bidx := (mr nx).mp (by simp)
        refine ⟨_, rfl, handOut_inv (lo' := lo0) h hlp (Nat.zero_le _) (fun _ _ => rfl) rfl
          (fun x hx => upd_other _ _ _ _ fun e => hx (e ▸ hnxo)) hbl (fun f j _ h2 => ?_) fun x j _ hx => h.loc_le hlp hx,
          ⟨_, hco⟩, rfl⟩
        simp only [SlotOK] at h2 ⊢
        by_cases hj : j = lp.bidx
        · subst hj
          simp only [upd_same]
          refine ⟨⟨nx :: r, ⟨rfl, sr.2⟩, by simp at lr ⊢; omega, (List.nodup_cons.mp ndr).2, fun x => ?_⟩, by omega, by omega,
            fun e => absurd e (Nat.lt_irrefl _)⟩
          by_cases e : x = lp.buckets lp.bidx
          · subst e; simpa using (List.nodup_cons.mp ndr).1
          · rw [upd_other _ _ _ _ e, ← mr x]; simp [e]
        · rw [upd_other _ _ _ _ hj]
          exact (h.locOK i).bucket_frame f hlp (Nat.zero_le _) h2 (by simp; omega)

theorem shiftOwn_loc {own : Hdr → Owner} {x : Hdr} {i j : Nat} (hpos : ∀ j', own x = .loc i j' → 1 ≤ j') :
    shiftOwn i own x = .loc i j ↔ own x = .loc i (j + 1) := by
  unfold shiftOwn
  cases hx : own x with
  | loc i' j' =>
    by_cases e : i' = i
    · subst e
      have := hpos j' hx
      simp only [if_true, Owner.loc.injEq, true_and]; omega
    · simp only [e, if_false, Owner.loc.injEq, false_and]
  | _ => simp

theorem shiftOwn_other {own : Hdr → Owner} {x : Hdr} {i : Nat} {o : Owner} (ho : ∀ j, o ≠ .loc i j) :
    shiftOwn i own x = o ↔ own x = o := by
  unfold shiftOwn
  cases hx : own x with
  | loc i' j' =>
    by_cases e : i' = i
    · subst e; simp only [if_true]
      exact ⟨fun e => absurd e.symm (ho _), fun e => absurd e.symm (ho _)⟩
    · simp only [e, if_false]
  | _ => simp

/-- **`ABTI_mem_pool_free`** under its precondition (`hd` is handed out) -/
theorem free_inv {P : Params} (hP : P.OK) {s s' : St} {i : Nat} {hd : Hdr} (h : Inv P s)
    (hr : free P s i hd = some s') :
    Inv P s' ∧ s'.carved = s.carved ∧ (∀ x, x ∈ s'.out ↔ x ≠ hd ∧ x ∈ s.out) ∧ hd ∈ s.out := by
  unfold free at hr
  split at hr
  · rename_i ho
    have hho := (h.outOwn hd).mp ho
    have hout : ∀ x, x ∈ s.out.erase hd ↔ x ≠ hd ∧ x ∈ s.out := fun x => h.outNd.mem_erase_iff
    unfold freeRaw at hr
    cases hlp : s.lp i with
    | none => rw [hlp] at hr; cases hr
    | some lp =>
      rw [hlp] at hr
      simp only at hr
      have hbl := h.lpBidx i lp hlp
      have hnothd : ∀ j, j ≤ lp.bidx → lp.buckets j ≠ hd := fun j hj e => by
        obtain ⟨q1, q2, _⟩ := h.lpB i lp j hlp (Nat.zero_le _) hj
        have := q1.head_own q2; rw [e, hho] at this; cases this
      have hfullbelow : ∀ j, j < lp.bidx → s.cnt (lp.buckets j) = P.perBucket := fun j hj =>
        (h.lpB i lp j hlp (Nat.zero_le _) (by omega)).2.2.2 hj
      -- the block becomes the head of the chain `L` in slot `k`: the current bucket, or an empty new one above it
      have top : ∀ (k : Nat) (nx : Option Hdr) (L : List Hdr), lp.bidx ≤ k → k < P.maxLocal → k ≤ lp.bidx + 1 →
          Seg s.next nx L none → L.length < P.perBucket → L.Nodup → (∀ x, x ∈ L ↔ s.own x = .loc i k) →
          (∀ j, j < k → s.cnt (lp.buckets j) = P.perBucket) →
          Inv P { s with next := upd s.next hd nx, cnt := upd s.cnt hd (L.length + 1),
                         lp := upd s.lp i (some ⟨k, upd lp.buckets k hd⟩),
                         own := upd s.own hd (.loc i k), out := s.out.erase hd } := by
        intro k nx L hk0 hk1 hk2 sL lL ndL mL hfb
        have hnotL : hd ∉ L := fun hm => by have := (mL hd).mp hm; rw [hho] at this; cases this
        refine takeIn_inv (lo' := lo0) h ho (fun _ _ => rfl) rfl hk1 ⟨Nat.zero_le _, Nat.le_refl _⟩ (fun f j _ h2 => ?_)
          fun x j hx => ⟨Nat.zero_le _, Nat.le_trans (h.loc_le hlp hx).2 hk0⟩
        simp only [SlotOK] at h2 ⊢
        by_cases hj : j = k
        · subst hj
          simp only [upd_same]
          refine ⟨⟨hd :: L, ⟨rfl, by rw [upd_same]; exact (seg_frame hnotL).mpr sL⟩, rfl,
            List.nodup_cons.mpr ⟨hnotL, ndL⟩, fun x => ?_⟩, by omega, by omega, fun e => absurd e (Nat.lt_irrefl _)⟩
          by_cases e : x = hd
          · simp [e]
          · rw [upd_other _ _ _ _ e, ← mL x]; simp [e]
        · rw [upd_other _ _ _ _ hj]
          obtain ⟨q1, q2, q3, _⟩ := (h.locOK i).bucket_frame (j := j) f hlp (Nat.zero_le _) (by omega) (by simp [hj])
          exact ⟨q1, q2, q3, fun _ => (upd_other _ _ _ _ (hnothd j (by omega))).trans (hfb j (by omega))⟩
      split at hr
      · rename_i hfull
        have hfullall : ∀ j, j ≤ lp.bidx → s.cnt (lp.buckets j) = P.perBucket := fun j hj => by
          by_cases e : j = lp.bidx
          · exact e ▸ hfull
          · exact hfullbelow j (by omega)
        split at hr
        · -- all local buckets full: bucket 0 goes to the global LIFO, the others move down one slot, the block
          -- starts a new top bucket
          rename_i hmax
          cases hr
          have hd0 := detach_inv (lo := lo0) h hlp (Nat.zero_le _)
          simp only [lo0] at hd0
          obtain ⟨h1, g1⟩ := returnBucket_inv hP (hfullall 0 (Nat.zero_le _) ▸ hd0)
          generalize hs1 : returnBucket { s with own := relabel s.own (.loc i 0) .tmp } (lp.buckets 0) = s1 at *
          have hlp1 : s1.lp i = some lp := hs1 ▸ hlp
          have hout1 : s1.out = s.out := g1.out
          have hho1 : s1.own hd = .out := (h1.outOwn hd).mp (hout1 ▸ ho)
          have hlocle : ∀ x j, s1.own x = .loc i j → 1 ≤ j ∧ j ≤ lp.bidx := fun x j e => by
            simpa using h1.loc_le hlp1 e
          have hshift : ∀ x j, shiftOwn i s1.own x = .loc i j ↔ s1.own x = .loc i (j + 1) :=
            fun x j => shiftOwn_loc fun j' e => (hlocle x j' e).1
          have hfull1 : ∀ j, 1 ≤ j → j ≤ lp.bidx → s1.cnt (lp.buckets j) = P.perBucket := fun j hj1 hj2 => by
            obtain ⟨r1, r2, _⟩ := hd0.lpB i lp j hlp (by rw [upd_same]; exact hj1) hj2
            exact (g1.frame.cnt r1 r2 (by simp)).trans (hfullall j hj2)
          have f : Frame (fun o => o = .out ∨ ∃ j, o = .loc i j) s1
              { s1 with next := upd s1.next hd none, cnt := upd s1.cnt hd 1,
                        lp := upd s1.lp i (some ⟨P.maxLocal - 1, fun j =>
                          if j = P.maxLocal - 1 then hd else if j + 1 < P.maxLocal then lp.buckets (j + 1) else lp.buckets j⟩),
                        own := upd (shiftOwn i s1.own) hd (.loc i (P.maxLocal - 1)),
                        out := s1.out.erase hd } := by
            refine ⟨fun x o ho' => ?_, fun x hx => ?_⟩
            · by_cases hx : x = hd
              · subst hx
                simp only [upd_same, hho1]
                exact ⟨fun e => absurd (.inr ⟨_, e.symm⟩) ho', fun e => absurd (.inl e.symm) ho'⟩
              · simp only [upd_other _ _ _ _ hx]
                exact shiftOwn_other fun j e => ho' (.inr ⟨j, e⟩)
            · have : x ≠ hd := fun e => hx (.inl (e ▸ hho1))
              exact ⟨upd_other _ _ _ _ this, upd_other _ _ _ _ this⟩
          refine ⟨h1.frame_pool (lo' := lo0) f i (by rintro o (rfl | ⟨j, rfl⟩) <;> simp) rfl (fun _ e => upd_other _ _ _ _ e)
            (fun _ e => (upd_other _ _ _ _ e).symm)
            (.of_some (upd_same _ _ _) (Nat.sub_lt hP.maxLocal_pos Nat.one_pos) (fun j _ h2 => ?_) fun x j hx => ?_)
            (h1.tmpOK.frame f (by simp)) ⟨fun x => ?_, hout1 ▸ h.outNd.sublist List.erase_sublist⟩, by rw [← hs1]; rfl,
            hout1 ▸ hout, ho⟩
          · simp only [SlotOK] at h2 ⊢
            by_cases hj : j = P.maxLocal - 1
            · subst hj
              simp only [if_true, upd_same]
              refine ⟨⟨[hd], ⟨rfl, by simp⟩, rfl, by simp, fun x => ?_⟩, Nat.le_refl _, hP.perBucket_pos,
                fun e => absurd e (Nat.lt_irrefl _)⟩
              by_cases hx : x = hd
              · simp [hx]
              · simp only [List.mem_singleton, hx, false_iff, upd_other _ _ _ _ hx, hshift]
                intro e; have := hlocle x _ e; omega
            · have hjlt : j + 1 < P.maxLocal := by omega
              simp only [hj, if_false, hjlt, if_true]
              obtain ⟨q1, q2, _⟩ := h1.lpB i lp (j + 1) hlp1 (by simp) (by omega)
              have hb : lp.buckets (j + 1) ≠ hd := fun e => by
                have := q1.head_own q2; rw [e, hho1] at this; cases this
              rw [upd_other _ _ _ _ hb, hfull1 (j + 1) (by omega) (by omega)] at *
              refine ⟨q1.relabel (fun x hx => upd_other _ _ _ _ fun e => ?_) fun x => ?_, hP.perBucket_pos, Nat.le_refl _,
                fun _ => rfl⟩
              · rw [e, hho1] at hx; cases hx
              · by_cases hx : x = hd
                · subst hx; simp only [upd_same, hho1]
                  exact ⟨fun e => by injection e; omega, nofun⟩
                · rw [upd_other _ _ _ _ hx]; exact hshift x j
          · refine ⟨Nat.zero_le _, ?_⟩
            simp only
            by_cases hxc : x = hd
            · subst hxc; simp only [upd_same] at hx; injection hx; omega
            · simp only [upd_other _ _ _ _ hxc] at hx
              have := hlocle x _ ((hshift x j).mp hx)
              omega
          · rw [hout1, hout]
            by_cases hx : x = hd
            · simp [hx]
            · simp only [ne_eq, hx, not_false_eq_true, true_and, upd_other _ _ _ _ hx]
              rw [shiftOwn_other (by simp), ← h1.outOwn, hout1]
        · -- current bucket full, a bucket slot is free: the block starts a new bucket
          cases hr
          refine ⟨top (lp.bidx + 1) none [] (by omega) (by omega) (Nat.le_refl _) rfl hP.perBucket_pos List.nodup_nil (fun x => ?_)
            fun j hj => hfullall j (by omega), rfl, hout, ho⟩
          exact ⟨nofun, fun e => absurd (h.loc_le hlp e).2 (by omega)⟩
      · -- current bucket not full: the block becomes its new head
        cases hr
        obtain ⟨⟨L, sL, lL, ndL, mL⟩, _, k3, _⟩ := h.lpB i lp lp.bidx hlp (Nat.zero_le _) (Nat.le_refl _)
        exact ⟨lL ▸ top lp.bidx _ L (Nat.le_refl _) hbl (by omega) sL (by omega) ndL mL hfullbelow, rfl, hout, ho⟩
  · cases hr

theorem returnPartial_carved (P : Params) (s : St) (b : Hdr) : (returnPartial P s b).carved = s.carved := by
  unfold returnPartial
  split
  · rfl
  · simp only; split <;> rfl

/-- the loop of `destroy_local_pool`: after `n` iterations buckets `0..n-1` are on the global LIFO -/
theorem retRange_inv {P : Params} (hP : P.OK) {s : St} {i : Nat} {lp : LPool} (h : Inv P s)
    (hlp : s.lp i = some lp) : ∀ n, n ≤ lp.bidx →
      InvG P (retRange s i lp n) none 0 (upd lo0 i n) ∧ (retRange s i lp n).lp = s.lp ∧
      (retRange s i lp n).out = s.out ∧ (retRange s i lp n).carved = s.carved := by
  intro n
  induction n with
  | zero =>
    have : upd lo0 i 0 = lo0 := funext fun k => by by_cases e : k = i <;> simp [upd, e]
    refine fun _ => ⟨?_, rfl, rfl, rfl⟩
    rw [this]; exact h
  | succ n ih =>
    intro hn
    obtain ⟨h1, e1, e2, e3⟩ := ih (by omega)
    have hlp1 : (retRange s i lp n).lp i = some lp := by rw [e1]; exact hlp
    have hd := detach_inv h1 hlp1 (by rw [upd_same]; omega)
    simp only [upd_same, upd_upd] at hd
    rw [(h1.lpB i lp n hlp1 (by simp) (by omega)).2.2.2 (by omega)] at hd
    exact ⟨(returnBucket_inv hP hd).1, e1, e2, e3⟩

/-- **`ABTI_mem_pool_destroy_local_pool`** -/
theorem destroyLocal_inv {P : Params} (hP : P.OK) {s s' : St} {i : Nat} (h : Inv P s)
    (hr : destroyLocal P s i = some s') :
    Inv P s' ∧ s'.out = s.out ∧ s'.carved = s.carved ∧ s'.lp i = none ∧ (∀ k, k ≠ i → s'.lp k = s.lp k) := by
  unfold destroyLocal at hr
  cases hlp : s.lp i with
  | none => rw [hlp] at hr; cases hr
  | some lp =>
    rw [hlp] at hr
    simp only [Option.some.injEq] at hr
    obtain ⟨h1, e1, e2, e3⟩ := retRange_inv hP h hlp lp.bidx (Nat.le_refl _)
    generalize retRange s i lp lp.bidx = s1 at *
    have hlp1 : s1.lp i = some lp := by rw [e1]; exact hlp
    have hd := detach_inv h1 hlp1 (by rw [upd_same]; omega)
    simp only [upd_same, upd_upd] at hd
    -- once the last bucket has gone back no header is labelled with pool `i`: the slot can be cleared
    have key : ∀ s3 : St, InvG P s3 none 0 (upd lo0 i (lp.bidx + 1)) ∧
          GStep { s1 with own := relabel s1.own (.loc i lp.bidx) .tmp } s3 → s3.carved = s1.carved →
        s' = { s3 with lp := upd s3.lp i none } →
        Inv P s' ∧ s'.out = s.out ∧ s'.carved = s.carved ∧ s'.lp i = none ∧ ∀ k, k ≠ i → s'.lp k = s.lp k := by
      rintro s3 ⟨h3, g⟩ a3 rfl
      refine ⟨?_, g.out.trans e2, a3.trans e3, upd_same _ _ _, fun k hk => by simp [upd, hk, g.lp, e1]⟩
      have f : Frame (fun _ => False) s3 { s3 with lp := upd s3.lp i none } :=
        ⟨fun _ _ _ => Iff.rfl, fun _ _ => ⟨rfl, rfl⟩⟩
      refine h3.frame_pool (lo' := lo0) f i nofun rfl (fun _ e => upd_other _ _ _ _ e) (fun _ e => (upd_other _ _ _ _ e).symm)
        ⟨fun lp' e => ?_, fun lp' j e => ?_, fun x j hx => ?_⟩ (h3.tmpOK.frame f id) (h3.outOK.frame f id rfl)
      · exact absurd ((upd_same _ _ _).symm.trans e) nofun
      · exact absurd ((upd_same _ _ _).symm.trans e) nofun
      · obtain ⟨lp', q1, q2, q3⟩ := h3.locOwn x i j hx
        rw [g.lp] at q1; cases hlp1.symm.trans q1
        rw [upd_same] at q2; omega
    split at hr
    · rename_i hfull
      exact key _ (returnBucket_inv hP (hfull ▸ hd)) rfl hr.symm
    · have := (hd.tmpB _ rfl).2.2
      exact key _ (returnPartial_inv hP hd rfl (by omega)) (returnPartial_carved _ _ _) hr.symm

/-! ### the machine -/

theorem init_inv (P : Params) (budget : Nat) : Inv P (init budget) := by
  constructor <;> simp [init] <;> try (constructor <;> simp)

theorem budget_inv {P : Params} {s : St} (n : Nat) (h : Inv P s) : Inv P { s with pagesLeft := n } :=
  ⟨h.lpBidx, h.lpB, h.locOwn, h.lifoB, h.lifoNd, h.lifoOwn, h.partB, h.partOwn, h.tmpB, h.tmpOwn, h.outOwn, h.outNd,
   h.carvedOwn, h.carvedNd, h.geo.congr (fun _ => Iff.rfl) rfl rfl rfl⟩

theorem stepO_inv {P : Params} (hP : P.OK) {s s' : St} {op : Op} {res : Res} (h : Inv P s)
    (hr : stepO P s op = some (s', res)) : Inv P s' := by
  cases op with
    simp only [stepO, Option.map_eq_some_iff, Option.some.injEq, Prod.mk.injEq] at hr
  | initLocal i =>
    obtain ⟨⟨s1, ok⟩, h1, rfl, _⟩ := hr
    cases hlp : s.lp i with
    | none => obtain ⟨r, e, hi⟩ := initLocal_inv hP h hlp; cases e.symm.trans h1; exact hi
    | some lp => simp [initLocal, hlp] at h1
  | alloc i =>
    obtain ⟨⟨s1, r⟩, h1, rfl, _⟩ := hr
    cases hlp : s.lp i with
    | none => simp [alloc, hlp] at h1
    | some lp => obtain ⟨r, e, hi, _⟩ := alloc_inv hP h hlp; cases e.symm.trans h1; exact hi
  | free i hd => obtain ⟨s1, h1, rfl, _⟩ := hr; exact (free_inv hP h h1).1
  | destroyLocal i => obtain ⟨s1, h1, rfl, _⟩ := hr; exact (destroyLocal_inv hP h h1).1
  | budget n => obtain ⟨rfl, _⟩ := hr; exact budget_inv _ h

theorem reachable_inv {P : Params} (hP : P.OK) (budget : Nat) (s : St)
    (hr : (machine P budget).Reachable s) : Inv P s := by
  refine Machine.invariant_reachable (machine P budget) (Inv P) (init_inv P budget) ?_ s hr
  intro s op s' hi hs
  simp only [machine, Option.map_eq_some_iff] at hs
  obtain ⟨⟨s1, res⟩, h1, rfl⟩ := hs
  exact stepO_inv hP hi h1

/-! ### where a header is, read off the real state -/

inductive Place
  | out                   -- handed out (a live descriptor / stack)
  | loc (i j : Nat)       -- `buckets[j]` of local pool `i`
  | lifo (b : Hdr)        -- the bucket on the global `bucket_lifo` whose first header is `b`
  | part                  -- the global `partial_bucket`
deriving DecidableEq

/-- `h` is at place `w`, read off the *real* state: chains are followed along `p_next` for as many
steps as the count stored in the first header says (`per_bucket` steps for a bucket on the LIFO,
whose count field is overwritten by the LIFO link) -/
def At (P : Params) (s : St) : Place → Hdr → Prop
  | .out, h => h ∈ s.out
  | .loc i j, h => ∃ lp, s.lp i = some lp ∧ j ≤ lp.bidx ∧ h ∈ bucketChain s (lp.buckets j)
  | .lifo b, h => b ∈ s.lifo ∧ h ∈ walk s.next P.perBucket (some b)
  | .part, h => ∃ p, s.part = some p ∧ h ∈ bucketChain s p

/-- a chain stores its true length, is NULL-terminated exactly there and visits no header twice -/
def ChainOK (s : St) (b : Hdr) (n : Nat) : Prop :=
  let c := walk s.next n (some b)
  c.length = n ∧ c.Nodup ∧ Seg s.next (some b) c none

def placeOf : Owner → Option Place
  | .out => some .out
  | .loc i j => some (.loc i j)
  | .lifo b => some (.lifo b)
  | .part => some .part
  | _ => none

theorem at_own {P : Params} {s : St} (h : Inv P s) {w : Place} {x : Hdr} (ha : At P s w x) :
    placeOf (s.own x) = some w := by
  cases w with
  | out => rw [(h.outOwn x).mp ha]; rfl
  | loc i j =>
    obtain ⟨lp, h1, h2, h3⟩ := ha
    rw [((h.lpB i lp j h1 (Nat.zero_le _) h2).1.walk.1 x).mp h3]; rfl
  | lifo b => rw [((h.lifoB b ha.1).walk.1 x).mp ha.2]; rfl
  | part =>
    obtain ⟨p, h1, h2⟩ := ha
    rw [((h.partB p h1).1.walk.1 x).mp h2]; rfl

end ArgoVerif.Model.MemPool
