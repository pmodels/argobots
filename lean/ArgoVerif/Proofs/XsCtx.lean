import ArgoVerif.Model.XsCtx
/-
Proofs.XsCtx — the control part of Model.XsCtx is finite.  `reach` lists control states
closed under every event (`closedB_ok`, checked exhaustively by the kernel; `reach_step`), hence an
inductive invariant for runs of *any* length (any number of join / revive cycles, any
number of spurious wake-ups).  Properties of all reachable states are then Boolean checks
over the list.  The unbounded ghost counters are tied to the control bit `owed`.
-/
namespace ArgoVerif.Model.XsCtx

def mk (st : CS) (o : Option Actor) (t : TPc) (c : CPc) (owed : Bool) : Ctl :=
  { st := st, owner := o, tpc := t, cpc := c, owed := owed, fault := false }

/-- computed once with `closure 200 [init.c]` (Model.XsCtx); listed literally so that the
kernel does not redo the search.  Nothing below depends on the list being *exactly* the
reachable set: it contains the initial state and is closed under `cstep`. -/
def reach : List Ctl :=
  [mk .running none .start (.idle false) true,
   mk .running none .run (.idle false) false,
   mk .running none .lock (.idle false) false,
   mk .running none .run .jLock false,
   mk .running (some .T) .chk (.idle false) false,
   mk .running none .lock .jLock false,
   mk .running (some .C) .run .jChk false,
   mk .running (some .T) .set (.idle false) false,
   mk .running (some .T) .chk .jLock false,
   mk .running (some .C) .lock .jChk false,
   mk .running (some .C) .run .jStore false,
   mk .running (some .T) .set .jLock false,
   mk .waiting (some .T) .wait (.idle false) false,
   mk .running (some .C) .lock .jStore false,
   mk .reqJoin (some .C) .run .jWait false,
   mk .waiting (some .T) .wait .jLock false,
   mk .waiting none .blocked (.idle false) false,
   mk .reqJoin (some .C) .lock .jWait false,
   mk .reqJoin none .run .jBlocked false,
   mk .waiting none .blocked .jLock false,
   mk .waiting none .woken (.idle false) false,
   mk .reqJoin none .lock .jBlocked false,
   mk .reqJoin none .run .jWoken false,
   mk .waiting (some .C) .blocked .jChk false,
   mk .waiting none .woken .jLock false,
   mk .waiting (some .T) .loop (.idle false) false,
   mk .reqJoin (some .T) .chk .jBlocked false,
   mk .reqJoin none .lock .jWoken false,
   mk .reqJoin (some .C) .run .jLoop false,
   mk .waiting (some .C) .blocked .jAssert false,
   mk .waiting (some .C) .woken .jChk false,
   mk .waiting (some .T) .loop .jLock false,
   mk .reqJoin (some .T) .chk .jWoken false,
   mk .reqJoin (some .T) .set .jWoken false,
   mk .reqJoin (some .C) .lock .jLoop false,
   mk .waiting (some .C) .blocked .jUnlock false,
   mk .waiting (some .C) .woken .jAssert false,
   mk .waiting (some .T) .wait .jWoken false,
   mk .waiting none .blocked (.idle true) false,
   mk .waiting (some .C) .woken .jUnlock false,
   mk .waiting none .blocked .jWoken false,
   mk .waiting none .woken (.idle true) false,
   mk .waiting none .blocked .rLock false,
   mk .waiting none .blocked .fLock false,
   mk .waiting (some .C) .blocked .jLoop false,
   mk .waiting none .woken .jWoken false,
   mk .waiting (some .T) .loop (.idle true) false,
   mk .waiting none .woken .rLock false,
   mk .waiting none .woken .fLock false,
   mk .waiting (some .C) .blocked .rStore false,
   mk .waiting (some .C) .blocked .fStore false,
   mk .waiting (some .C) .woken .jLoop false,
   mk .waiting (some .T) .loop .jWoken false,
   mk .waiting (some .T) .wait (.idle true) false,
   mk .waiting (some .T) .loop .rLock false,
   mk .waiting (some .T) .loop .fLock false,
   mk .waiting (some .C) .woken .rStore false,
   mk .waiting (some .C) .woken .fStore false,
   mk .running (some .C) .blocked .rSig true,
   mk .reqTerminate (some .C) .blocked .fSig false,
   mk .waiting (some .T) .wait .rLock false,
   mk .waiting (some .T) .wait .fLock false,
   mk .running (some .C) .woken .rSig true,
   mk .reqTerminate (some .C) .woken .fSig false,
   mk .running (some .C) .woken .rUnlock true,
   mk .reqTerminate (some .C) .woken .fUnlock false,
   mk .running none .woken (.idle false) true,
   mk .reqTerminate none .woken .fJoin false,
   mk .running (some .T) .loop (.idle false) true,
   mk .running none .woken .jLock true,
   mk .reqTerminate (some .T) .loop .fJoin false,
   mk .running (some .T) (.unlock true) (.idle false) true,
   mk .running (some .T) .loop .jLock true,
   mk .running (some .C) .woken .jChk true,
   mk .reqTerminate (some .T) (.unlock false) .fJoin false,
   mk .running (some .T) (.unlock true) .jLock true,
   mk .running (some .C) .woken .jStore true,
   mk .reqTerminate none .done .fJoin false,
   mk .reqJoin (some .C) .woken .jWait true,
   mk .reqTerminate none .done .freed false,
   mk .reqJoin none .woken .jBlocked true,
   mk .reqJoin (some .T) .loop .jBlocked true,
   mk .reqJoin none .woken .jWoken true,
   mk .reqJoin (some .T) (.unlock true) .jBlocked true,
   mk .reqJoin (some .T) .loop .jWoken true,
   mk .reqJoin (some .C) .woken .jLoop true,
   mk .reqJoin (some .T) (.unlock true) .jWoken true]

/-- closedness + the ghost-bit discipline of every step out of a listed state -/
def closedB : Bool := reach.all fun c => allEv.all fun e =>
  match cstep c e with
  | some (c', .none) => reach.contains c' && (c'.owed == c.owed)
  | some (c', .run) => reach.contains c' && c.owed && !c'.owed
  | some (c', .revive) => reach.contains c' && !c.owed && c'.owed
  | none => true

theorem closedB_ok : closedB = true := by decide +kernel

theorem allEv_complete : ∀ e : Ev, e ∈ allEv := by
  intro e
  cases e with
  | tau a => cases a <;> decide
  | store a v => cases a <;> cases v <;> decide
  | ret => decide
  | lock a => cases a <;> decide
  | unlock a => cases a <;> decide
  | wait a => cases a <;> decide
  | relock a => cases a <;> decide
  | signal a w => cases a <;> cases w with
    | none => decide
    | some b => cases b <;> decide
  | spur a => cases a <;> decide
  | call op => cases op <;> decide
  | pjoin => decide

theorem reach_init : init.c ∈ reach := by decide

theorem reach_step {c c' : Ctl} {e : Ev} {eff : Eff} (hc : c ∈ reach) (hs : cstep c e = some (c', eff)) :
    c' ∈ reach ∧ (eff = .none → c'.owed = c.owed) ∧ (eff = .run → c.owed = true ∧ c'.owed = false) ∧
      (eff = .revive → c.owed = false ∧ c'.owed = true) := by
  have h := List.all_eq_true.mp (List.all_eq_true.mp closedB_ok c hc) e (allEv_complete e)
  rw [hs] at h
  cases eff <;> simp_all

def Inv (s : St) : Prop := s.c ∈ reach ∧ s.runs + (if s.c.owed then 1 else 0) = s.revives + 1

theorem inv_init : Inv init := ⟨reach_init, by decide⟩

theorem inv_step (s : St) (e : Ev) (s' : St) (hi : Inv s) (hs : step s e = some s') : Inv s' := by
  unfold step at hs
  rcases hc : cstep s.c e with _ | ⟨c', eff⟩ <;> simp only [hc] at hs
  · contradiction
  · obtain ⟨hr, h0, h1, h2⟩ := reach_step hi.1 hc
    have hcnt := hi.2
    cases eff <;> simp only [Option.some.injEq] at hs <;> subst hs <;> refine ⟨hr, ?_⟩ <;> simp only [] <;> grind

theorem step_isSome (s : St) (e : Ev) : (step s e).isSome = (cstep s.c e).isSome := by
  unfold step
  rcases cstep s.c e with _ | ⟨c', eff⟩
  · rfl
  · cases eff <;> rfl

theorem inv_reachable {s : St} (h : machine.Reachable s) : Inv s :=
  Machine.invariant_reachable machine Inv inv_init (fun s e s' hi hs => inv_step s e s' hi hs) s h

/-! ### the checks (each is a kernel evaluation over the whole list) -/

def tInWaitLoop (c : Ctl) : Bool := c.tpc = .wait || c.tpc = .blocked || c.tpc = .woken || c.tpc = .loop

/-- the caller is at a point after a join returned and before the next revive/terminate store -/
def cJoined (c : Ctl) : Bool :=
  c.cpc = .idle true || c.cpc = .jUnlock || c.cpc = .rLock || c.cpc = .rStore || c.cpc = .fLock || c.cpc = .fStore

def chkNoFault (c : Ctl) : Bool := !c.fault
def chkJoined (c : Ctl) : Bool := !cJoined c || (c.st = .waiting && tInWaitLoop c && !c.owed)
/-- T asleep with a state other than WAITING only while the storing caller still holds the
mutex and is about to signal -/
def chkTNoLostWake (c : Ctl) : Bool :=
  !(c.tpc = .blocked && c.st != .waiting) || ((c.cpc = .rSig || c.cpc = .fSig) && c.owner = some .C)
/-- C asleep in join only while T is still on its way to the REQ_JOIN test -/
def chkCNoLostWake (c : Ctl) : Bool :=
  !(c.cpc = .jBlocked) ||
    (c.st = .reqJoin && (c.tpc = .run || c.tpc = .lock || c.tpc = .chk || c.tpc = .woken || c.tpc = .loop ||
      c.tpc = .unlock true))
def chkNotBothBlocked (c : Ctl) : Bool := !(c.tpc = .blocked && c.cpc = .jBlocked)
def tCrit (c : Ctl) : Bool :=
  c.tpc = .chk || c.tpc = .set || c.tpc = .wait || c.tpc = .loop || c.tpc = .unlock true || c.tpc = .unlock false
def cCrit (c : Ctl) : Bool :=
  c.cpc = .jChk || c.cpc = .jStore || c.cpc = .jWait || c.cpc = .jLoop || c.cpc = .jAssert || c.cpc = .jUnlock ||
  c.cpc = .rStore || c.cpc = .rSig || c.cpc = .rUnlock || c.cpc = .fStore || c.cpc = .fSig || c.cpc = .fUnlock
def chkMutex (c : Ctl) : Bool :=
  (tCrit c == (c.owner == some .T)) && (cCrit c == (c.owner == some .C))
def chkFreed (c : Ctl) : Bool :=
  (!(c.cpc = .freed) || c.tpc = .done) && (!(c.tpc = .done) || c.st = .reqTerminate)
/-- while thread_f runs (or is about to), nothing is owed and the state is RUNNING or REQ_JOIN -/
def chkRunning (c : Ctl) : Bool :=
  !(c.tpc = .run) || (!c.owed && (c.st = .running || c.st = .reqJoin))
def isSpurOrCall : Ev → Bool
  | .spur _ => true | .call _ => true | _ => false
def cOutside : CPc → Bool
  | .idle _ => true
  | .freed => true
  | _ => false
/-- whenever the caller is inside join / revive / free, some step other than a spurious
wake-up is enabled (no deadlock, no lost wake-up) -/
def chkProgress (c : Ctl) : Bool :=
  cOutside c.cpc ||
    allEv.any fun e => !isSpurOrCall e && (cstep c e).isSome

theorem chk_all : reach.all (fun c => chkNoFault c && chkJoined c && chkTNoLostWake c && chkCNoLostWake c &&
    chkNotBothBlocked c && chkMutex c && chkFreed c && chkRunning c && chkProgress c) = true := by decide +kernel

theorem reach_chk {c : Ctl} (hc : c ∈ reach) :
    chkNoFault c = true ∧ chkJoined c = true ∧ chkTNoLostWake c = true ∧ chkCNoLostWake c = true ∧
    chkNotBothBlocked c = true ∧ chkMutex c = true ∧ chkFreed c = true ∧ chkRunning c = true ∧ chkProgress c = true := by
  simpa [and_assoc] using List.all_eq_true.mp chk_all c hc

theorem reach_nofault {c : Ctl} (hc : c ∈ reach) : c.fault = false := by
  simpa [chkNoFault] using (reach_chk hc).1

theorem reach_joined {c : Ctl} (hc : c ∈ reach) (hj : cJoined c = true) :
    c.st = .waiting ∧ tInWaitLoop c = true ∧ c.owed = false := by
  simpa [chkJoined, hj, and_assoc] using (reach_chk hc).2.1

theorem reach_running {c : Ctl} (hc : c ∈ reach) (ht : c.tpc = .run) :
    c.owed = false ∧ (c.st = .running ∨ c.st = .reqJoin) := by
  simpa [chkRunning, ht] using (reach_chk hc).2.2.2.2.2.2.2.1

theorem reach_no_lost_wakeup {c : Ctl} (hc : c ∈ reach) :
    (c.tpc = .blocked → c.st ≠ .waiting → (c.cpc = .rSig ∨ c.cpc = .fSig) ∧ c.owner = some .C) ∧
    (c.cpc = .jBlocked → c.st = .reqJoin ∧
        (c.tpc = .run ∨ c.tpc = .lock ∨ c.tpc = .chk ∨ c.tpc = .woken ∨ c.tpc = .loop ∨ c.tpc = .unlock true)) ∧
    ¬ (c.tpc = .blocked ∧ c.cpc = .jBlocked) := by
  obtain ⟨_, _, ha, hb, hn, _⟩ := reach_chk hc
  simp only [chkTNoLostWake, chkCNoLostWake, chkNotBothBlocked] at ha hb hn
  grind

theorem reach_mutex {c : Ctl} (hc : c ∈ reach) :
    (tCrit c = true ↔ c.owner = some .T) ∧ (cCrit c = true ↔ c.owner = some .C) := by
  have h := (reach_chk hc).2.2.2.2.2.1
  simp only [chkMutex, Bool.and_eq_true, beq_iff_eq] at h
  rw [h.1, h.2]
  simp

theorem reach_freed {c : Ctl} (hc : c ∈ reach) :
    (c.cpc = .freed → c.tpc = .done) ∧ (c.tpc = .done → c.st = .reqTerminate) := by
  have h := (reach_chk hc).2.2.2.2.2.2.1
  simp only [chkFreed] at h
  grind

theorem reach_progress {c : Ctl} (hc : c ∈ reach) (hi : ∀ b, c.cpc ≠ .idle b) (hf : c.cpc ≠ .freed) :
    ∃ e, isSpurOrCall e = false ∧ (cstep c e).isSome = true := by
  have h := (reach_chk hc).2.2.2.2.2.2.2.2
  have ho : cOutside c.cpc = false := by
    cases hcp : c.cpc with
    | idle b => exact absurd hcp (hi b)
    | freed => exact absurd hcp hf
    | _ => rfl
  simp only [chkProgress, ho, Bool.false_or, List.any_eq_true, Bool.and_eq_true, Bool.not_eq_true'] at h
  obtain ⟨e, _, he⟩ := h
  exact ⟨e, he⟩

/-- when the caller, holding the mutex, is about to store RUNNING (revive) or REQ_TERMINATE (free), the state is WAITING
and the thread sleeps in, or is re-acquiring the mutex after, pthread_cond_wait -/
theorem reach_store {c : Ctl} (hc : c ∈ reach) (h : c.cpc = .rStore ∨ c.cpc = .fStore) :
    c.st = .waiting ∧ c.owner = some .C ∧ (c.tpc = .blocked ∨ c.tpc = .woken) ∧ c.owed = false := by
  have hj := reach_joined hc (by rcases h with h | h <;> simp [cJoined, h])
  have hm := reach_mutex hc
  have ho : c.owner = some .C := hm.2.mp (by rcases h with h | h <;> simp [cCrit, h])
  -- the thread cannot be inside its own critical section while the caller owns the mutex
  have ht : tCrit c = false := by
    cases hh : tCrit c
    · rfl
    · rw [hm.1.mp hh] at ho; cases ho
  have hw := hj.2.1
  simp only [tInWaitLoop, tCrit] at hw ht
  grind

end ArgoVerif.Model.XsCtx
