import ArgoVerif.Proofs.PopWait
/- Proofs.PopWaitTime — what each call in progress knows at each of its program points (clock reads, sleeps, own steps,
the ghost flags), as one assertion per program counter; all invariants of the blocking-pop model together. -/
namespace ArgoVerif.Model.PopWait
open ArgoVerif

/-- positions inside `thread_queue_acquire_spinlock_if_not_empty` + pop + release -/
def LoopA : Pc → Prop
  | .aTop | .aTry | .aSpinE | .aSpinL | .aCs | .aRel => True
  | _ => False

/-- position index of a FIFO_WAIT blocking pop (its own steps so far are bounded by it) -/
def fwIdx : Pc → Option Nat
  | .fwLock => some 0 | .fwCheck => some 1 | .fwClock => some 2 | .fwWait => some 3 | .fwSleep => some 4
  | .fwRelock => some 5 | .fwCs => some 6 | .fwUnl => some 7 | .retp => some 8
  | _ => none

/-- the call is `pop_wait` or `pop_timedwait` -/
def Blocking (cur : Call) : Prop := (∀ u, cur ≠ .push u) ∧ ∀ tl, cur ≠ .pop tl

/-- loop invariant of the two sleep-poll loops: one clock read per iteration, iterations 100 ns apart, the budget not
yet exceeded at the latest read; `lo` is a time the clock is known to reach (`now`, or the end of the running sleep) -/
def Polling (cur : Call) (start : Option Nat) (reads base lo : Nat) : Prop :=
  (∀ t tl, cur = .popWait t tl → 100 * reads ≤ t + 100 ∧ (start = none → reads = 0) ∧
      ∀ s0, start = some s0 → 1 ≤ reads ∧ s0 + 100 * reads ≤ lo) ∧
  (∀ abs, cur = .popTimedwait abs → 100 * reads ≤ abs - base ∧ base + 100 * reads ≤ lo)

/-- the assertion at each program point of one actor's call in progress (all values are that actor's; `now` is the
global clock).  A call that has never seen the pool non-empty (`saw = false`) makes three own steps per iteration. -/
def TimeOk (k : Kind) (now : Nat) (pc : Pc) (cur : Call) (got : Option Nat) (start : Option Nat)
    (wake reads steps : Nat) (saw ep : Bool) (lastRead base : Nat) : Prop :=
  match pc with
  | .idle => got = none
  | .retp =>
    ((∀ u, cur ≠ .push u) → got = none → ep = true) ∧
    (k = .poll → (got ≠ none → saw = true) ∧
      (∀ t tl, cur = .popWait t tl → (got = none → ∃ s0, start = some s0 ∧ s0 + t < lastRead) ∧ 100 * reads ≤ t + 200 ∧
        (saw = false → steps + 1 = 3 * reads)) ∧
      (∀ abs, cur = .popTimedwait abs → (got = none → abs < lastRead) ∧ 100 * reads ≤ (abs - base) + 100)) ∧
    (k = .fwait → Blocking cur → steps ≤ 8)
  | .psAcq | .psSpin | .psCs | .psRel | .fpLock | .fpCs | .fpSig | .fpUnl => got = none ∧ ∃ u, cur = .push u
  | .fnCheck | .fnLock | .fnCs => got = none ∧ ∃ tl, cur = .pop tl
  | .fnUnl => (got = none → ep = true) ∧ ∃ tl, cur = .pop tl
  | .aTop => got = none ∧ Polling cur start reads base now ∧ (∀ t tl, cur = .popWait t tl → saw = false → steps = 3 * reads)
  | .aTry | .aSpinE | .aSpinL | .aCs => got = none ∧ saw = true ∧ Polling cur start reads base now
  | .aRel => (got = none → ep = true) ∧ saw = true ∧ Polling cur start reads base now
  | .wTime => got = none ∧ ep = true ∧ (∃ t tl, cur = .popWait t tl) ∧ Polling cur start reads base now ∧
      (saw = false → steps = 3 * reads + 1)
  | .wSleep => got = none ∧ (∃ t tl, cur = .popWait t tl) ∧ Polling cur start reads base wake ∧
      (saw = false → steps + 1 = 3 * reads)
  | .tSleep => got = none ∧ ep = true ∧ ∃ abs, cur = .popTimedwait abs ∧ 100 * reads ≤ abs - base ∧ base + 100 * (reads + 1) ≤ wake
  | .tTime => got = none ∧ ep = true ∧ ∃ abs, cur = .popTimedwait abs ∧ 100 * reads ≤ abs - base ∧ base + 100 * (reads + 1) ≤ now
  | .fwLock => got = none ∧ Blocking cur ∧ steps ≤ 0
  | .fwCheck => got = none ∧ Blocking cur ∧ steps ≤ 1
  | .fwClock => got = none ∧ (∃ t tl, cur = .popWait t tl) ∧ steps ≤ 2
  | .fwWait => got = none ∧ Blocking cur ∧ steps ≤ 3 ∧ (∀ t tl, cur = .popWait t tl → wake = lastRead + t) ∧
      (∀ abs, cur = .popTimedwait abs → wake ≤ abs)
  | .fwSleep => got = none ∧ Blocking cur ∧ steps ≤ 4 ∧ (∀ t tl, cur = .popWait t tl → wake ≤ lastRead + t) ∧
      (∀ abs, cur = .popTimedwait abs → wake ≤ abs)
  | .fwRelock => got = none ∧ Blocking cur ∧ steps ≤ 5
  | .fwCs => got = none ∧ Blocking cur ∧ steps ≤ 6
  | .fwUnl => (got = none → ep = true) ∧ Blocking cur ∧ steps ≤ 7

def InvC (k : Kind) (s : St) : Prop :=
  ∀ a, TimeOk k s.now (s.pc a) (s.cur a) (s.got a) (s.start a) (s.wake a) (s.reads a) (s.steps a) (s.sawItems a)
    (s.emptyAtPoll a) (s.lastRead a) (s.base a)

theorem pollPc_table :
    PollPc .psAcq ∧ PollPc .psSpin ∧ PollPc .psCs ∧ PollPc .psRel ∧ PollPc .aTop ∧ PollPc .aTry ∧ PollPc .aSpinE ∧
    PollPc .aSpinL ∧ PollPc .aCs ∧ PollPc .aRel ∧ PollPc .wTime ∧ PollPc .wSleep ∧ PollPc .tSleep ∧ PollPc .tTime := by
  simp [PollPc]

theorem fwPc_table :
    FwPc .fpLock ∧ FwPc .fpCs ∧ FwPc .fpSig ∧ FwPc .fpUnl ∧ FwPc .fnCheck ∧ FwPc .fnLock ∧ FwPc .fnCs ∧ FwPc .fnUnl ∧
    FwPc .fwLock ∧ FwPc .fwCheck ∧ FwPc .fwClock ∧ FwPc .fwWait ∧ FwPc .fwSleep ∧ FwPc .fwRelock ∧ FwPc .fwCs ∧ FwPc .fwUnl := by
  simp [FwPc]

theorem InvC.at {k : Kind} {s : St} (h : InvC k s) {a : Actor} {p : Pc} (hp : s.pc a = p) :
    TimeOk k s.now p (s.cur a) (s.got a) (s.start a) (s.wake a) (s.reads a) (s.steps a) (s.sawItems a)
      (s.emptyAtPoll a) (s.lastRead a) (s.base a) := hp ▸ h a

theorem polling_mono {cur start reads base lo lo'} (h : Polling cur start reads base lo) (hle : lo ≤ lo') :
    Polling cur start reads base lo' := by
  refine ⟨fun t tl hc => ?_, fun abs hc => ?_⟩
  · obtain ⟨x1, x2, x3⟩ := h.1 t tl hc
    exact ⟨x1, x2, fun s0 hs0 => ⟨(x3 s0 hs0).1, Nat.le_trans (x3 s0 hs0).2 hle⟩⟩
  · exact ⟨(h.2 abs hc).1, Nat.le_trans (h.2 abs hc).2 hle⟩

theorem timeOk_mono {k : Kind} {now now' : Nat} {pc cur got start wake reads steps saw ep lastRead base}
    (h : TimeOk k now pc cur got start wake reads steps saw ep lastRead base) (hle : now ≤ now') :
    TimeOk k now' pc cur got start wake reads steps saw ep lastRead base := by
  -- `now` occurs only in the assertions of the sleep-poll loops
  cases pc with
  | aTop | aTry | aSpinE | aSpinL | aCs | aRel | wTime | tTime => simp only [TimeOk] at h ⊢; grind [polling_mono]
  | _ => exact h

theorem timeOk_polling {k : Kind} {now : Nat} {pc cur got start wake reads steps saw ep lastRead base}
    (h : TimeOk k now pc cur got start wake reads steps saw ep lastRead base)
    (hp : LoopA pc ∨ pc = .wTime ∨ pc = .wSleep ∨ pc = .tSleep ∨ pc = .tTime) : (∀ t tl, cur = .popWait t tl → 100 * reads ≤ t + 100) ∧ (∀ abs, cur = .popTimedwait abs → 100 * reads ≤ abs - base) := by
  cases pc with
  | aTop | aTry | aSpinE | aSpinL | aCs | aRel | wTime | wSleep | tSleep | tTime => simp only [TimeOk] at h; grind [Polling]
  | _ => simp [LoopA] at hp

theorem timeOk_got {k : Kind} {now : Nat} {pc cur got start wake reads steps saw ep lastRead base}
    (h : TimeOk k now pc cur got start wake reads steps saw ep lastRead base) {u : Nat} (hg : got = some u) :
    pc = .aRel ∨ pc = .fnUnl ∨ pc = .fwUnl ∨ pc = .retp := by
  subst hg
  cases pc <;> simp <;> simp [TimeOk] at h

/-- a `pop_wait(t)` of a polling pool that has never seen the pool non-empty is inside the three-step iteration and never took a unit -/
theorem timeOk_never_saw {now : Nat} {pc cur got start wake reads steps saw ep lastRead base} {t : Nat} {tl : Bool}
    (h : TimeOk .poll now pc cur got start wake reads steps saw ep lastRead base) (hk : ¬ FwPc pc)
    (hc : cur = .popWait t tl) (hs : saw = false) (hp : pc ≠ .idle) :
    (pc = .aTop ∨ pc = .wTime ∨ pc = .wSleep ∨ pc = .retp) ∧ steps ≤ 3 * reads + 1 ∧ steps ≤ 3 * (t / 100 + 2) ∧
      (pc = .retp → got = none) := by
  have := fwPc_table
  cases pc <;> simp only [TimeOk] at h <;> grind [Polling]

theorem timeOk_fw_steps {now : Nat} {pc cur got start wake reads steps saw ep lastRead base}
    (h : TimeOk .fwait now pc cur got start wake reads steps saw ep lastRead base) (hb : Blocking cur) {n : Nat}
    (hn : fwIdx pc = some n) : steps ≤ n ∧ n ≤ 8 := by
  cases pc <;> simp only [fwIdx, reduceCtorEq] at hn <;> simp only [TimeOk] at h <;> grind

/-- a pop that returns empty-handed saw the pool empty at its latest look -/
theorem timeOk_ret_empty {k : Kind} {now : Nat} {cur got start wake reads steps saw ep lastRead base}
    (h : TimeOk k now .retp cur got start wake reads steps saw ep lastRead base) (hn : ∀ u, cur ≠ .push u)
    (hg : got = none) : ep = true :=
  h.1 hn hg

/-- a `pop_wait(t)` of a polling pool at its return: empty-handed only after a clock read beyond its budget, and at most
one more clock read than the loop invariant allows -/
theorem timeOk_ret_popWait {now : Nat} {cur got start wake reads steps saw ep lastRead base} {t : Nat} {tl : Bool}
    (h : TimeOk .poll now .retp cur got start wake reads steps saw ep lastRead base) (hc : cur = .popWait t tl) :
    (got = none → ∃ s0, start = some s0 ∧ s0 + t < lastRead) ∧ 100 * reads ≤ t + 200 :=
  ⟨((h.2.1 rfl).2.1 t tl hc).1, ((h.2.1 rfl).2.1 t tl hc).2.1⟩

theorem timeOk_ret_popTimedwait {now : Nat} {cur got start wake reads steps saw ep lastRead base} {abs : Nat}
    (h : TimeOk .poll now .retp cur got start wake reads steps saw ep lastRead base) (hc : cur = .popTimedwait abs) :
    (got = none → abs < lastRead) ∧ 100 * reads ≤ (abs - base) + 100 :=
  (h.2.1 rfl).2.2 abs hc

theorem timeOk_fwSleep {k : Kind} {now : Nat} {cur got start wake reads steps saw ep lastRead base}
    (h : TimeOk k now .fwSleep cur got start wake reads steps saw ep lastRead base) :
    (∀ t tl, cur = .popWait t tl → wake ≤ lastRead + t) ∧ (∀ abs, cur = .popTimedwait abs → wake ≤ abs) :=
  h.2.2.2

theorem invC_init (k : Kind) : InvC k init := by
  intro a; simp [init, TimeOk]

/-- the acting actor: its assertion at the new program counter from the one at the old counter (`h`), the step's guard
and the old counter being on the pool kind's side (`p`, `f`); `grind` finds all of these in the context, the arguments
only say which hypotheses are meant -/
macro "tk" h:ident p:ident f:ident : tactic => `(tactic|
  (have := pollPc_table; have := fwPc_table; grind [TimeOk, Polling, Blocking]))

/-- the other actors: nothing of theirs changed, the clock did not go back -/
macro "other" h:ident b:ident hb:ident : tactic => `(tactic|
  (have hb0 := $h $b
   simp only [bump, setPc, takeL, dropL, linkQ, upd, $hb:ident, if_false] at hb0 ⊢
   first | exact hb0 | exact timeOk_mono hb0 (by simp_all <;> omega)))

macro "acting" hA:ident h:ident a:ident : tactic => `(tactic|
  (have hb0 := $h $a
   have hkP := fun e => ($hA).kindP e $a
   have hkF := fun e => ($hA).kindF e $a
   simp only [bump, setPc, takeL, dropL, linkQ, upd, if_true] at hb0 ⊢
   tk hb0 hkP hkF))

/-- after the case analysis of a step function: conclude for every actor -/
macro "pointwise" hA:ident h:ident a:ident hs:ident : tactic => `(tactic|
  first
  | (cases $hs:ident; done)
  | (cases $hs:ident
     intro b
     by_cases hb : b = $a
     · subst hb; acting $hA $h b
     · other $h b hb))

theorem invC_call (k : Kind) (s s' : St) (a : Actor) (c : Call) (hA : InvA k s) (h : InvC k s) (hs : stepCall k s a c = some s') :
    InvC k s' := by
  unfold stepCall at hs
  split at hs
  · cases hs
  · cases hs
    intro b
    by_cases hb : b = a
    · subst hb
      cases k <;> cases c <;> acting hA h b
    · other h b hb

theorem invC_advance (k : Kind) (s s' : St) (v : Nat) (h : InvC k s) (hs : stepAdvance s v = some s') : InvC k s' := by
  unfold stepAdvance at hs
  split at hs
  · cases hs
  · rename_i hv; cases hs
    intro b; exact timeOk_mono (h b) (Nat.le_of_not_lt hv)

theorem invC_loadEmpty (k : Kind) (s s' : St) (a : Actor) (v : Bool) (hA : InvA k s) (h : InvC k s)
    (hs : stepLoadEmpty s a v = some s') : InvC k (bump s' (some a)) := by
  unfold stepLoadEmpty at hs
  split at hs
  · cases hs
  · rename_i hv
    -- a load of `is_empty = 1` happens while the queue is empty
    have hq : v = true → s.q = [] := fun e => hA.flagIff.mp (by simpa [e] using hv)
    cases v
    · simp only [Bool.false_eq_true, if_false] at hs
      (repeat' (split at hs)) <;> pointwise hA h a hs
    · simp only [if_true, hq rfl, decide_true, afterEmpty] at hs
      (repeat' (split at hs)) <;> pointwise hA h a hs

theorem invC_take (k : Kind) (s s' : St) (a : Actor) (r : Option Nat) (hA : InvA k s) (h : InvC k s) (hs : stepTake s a r = some s') :
    InvC k (bump s' (some a)) := by
  obtain ⟨p, hp, hcase⟩ := take_cases s s' a r hs
  rcases hcase with ⟨_, _, rfl⟩ | ⟨x, rest, _, _, rfl⟩ <;>
    (intro b
     by_cases hb : b = a
     · subst hb
       rcases hp with ⟨e, rfl⟩ | ⟨e, rfl⟩ | ⟨e, rfl⟩ <;> acting hA h b
     · other h b hb)

theorem invC_signal (k : Kind) (s s' : St) (a : Actor) (w : Option Actor) (hA : InvA k s) (h : InvC k s)
    (hs : stepSignal s a w = some s') : InvC k (bump s' (some a)) := by
  unfold stepSignal at hs
  split at hs
  · cases hs
  · rename_i hpc
    have hpc : s.pc a = .fpSig := by simpa using hpc
    split at hs
    · split at hs <;> pointwise hA h a hs
    · rename_i w
      split at hs
      · rename_i hw
        -- the signalled sleeper is moved by the signaller: it is another actor, and this is not a step of its own
        have hpw : s.pc w = .fwSleep := (hA.waitIff w).mp hw
        have hwa : w ≠ a := fun e => by subst e; rw [hpc] at hpw; cases hpw
        cases hs
        intro b
        have hb0 := h b
        by_cases hb : b = a
        · subst hb
          simp only [bump, setPc, upd, if_true, hwa.symm, if_false] at hb0 ⊢
          grind [TimeOk]
        · by_cases hbw : b = w
          · subst hbw
            simp only [bump, setPc, upd, hb, if_false, if_true] at hb0 ⊢
            grind [TimeOk]
          · simp only [bump, setPc, upd, hb, hbw, if_false] at hb0 ⊢
            exact hb0
      · cases hs

theorem invC_step (k : Kind) (s s' : St) (e : Ev) (hA : InvA k s) (h : InvC k s) (hs : step k s e = some s') : InvC k s' := by
  obtain ⟨s1, h0, rfl⟩ := step_some hs
  cases e with
  | call a c => exact invC_call k s s1 a c hA h h0
  | advance v => exact invC_advance k s s1 v h h0
  | loadEmpty a v => exact invC_loadEmpty k s s1 a v hA h h0
  | take a r => exact invC_take k s s1 a r hA h h0
  | signal a w => exact invC_signal k s s1 a w hA h h0
  -- the other step functions are nests of tests, each branch a write by `a` alone
  | tas a o | loadLock a o =>
    simp only [step0, actorOf, stepTas, stepLoadLock] at h0 ⊢
    cases o <;> (repeat' (split at h0)) <;> pointwise hA h a h0
  | ret a v | clock a v | condWait a v =>
    simp only [step0, actorOf, stepRet, stepClock, stepCondWait] at h0 ⊢
    (repeat' (split at h0)) <;> pointwise hA h a h0
  | clear a | link a | sleepDone a | mlock a | munlock a | timeout a | spurious a =>
    simp only [step0, actorOf, stepClear, afterEmpty, stepLink, stepSleepDone, stepMlock, stepMunlock, stepTimeout,
      stepSpurious] at h0 ⊢
    (repeat' (split at h0)) <;> pointwise hA h a h0

structure Inv (k : Kind) (s : St) : Prop where
  ctl : InvA k s
  balance : InvB s
  time : InvC k s
  signals : InvF s

theorem inv_reachable (k : Kind) (s : St) (h : (machine k).Reachable s) : Inv k s := by
  have := Machine.invariant_reachable (machine k) (fun s => InvS k s ∧ InvC k s) ⟨invS_init k, invC_init k⟩
    (fun s e s' hi hs => ⟨invS_step hi.1 hs, invC_step k s s' e hi.1.1 hi.2 hs⟩) s h
  exact ⟨this.1.1, this.1.2.1, this.2, this.1.2.2⟩

end ArgoVerif.Model.PopWait
