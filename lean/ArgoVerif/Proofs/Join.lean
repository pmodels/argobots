import ArgoVerif.Model.Join
/- Proofs.Join — inductive invariant of the join hand-shake. -/
namespace ArgoVerif.Model.Join
open ArgoVerif

/-- the joiner is suspended with `p_link` published: a ULT that stored BLOCKED, or another thread asleep on its futex -/
def JSusp : JPc → Prop | .blocked | .xsleep => True | _ => False
/-- the joiner's `fetch_or` found the JOIN bit clear and its store of `p_link` is still to come -/
def JPublishing : JPc → Prop | .blk | .lnk | .xlnk => True | _ => False
/-- the target has neither resumed a joiner nor learnt from its own `fetch_or` that there is none -/
def TBefore : TPc → Prop | .run | .ldl | .fo | .spin | .res => True | _ => False

structure Inv (s : St) : Prop where
  wonExcl : ¬ (s.jWon = true ∧ s.tWon = true)
  reqIff : s.reqJoin = true ↔ (s.jWon = true ∨ s.tWon = true)
  publishing : JPublishing s.jpc → (s.jWon = true ∧ s.link = false ∧ s.resumes = 0 ∧ TBefore s.tpc ∧ s.tpc ≠ .res)
  suspended : JSusp s.jpc → (s.jWon = true ∧ s.link = true ∧ s.jBlocked = true ∧ s.resumes = 0 ∧ TBefore s.tpc)
  linkWon : s.link = true → s.jWon = true
  resFound : s.tpc = .res → (s.link = true ∧ JSusp s.jpc)
  resumesLe : s.resumes ≤ 1
  resumedAfter : s.resumes = 1 → (s.jWon = true ∧ (s.tpc = .term ∨ s.tpc = .done) ∧ ¬ JSusp s.jpc ∧ ¬ JPublishing s.jpc)
  doneTerm : s.jpc = .done → s.term = true
  termIff : s.term = true ↔ s.tpc = .done
  tWonNoBlock : s.tWon = true → (¬ JSusp s.jpc ∧ ¬ JPublishing s.jpc ∧ s.link = false)
  termAfterWon : (s.tpc = .term ∨ s.tpc = .done) → s.jWon = true → s.resumes = 1
  blkFlag : s.jpc = .lnk → s.jBlocked = true
  spinWon : s.tpc = .spin → s.jWon = true
  notStarted : (s.jpc = .idle ∨ s.jpc = .chk ∨ s.jpc = .fo ∨ s.jpc = .xfo) → s.term = false → s.jWon = false
  tPastReq : s.reqJoin = false → (s.tpc = .run ∨ s.tpc = .ldl ∨ s.tpc = .fo)
  tBeforeResumes : TBefore s.tpc → s.resumes = 0
  linkSusp : s.link = true → s.resumes = 0 → JSusp s.jpc
  tNotWon : (s.tpc = .run ∨ s.tpc = .ldl ∨ s.tpc = .fo) → s.tWon = false
  pastWon : (s.jpc = .ylp ∨ s.jpc = .xbusy ∨ s.jpc = .done) → s.jWon = true → s.resumes = 1

theorem inv_init : Inv init := by
  constructor <;> simp [init, JSusp, JPublishing, TBefore]

theorem jSusp_iff (c : JPc) : JSusp c ↔ c = .blocked ∨ c = .xsleep := by cases c <;> simp [JSusp]
theorem jPublishing_iff (c : JPc) : JPublishing c ↔ c = .blk ∨ c = .lnk ∨ c = .xlnk := by cases c <;> simp [JPublishing]
theorem tBefore_iff (c : TPc) : TBefore c ↔ c ≠ .term ∧ c ≠ .done := by cases c <;> simp [TBefore]

theorem inv_step (s s' : St) (e : Ev) (h : Inv s) (hs : step s e = some s') : Inv s' := by
  cases h
  cases e <;> simp only [step] at hs <;> (repeat' (split at hs)) <;>
    (first
     | (cases hs; done)
     | (cases hs; grind [Inv.mk, jSusp_iff, jPublishing_iff, tBefore_iff]))

/-- a target that spins on `p_link` (it found the JOIN bit set) waits for a joiner that won the `fetch_or` and has
stored the link or is on the straight line to that store -/
theorem Inv.spin_committed {s : St} (hi : Inv s) (hs : s.tpc = .spin) :
    s.link = true ∨ s.jpc = .blk ∨ s.jpc = .lnk ∨ s.jpc = .xlnk := by
  have hw := hi.spinWon hs
  have hr := hi.tBeforeResumes (by simp [TBefore, hs])
  have hn := hi.notStarted
  have hp := hi.pastWon
  have ht := hi.termIff
  have hsus := hi.suspended
  cases hj : s.jpc <;> simp_all [JSusp]

theorem inv_reachable (s : St) (h : machine.Reachable s) : Inv s :=
  Machine.invariant_reachable machine Inv inv_init (fun s e s' hi hs => inv_step s s' e hi hs) s h

end ArgoVerif.Model.Join
