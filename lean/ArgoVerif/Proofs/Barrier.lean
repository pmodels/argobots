import ArgoVerif.Model.Barrier
/-
Proofs.Barrier — inductive invariant of the barrier model (one lemma per step function), and the invariant of the
xstream-barrier model.
-/
namespace ArgoVerif.Model.Barrier
open ArgoVerif

/-- program counters at which the actor holds `p_barrier->lock` -/
def HoldsLock : Pc → Prop
  | .csWait | .csEnq | .reW | .reR | .csLast => True
  | _ => False

def InQ : Pc → Prop
  | .csEnq | .waiting | .reW => True
  | _ => False

/-- program counters of an actor that has been released from its round (it may return) -/
def Released : Pc → Prop
  | .woken | .reR | .done => True
  | _ => False

structure Inv (s : St) : Prop where
  nwPos : 0 < s.nw
  lockIff : ∀ a, s.lock = some a ↔ HoldsLock (s.pc a)
  cntFree : s.lock = none → s.counter = s.q.length ∧ s.counter < s.nw
  cntWait : ∀ a, s.pc a = .csWait → s.counter = s.q.length + 1 ∧ s.counter < s.nw
  cntIn : ∀ a, (s.pc a = .csEnq ∨ s.pc a = .reW ∨ s.pc a = .reR) → s.counter = s.q.length ∧ s.counter < s.nw
  cntLast : ∀ a, s.pc a = .csLast → s.counter = s.nw
  nodup : s.q.Nodup
  inQ : ∀ a, a ∈ s.q ↔ InQ (s.pc a)
  qRound : ∀ a, a ∈ s.q → s.roundOf a = s.round
  taskPc : ∀ a, s.kind a = .task → (s.pc a = .idle ∨ s.pc a = .rejected)
  ultPc : ∀ a, s.kind a = .ult → (s.pc a ≠ .reW ∧ s.pc a ≠ .reR)
  entNow : s.entered s.round = s.counter
  entFut : ∀ k, s.round < k → s.entered k = 0
  needNow : 0 < s.counter → s.need s.round = s.nw
  past : ∀ k, k < s.round → (s.entered k = s.need k ∧ 0 < s.need k)
  relRound : ∀ a, Released (s.pc a) → (s.roundOf a < s.round ∨ (s.roundOf a = s.round ∧ s.counter = s.nw))
  csRound : ∀ a, (s.pc a = .csWait ∨ s.pc a = .csLast) → s.roundOf a = s.round
  sampLe : ∀ a, s.samp a ≤ s.fval
  wnyCS : s.wny = true → (s.lock ≠ none ∧ ∀ b, s.lock = some b → s.pc b = .csLast)
  wokenLt : ∀ a, s.kind a ≠ .ult → (s.pc a = .woken ∨ s.pc a = .reR) → (s.samp a < s.fval ∨ s.wny = true)

theorem inv_init (k : Actor → Kind) (n : Nat) (hn : 0 < n) : Inv (init k n) := by
  constructor <;> simp [init, HoldsLock, InQ, Released, hn]

theorem Inv.holder_unique {s : St} (hi : Inv s) {a b : Actor} (ha : HoldsLock (s.pc a)) (hb : HoldsLock (s.pc b)) : a = b :=
  Option.some.inj (((hi.lockIff a).mpr ha).symm.trans ((hi.lockIff b).mpr hb))

def Global (s : St) : Prop :=
  0 < s.nw ∧ (s.lock = none → s.counter = s.q.length ∧ s.counter < s.nw) ∧ s.q.Nodup ∧
  s.entered s.round = s.counter ∧ (∀ k, s.round < k → s.entered k = 0) ∧ (0 < s.counter → s.need s.round = s.nw) ∧
  (∀ k, k < s.round → (s.entered k = s.need k ∧ 0 < s.need k)) ∧ (s.wny = true → s.lock ≠ none)

def Local (s : St) (a : Actor) (p : Pc) : Prop :=
  (s.lock = some a ↔ HoldsLock p) ∧ (p = .csWait → s.counter = s.q.length + 1 ∧ s.counter < s.nw) ∧
  (p = .csEnq ∨ p = .reW ∨ p = .reR → s.counter = s.q.length ∧ s.counter < s.nw) ∧ (p = .csLast → s.counter = s.nw) ∧
  (a ∈ s.q ↔ InQ p) ∧ (a ∈ s.q → s.roundOf a = s.round) ∧ (s.kind a = .task → p = .idle ∨ p = .rejected) ∧
  (s.kind a = .ult → p ≠ .reW ∧ p ≠ .reR) ∧
  (Released p → s.roundOf a < s.round ∨ (s.roundOf a = s.round ∧ s.counter = s.nw)) ∧
  (p = .csWait ∨ p = .csLast → s.roundOf a = s.round) ∧ s.samp a ≤ s.fval ∧
  (s.wny = true → s.lock = some a → p = .csLast) ∧
  (s.kind a ≠ .ult → p = .woken ∨ p = .reR → s.samp a < s.fval ∨ s.wny = true)

macro "inv_tac" h:ident : tactic => `(tactic|
  (cases $h:ident; first | assumption | grind [upd, Global, Local]))

macro "close_tac" h:ident hs:ident : tactic => `(tactic|
  first
  | (cases $hs:ident; done)
  | (cases $hs:ident; constructor <;> inv_tac $h))

theorem inv_iff (s : St) : Inv s ↔ Global s ∧ ∀ a, Local s a (s.pc a) := by
  constructor
  · exact fun h => ⟨by inv_tac h, fun a => by inv_tac h⟩
  · intro ⟨⟨_, _, _, _, _, _, _, _⟩, l⟩
    constructor <;> first | assumption | (intro a; have := l a; grind [Local]) | grind [Local]

theorem inv_move {s s' : St} {a : Actor} {p : Pc} (h : Inv s) (hpc : s'.pc = upd s.pc a p)
    (hs : Global s → Local s a (s.pc a) →
      Global s' ∧ Local s' a p ∧ ∀ b, b ≠ a → Local s b (s.pc b) → Local s' b (s.pc b)) : Inv s' :=
  inv_of_move inv_iff h hpc hs

/-- `grind` is not given the definition of `HoldsLock`; with this table in the context it sees that another actor at one of
these program counters would hold the lock that the acting actor holds or takes -/
theorem holdsLock_cs : HoldsLock .csWait ∧ HoldsLock .csEnq ∧ HoldsLock .reW ∧ HoldsLock .reR ∧ HoldsLock .csLast :=
  ⟨trivial, trivial, trivial, trivial, trivial⟩

theorem inv_setPc {s : St} {a : Actor} {p : Pc} (h : Inv s) (hl : Global s → Local s a (s.pc a) → Local s a p) :
    Inv (setPc s a p) :=
  inv_move h rfl fun g l => ⟨g, hl g l, fun _ _ lb => lb⟩

theorem inv_same {s s' : St} (h : Inv s) (hpc : s'.pc = s.pc)
    (hs : Global s → Global s' ∧ ∀ b, Local s b (s.pc b) → Local s' b (s.pc b)) : Inv s' := by
  rw [inv_iff] at h ⊢
  exact ⟨(hs h.1).1, fun b => hpc ▸ (hs h.1).2 b (h.2 b)⟩

theorem inv_stepCall (s s' : St) (a : Actor) (h : Inv s) (hs : stepCall s a = some s') : Inv s' := by
  unfold stepCall at hs
  split at hs <;> cases hs
  refine inv_setPc h ?_
  split <;> simp_all [Global, Local, HoldsLock, InQ, Released] <;> grind

theorem inv_stepRet (s s' : St) (a : Actor) (rc : Rc) (h : Inv s) (hs : stepRet s a rc = some s') : Inv s' := by
  unfold stepRet at hs
  split at hs <;> cases hs <;> refine inv_setPc h ?_ <;>
    simp_all [Global, Local, HoldsLock, InQ, Released] <;> grind

theorem inv_lock {s : St} {a : Actor} {p : Pc} (h : Inv s) (hf : s.lock = none)
    (hl : Global s → Local s a (s.pc a) → Local { s with lock := some a } a p) :
    Inv (setPc { s with lock := some a } a p) :=
  inv_move h rfl fun g l =>
    ⟨by simp only [Global, setPc] at g ⊢; grind, hl g l, fun b hb lb => by simp only [Local, setPc] at lb ⊢; grind⟩

theorem acq_f_free (s s' : St) (a : Actor) (hs : stepAcq s a false = some s') : s.lock = none := by
  unfold stepAcq at hs
  split at hs
  · cases hs
  · cases hl : s.lock <;> simp_all

theorem inv_stepAcq (s s' : St) (a : Actor) (old : Bool) (h : Inv s) (hs : stepAcq s a old = some s') : Inv s' := by
  cases old
  · have hl := acq_f_free s s' a hs
    unfold stepAcq at hs
    simp only [Bool.false_eq_true, if_false] at hs
    (repeat' (split at hs)) <;> cases hs
    case h_1 hp =>
      -- `called`: the caller enters the critical section and counts itself in
      refine inv_move h rfl fun g l => ?_
      simp [hp, Local, HoldsLock, InQ, Released] at l
      have := holdsLock_cs
      refine ⟨?_, ?_, fun b hb lb => ?_⟩
      · simp only [Global, enter, setPc] at g ⊢; grind [upd]
      · simp only [Global, Local, enter, setPc] at g ⊢; split <;> simp_all [HoldsLock, InQ, Released, upd] <;> grind
      · simp only [Global, Local, enter, setPc] at g lb ⊢; grind [upd]
    all_goals
      -- `waiting`, `woken`: a caller that cannot yield takes the lock again
      exact inv_lock h hl fun g l => by simp_all [Global, Local, HoldsLock, InQ, Released] <;> grind
  · unfold stepAcq at hs
    simp only [if_true] at hs
    (repeat' (split at hs)) <;> cases hs <;> exact h

theorem inv_stepEnq (s s' : St) (a : Actor) (h : Inv s) (hs : stepEnq s a = some s') : Inv s' := by
  unfold stepEnq at hs
  split at hs <;> cases hs
  refine inv_move h rfl fun g l => ?_
  simp [‹s.pc a = _›, Local, HoldsLock, InQ, Released] at l
  have := holdsLock_cs
  refine ⟨?_, ?_, fun b hb lb => ?_⟩
  · simp only [Global, setPc] at g ⊢; grind
  · simp_all [Local, HoldsLock, InQ, Released, setPc] <;> grind
  · simp only [Local, setPc] at lb ⊢; grind

/-- the mover is the woken waiter `n`; the broadcaster `a` stays at `csLast` -/
theorem inv_stepWake (s s' : St) (a n : Actor) (h : Inv s) (hs : stepWake s a n = some s') : Inv s' := by
  unfold stepWake at hs
  have la := ((inv_iff s).1 h).2 a
  split at hs <;> (try split at hs) <;> cases hs <;>
    refine inv_move h rfl fun g l => ⟨?_, ?_, fun b hb lb => ?_⟩ <;>
    simp only [Global, Local, setPc] at * <;> grind [HoldsLock, InQ, Released, upd]

theorem chk_some (s s' : St) (c nw : Nat) (e : Bool) (hs : chk s c nw e = some s') :
    s' = s ∧ c = s.counter ∧ nw = s.nw ∧ e = s.q.isEmpty := by
  unfold chk at hs
  split at hs
  · cases hs; simp_all
  · cases hs

theorem inv_stepRel (s s' : St) (a : Actor) (c nw : Nat) (e : Bool) (h : Inv s)
    (hs : stepRel s a c nw e = some s') : Inv s' := by
  unfold stepRel at hs
  (repeat' (split at hs)) <;> first | (cases hs; done) | skip
  all_goals
    have hc := (chk_some _ _ _ _ _ hs).1; subst hc
    refine inv_move h rfl fun g l => ?_
    simp [‹s.pc a = _›, Local, HoldsLock, InQ, Released] at l
    refine ⟨?_, ?_, fun b hb lb => ?_⟩
    · simp only [Global, setPc] at g ⊢; grind
    · simp_all [Local, HoldsLock, InQ, Released, setPc] <;> grind
    · have := holdsLock_cs
      simp only [Local, setPc] at lb ⊢; grind

theorem inv_stepReinit (s s' : St) (n : Nat) (rc : Rc) (h : Inv s) (hs : stepReinit s n rc = some s') : Inv s' := by
  unfold stepReinit at hs
  (repeat' (split at hs)) <;> close_tac h hs

theorem inv_stepFsamp (s s' : St) (a : Actor) (v : Nat) (h : Inv s) (hs : stepFsamp s a v = some s') : Inv s' := by
  unfold stepFsamp at hs
  split at hs <;> cases hs
  refine inv_same h rfl fun g => ⟨?_, fun b lb => ?_⟩ <;> simp only [Global, Local] at * <;> grind [upd]

theorem inv_stepFbump (s s' : St) (a : Actor) (v : Nat) (h : Inv s) (hs : stepFbump s a v = some s') : Inv s' := by
  unfold stepFbump at hs
  split at hs <;> cases hs
  have la := ((inv_iff s).1 h).2 a
  refine inv_same h rfl fun g => ⟨?_, fun b lb => ?_⟩ <;> simp only [Global, Local] at * <;>
    grind [HoldsLock, InQ, Released]

end ArgoVerif.Model.Barrier

namespace ArgoVerif.Model.XBarrier
open ArgoVerif

structure Inv (s : St) : Prop where
  inPrim : ∀ a, a ∈ s.arrived ↔ s.pc a = .inPrim
  nodup : s.arrived.Nodup
  lenLt : 1 < s.nw → s.arrived.length < s.nw
  empty : s.nw ≤ 1 → s.arrived = []
  arrRound : ∀ a, a ∈ s.arrived → s.roundOf a = s.round
  entNow : s.entered s.round = s.arrived.length
  entFut : ∀ k, s.round < k → s.entered k = 0
  past : ∀ k, k < s.round → s.entered k = (if 1 < s.nw then s.nw else 1)
  relRound : ∀ a, (s.pc a = .released ∨ s.pc a = .skipped) → s.roundOf a < s.round

theorem inv_init (n : Nat) : Inv (init n) := by
  constructor <;> simp [init] <;> omega

theorem inv_stepCall (s s' : St) (a : Actor) (h : Inv s) (hs : stepCall s a = some s') : Inv s' := by
  unfold stepCall at hs
  have := h.inPrim; have := h.nodup; have := h.lenLt; have := h.empty; have := h.arrRound
  have := h.entNow; have := h.entFut; have := h.past; have := h.relRound
  (repeat' (split at hs)) <;> first | (cases hs; done) | (cases hs; constructor <;> grind [upd])

theorem inv_stepRet (s s' : St) (a : Actor) (h : Inv s) (hs : stepRet s a = some s') : Inv s' := by
  unfold stepRet at hs
  split at hs <;> cases hs
  have := h.inPrim
  have := h.relRound
  exact { h with inPrim := by grind [upd], relRound := by grind [upd] }

end ArgoVerif.Model.XBarrier
