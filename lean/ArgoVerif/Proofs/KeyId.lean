import ArgoVerif.Model.KeyId
/- Proofs.KeyId — invariant of the key-id allocation model. -/
namespace ArgoVerif.Model.KeyId
open ArgoVerif

structure Inv (s : St) : Prop where
  range : ∀ id, id ∈ s.issued → s.start ≤ id ∧ id < s.g
  nodup : s.issued.Nodup
  rnodup : s.returned.Nodup
  rsub : ∀ id, id ∈ s.returned → id ∈ s.issued
  got : ∀ a id, s.pc a = .got id → id ∈ s.issued ∧ id ∉ s.returned
  uniq : ∀ a a' id, s.pc a = .got id → s.pc a' = .got id → a = a'
  mono : s.start ≤ s.g

theorem inv_init (start : Nat) : Inv (init start) := by
  constructor <;> simp [init]

theorem inv_step (s : St) (e : Ev) (s' : St) (h : Inv s) (hs : exec s e = some s') : Inv s' := by
  obtain ⟨h1, h2, h3, h4, h5, h6, h7⟩ := h
  suffices h' : _ ∧ _ ∧ _ ∧ _ ∧ _ ∧ _ ∧ _ from
    ⟨h'.1, h'.2.1, h'.2.2.1, h'.2.2.2.1, h'.2.2.2.2.1, h'.2.2.2.2.2.1, h'.2.2.2.2.2.2⟩
  cases e <;> simp only [exec] at hs <;> split at hs <;> cases hs
  · grind [upd]
  · -- the id handed out is fresh: every issued id is below the counter
    have hfresh : s.g ∉ s.issued := fun hm => Nat.lt_irrefl _ (h1 _ hm).2
    grind [upd, List.nodup_cons]
  · -- the id returned was not returned before, and nobody else holds it
    grind [upd, List.nodup_cons]

theorem inv_run (start : Nat) (tr : List Ev) (s : St) (h : (machine start).run (init start) tr = some s) : Inv s :=
  Machine.invariant_run (machine start) Inv (fun s e s' hi hs => inv_step s e s' hi hs) tr (init start) s (inv_init start) h

theorem start_const (start : Nat) (tr : List Ev) (s : St) (h : (machine start).run (init start) tr = some s) :
    s.start = start := by
  refine Machine.invariant_run (machine start) (fun s => s.start = start) (fun s e s' hi hs => ?_) tr _ s rfl h
  have hs : exec s e = some s' := hs
  cases e <;> simp only [exec] at hs <;> split at hs <;> cases hs <;> exact hi

end ArgoVerif.Model.KeyId
