import ArgoVerif.Model.Env
import ArgoVerif.Proofs.Atoi
/-
Proofs.Env — clamping, `roundup_pow2_*`, `ABTU_roundup_*` and the generic
"row of the table is well formed ⇒ its setting is in range and correctly rounded".
-/
namespace ArgoVerif.Proofs.Env
open ArgoVerif.Model.Env ArgoVerif.Model.Atoi ArgoVerif.Gen.EnvTable
open ArgoVerif.Props.C20Spec (RndPost RndChain)

/-! ### clamp -/

theorem clamp_bounds (mn mx v : Int) (h : mn ≤ mx) : mn ≤ clamp mn mx v ∧ clamp mn mx v ≤ mx := by
  unfold clamp; simp only; split <;> split <;> omega

theorem clamp_id (mn mx v : Int) (h1 : mn ≤ v) (h2 : v ≤ mx) : clamp mn mx v = v := by
  unfold clamp; simp only; split <;> split <;> omega

theorem clamp_mono_lo (mn mx v lo : Int) (h : lo ≤ mn) : lo ≤ clamp mn mx v := by
  unfold clamp; simp only; split <;> split <;> omega

/-! ### roundup_pow2 -/

theorem findShift_spec (x f i : Nat) :
    i ≤ findShift x f i ∧ findShift x f i ≤ i + f ∧
    (x < 2 ^ (i + f) → x < 2 ^ findShift x f i) ∧
    (∀ k, i ≤ k → k < findShift x f i → 2 ^ k ≤ x) := by
  induction f generalizing i with
  | zero => simp [findShift]; intro k h1 h2; omega
  | succ f ih =>
    unfold findShift
    by_cases h : x >>> i = 0
    · simp only [h, if_true]
      refine ⟨Nat.le_refl _, by omega, ?_, fun k h1 h2 => by omega⟩
      intro _
      rw [Nat.shiftRight_eq_div_pow, Nat.div_eq_zero_iff] at h
      rcases h with h | h
      · exact absurd h (Nat.pos_iff_ne_zero.mp (Nat.two_pow_pos i))
      · exact h
    · simp only [h, if_false]
      obtain ⟨h1, h2, h3, h4⟩ := ih (i + 1)
      refine ⟨by omega, by omega, ?_, ?_⟩
      · intro hx; apply h3; rw [show i + 1 + f = i + (f + 1) by omega]; exact hx
      · intro k hk1 hk2
        by_cases hki : k = i
        · subst hki
          rw [Nat.shiftRight_eq_div_pow, Nat.div_eq_zero_iff] at h
          have := Nat.two_pow_pos k
          omega
        · exact h4 k (by omega) hk2

theorem roundupPow2_spec (bits v : Nat) (h0 : 0 < v) (hv : v ≤ 2 ^ (bits - 1)) :
    ∃ k, k ≤ bits - 1 ∧ roundupPow2 bits v = 2 ^ k ∧ v ≤ 2 ^ k ∧ 2 ^ k < 2 * v := by
  unfold roundupPow2
  rw [if_neg (by omega), Nat.one_shiftLeft]
  obtain ⟨_, h2, h3, h4⟩ := findShift_spec (v - 1) (bits - 1) 0
  refine ⟨_, by omega, rfl, ?_, ?_⟩
  · have := h3 (by simp; omega); omega
  · generalize findShift (v - 1) (bits - 1) 0 = j at *
    cases j with
    | zero => simp; omega
    | succ j =>
      have := h4 j (by omega) (by omega)
      rw [Nat.pow_succ]; omega

/-! ### ABTU_roundup -/

theorem and_mask (bits k t : Nat) (hk : k ≤ bits) (ht : t < 2 ^ bits) :
    t &&& (2 ^ bits - 1 - (2 ^ k - 1)) = t / 2 ^ k * 2 ^ k := by
  have hm : 2 ^ bits - 1 - (2 ^ k - 1) = (2 ^ (bits - k) - 1) * 2 ^ k := by
    have h1 : 2 ^ bits = 2 ^ (bits - k) * 2 ^ k := by rw [← Nat.pow_add]; congr 1; omega
    have h2 := Nat.two_pow_pos k
    have h3 := Nat.two_pow_pos (bits - k)
    rw [Nat.sub_mul, ← h1]; omega
  rw [hm]
  apply Nat.eq_of_testBit_eq
  intro i
  rw [Nat.testBit_and, Nat.testBit_mul_two_pow, Nat.testBit_mul_two_pow, Nat.testBit_two_pow_sub_one,
    Nat.testBit_div_two_pow]
  by_cases hki : k ≤ i
  · simp only [hki, decide_true, Bool.true_and]
    rw [show i - k + k = i by omega]
    by_cases hib : i < bits
    · have : i - k < bits - k := by omega
      simp [this]
    · have h1 : t.testBit i = false := by
        apply Nat.testBit_lt_two_pow
        exact Nat.lt_of_lt_of_le ht (Nat.pow_le_pow_right (by omega) (by omega))
      simp [h1]
  · simp [hki]

theorem roundupMultiple_spec (bits v m : Nat) (hm0 : 0 < m)
    (hm : m = 2 ^ m.log2 ∨ m &&& (m - 1) ≠ 0) (hk : m.log2 ≤ bits) (hv : v + m - 1 < 2 ^ bits) :
    roundupMultiple bits v m = (v + m - 1) / m * m := by
  unfold roundupMultiple
  simp only
  rw [Nat.mod_eq_of_lt hv]
  by_cases hp : m &&& (m - 1) = 0
  · rw [if_pos hp]
    rcases hm with hm | hm
    · generalize m.log2 = k at hm hk
      subst hm
      exact and_mask bits k _ hk hv
    · exact absurd hp hm
  · rw [if_neg hp]
    apply Nat.mod_eq_of_lt
    exact Nat.lt_of_le_of_lt (Nat.div_mul_le_self _ _) hv

theorem roundup_facts (v m : Nat) (hm0 : 0 < m) :
    (v + m - 1) / m * m % m = 0 ∧ v ≤ (v + m - 1) / m * m ∧ (v + m - 1) / m * m < v + m := by
  have e1 := Nat.div_add_mod (v + m - 1) m
  have e2 := Nat.mod_lt (v + m - 1) hm0
  refine ⟨Nat.mul_mod_left _ _, ?_, ?_⟩ <;>
  · rw [Nat.mul_comm]
    generalize m * ((v + m - 1) / m) = q at *
    generalize (v + m - 1) % m = r at *
    omega

/-! ### a row of the table -/

def typeMax : Kind → Int
  | .bool => 1 | .int => cIntMax | .uint32 => cUint32Max | .uint64 => cUint64Max | .size => cSizeMax

/-- side conditions of the rounding wrappers, given `lo ≤ value ≤ hi` -/
def rndOk (bits : Nat) : List Rnd → (lo hi : Int) → Bool
  | [], _, _ => true
  | .pow2 :: rs, lo, hi =>
    decide (1 ≤ lo) && decide (hi ≤ (2 ^ (bits - 1) : Nat)) && rndOk bits rs lo (2 ^ (bits - 1) : Nat)
  | .multiple m :: rs, lo, hi =>
    decide (0 ≤ lo) && decide (0 < m) && (decide (m = 2 ^ m.log2) || decide (m &&& (m - 1) ≠ 0)) &&
      decide (m.log2 ≤ bits) && decide (hi + m - 1 < (2 ^ bits : Nat)) &&
      rndOk bits rs lo (((hi.toNat + m - 1) / m * m : Nat) : Int)

theorem chain_ok (bits : Nat) (rs : List Rnd) (lo hi v : Int) (h : rndOk bits rs lo hi = true)
    (h1 : lo ≤ v) (h2 : v ≤ hi) : RndChain rs v (rs.foldl (applyRnd bits) v) := by
  induction rs generalizing lo hi v with
  | nil => simp [RndChain]
  | cons r rs ih =>
    cases r with
    | pow2 =>
      simp only [rndOk, Bool.and_eq_true, decide_eq_true_eq] at h
      obtain ⟨⟨hlo, hhi⟩, hrest⟩ := h
      obtain ⟨k, hk, he, hle, hlt⟩ := roundupPow2_spec bits v.toNat (by omega) (by omega)
      have hk' : ((2 ^ k : Nat) : Int) ≤ (2 ^ (bits - 1) : Nat) := by
        exact_mod_cast Nat.pow_le_pow_right (by omega) hk
      simp only [List.foldl_cons, RndChain, applyRnd, he]
      exact ⟨_, ⟨⟨k, by norm_cast⟩, by omega, by omega⟩, ih lo _ _ hrest (by omega) hk'⟩
    | multiple m =>
      simp only [rndOk, Bool.and_eq_true, Bool.or_eq_true, decide_eq_true_eq] at h
      obtain ⟨⟨⟨⟨⟨hlo, hm0⟩, hm⟩, hk⟩, hhi⟩, hrest⟩ := h
      have he := roundupMultiple_spec bits v.toNat m hm0 hm hk (by omega)
      obtain ⟨f1, f2, f3⟩ := roundup_facts v.toNat m hm0
      have hmono : (((v.toNat + m - 1) / m * m : Nat) : Int) ≤ ((hi.toNat + m - 1) / m * m : Nat) := by
        exact_mod_cast Nat.mul_le_mul_right m (Nat.div_le_div_right (by omega))
      simp only [List.foldl_cons, RndChain, applyRnd, he]
      exact ⟨_, ⟨by exact_mod_cast f1, by omega, by omega⟩, ih lo _ _ hrest (by omega) hmono⟩

theorem rndChain_single (r : Rnd) (a c : Int) : RndChain [r] a c ↔ RndPost r a c := by
  simp [RndChain]

/-- statically known lower bound of a row (an unsigned row with a run-dependent
minimum is at least 0) -/
def lo0 (e : Entry) : Int := match e.min with | .const v => v | .dyn _ => 0

/-- side conditions on a numeric row of the generated table (all decidable) -/
def numOk (e : Entry) : Bool :=
  match e.max with
  | .const mx =>
    decide (mx ≤ typeMax e.kind) && rndOk (bitsOf e.kind) e.rnd (lo0 e) mx &&
    (match e.min with
     | .const mn => decide (mn ≤ mx) && (e.kind == .int || decide (0 ≤ mn)) &&
       (match e.dflt with | .const d => decide (mn ≤ d ∧ d ≤ mx) | .dyn _ => true)
     | .dyn _ => e.kind != .int)
  | .dyn _ => false

def rowOk (e : Entry) : Bool :=
  if e.kind = .bool then e.rnd.isEmpty && e.min == .const 0 && e.max == .const 1 else numOk e

theorem table_rows_ok : ∀ e ∈ table, rowOk e = true := by decide

theorem valGet_const (ρ : String → Int) (v : Int) : valGet ρ (.const v) = v := rfl

/-- what the proofs use of `numOk` -/
theorem numOk_spec (e : Entry) (h : numOk e = true) :
    ∃ mx, e.max = .const mx ∧ rndOk (bitsOf e.kind) e.rnd (lo0 e) mx = true ∧
      ∀ mn, e.min = .const mn → mn ≤ mx ∧ ∀ d, e.dflt = .const d → mn ≤ d ∧ d ≤ mx := by
  unfold numOk at h
  split at h
  · rename_i mx hmx
    simp only [Bool.and_eq_true, decide_eq_true_eq] at h
    refine ⟨mx, hmx, h.1.2, fun mn hmn => ?_⟩
    simp only [hmn, Bool.and_eq_true, decide_eq_true_eq] at h
    exact ⟨h.2.1.1, fun d hd => by simpa [hd] using h.2.2⟩
  · cases h

theorem rawOf_num (e : Entry) (E : Environ) (ρ : String → Int) (hk : e.kind ≠ .bool) :
    ∃ x, rawOf e E ρ = clamp (valGet ρ e.min) (valGet ρ e.max) x := by
  unfold rawOf loadEnvNum
  cases hkk : e.kind with
  | bool => exact absurd hkk hk
  | _ =>
    simp only
    split
    · exact ⟨_, rfl⟩
    · split <;> exact ⟨_, rfl⟩

theorem row_clamped (e : Entry) (hok : rowOk e = true) (E : Environ) (ρ : String → Int)
    (hdyn : ∀ x, e.min = .dyn x → 0 ≤ ρ x ∧ ρ x ≤ valGet ρ e.max) :
    valGet ρ e.min ≤ rawOf e E ρ ∧ rawOf e E ρ ≤ valGet ρ e.max ∧
    RndChain e.rnd (rawOf e E ρ) (settingOf e E ρ) := by
  unfold rowOk at hok
  by_cases hk : e.kind = .bool
  · simp only [hk, if_true, Bool.and_eq_true, List.isEmpty_iff, beq_iff_eq] at hok
    obtain ⟨⟨hr, hmin⟩, hmax⟩ := hok
    have hraw : rawOf e E ρ = 0 ∨ rawOf e E ρ = 1 := by
      unfold rawOf; rw [hk]; simp only; split <;> simp
    unfold settingOf
    rw [hr, hmin, hmax]
    simp only [valGet, List.foldl_nil, RndChain]
    exact ⟨by omega, by omega, trivial⟩
  · rw [if_neg hk] at hok
    obtain ⟨mx, hmx, hrnd, hmn⟩ := numOk_spec e hok
    obtain ⟨x, hx⟩ := rawOf_num e E ρ hk
    simp only [hmx, valGet_const] at hx hdyn ⊢
    have hb : lo0 e ≤ valGet ρ e.min ∧ valGet ρ e.min ≤ mx := by
      cases hmin : e.min with
      | const mn => exact ⟨by simp [lo0, hmin, valGet], (hmn mn hmin).1⟩
      | dyn y => simpa [lo0, hmin, valGet] using hdyn y hmin
    have hc := clamp_bounds (valGet ρ e.min) mx x hb.2
    rw [← hx] at hc
    exact ⟨hc.1, hc.2, chain_ok _ _ (lo0 e) mx _ hrnd (by omega) hc.2⟩

theorem conv_err_of_unparsable (k : Kind) (s : List Byte) (h0 : (0 : Byte) ∈ s)
    (hn : ArgoVerif.Props.C20Spec.numberOf s = none) : convOf k s = .err errInvArg := by
  cases k <;> simp only [convOf, Atoi.abtuAtoi_eq s h0, Atoi.abtuAtoui32_eq s h0, Atoi.abtuAtoui64_eq s h0,
    Atoi.abtuAtosz_eq s h0, hn, Atoi.conv]

theorem row_default (e : Entry) (E : Environ) (ρ : String → Int) (hk : e.kind ≠ .bool)
    (hun : getAbtEnv E e.names = none ∨
      ∃ s, getAbtEnv E e.names = some s ∧ (0 : Byte) ∈ s ∧ ArgoVerif.Props.C20Spec.numberOf s = none) :
    rawOf e E ρ = clamp (valGet ρ e.min) (valGet ρ e.max) (valGet ρ e.dflt) := by
  unfold rawOf loadEnvNum
  cases hkk : e.kind with
  | bool => exact absurd hkk hk
  | _ =>
    simp only
    rcases hun with h | ⟨s, h, h0, hn⟩
    · rw [h]
    · rw [h]; simp only; rw [conv_err_of_unparsable _ s h0 hn]

theorem row_default_const (e : Entry) (hok : rowOk e = true) (ρ : String → Int) (hk : e.kind ≠ .bool)
    (d mn : Int) (hd : e.dflt = .const d) (hmn : e.min = .const mn) :
    clamp (valGet ρ e.min) (valGet ρ e.max) (valGet ρ e.dflt) = d := by
  obtain ⟨mx, hmx, _, h⟩ := numOk_spec e (by simpa [rowOk, hk] using hok)
  obtain ⟨h1, h2⟩ := (h mn hmn).2 d hd
  simp only [hd, hmn, hmx, valGet]
  exact clamp_id _ _ _ h1 h2

end ArgoVerif.Proofs.Env
