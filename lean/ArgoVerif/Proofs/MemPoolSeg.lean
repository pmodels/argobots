import ArgoVerif.Model.MemPool
/-
Proofs.MemPoolSeg — singly linked chains over `next : α → Option α` (NULL = none), the
executable traversals of Model.MemPool (`walk`, `nthNext`, `linkRun`, `hdrRun`) related to
them, and the bucket predicate `IsBucket` with its frame / relabel lemma.
(Core.Heap has the same lemmas for `Nat → Nat` heaps with 0 = NULL; header ids here are pairs.)
-/
set_option linter.unusedSectionVars false
namespace ArgoVerif.Model.MemPool
open ArgoVerif

section Seg
variable {α : Type} [DecidableEq α]

/-- following `next` from `a` visits exactly `xs` and arrives at `b` -/
def Seg (next : α → Option α) : Option α → List α → Option α → Prop
  | a, [], b => a = b
  | a, x :: xs, b => a = some x ∧ Seg next (next x) xs b

variable {next : α → Option α} {a b : Option α} {xs : List α}

@[simp] theorem seg_nil : Seg next a [] b ↔ a = b := Iff.rfl

@[simp] theorem seg_cons {x : α} : Seg next a (x :: xs) b ↔ a = some x ∧ Seg next (next x) xs b := Iff.rfl

theorem seg_congr {next' : α → Option α}
    (hag : ∀ x ∈ xs, next' x = next x) : Seg next' a xs b ↔ Seg next a xs b := by
  induction xs generalizing a with
  | nil => simp
  | cons y ys ih =>
    have hy : next' y = next y := hag y (by simp)
    have ih' := @ih (next y) (fun x hx => hag x (by simp [hx]))
    simp only [seg_cons, hy, ih']

theorem seg_frame {next : α → Option α} {a b v : Option α} {t : α} {xs : List α} (h : t ∉ xs) :
    Seg (upd next t v) a xs b ↔ Seg next a xs b := by
  apply seg_congr
  intro x hx
  have : x ≠ t := fun e => h (e ▸ hx)
  simp [upd, this]

theorem seg_append_iff {c : Option α} {ys : List α} :
    Seg next a (xs ++ ys) c ↔ ∃ b, Seg next a xs b ∧ Seg next b ys c := by
  induction xs generalizing a with
  | nil => simp
  | cons y r ih =>
    simp only [List.cons_append, seg_cons, ih]
    constructor
    · rintro ⟨h1, b, h3, h4⟩; exact ⟨b, ⟨h1, h3⟩, h4⟩
    · rintro ⟨b, ⟨h1, h3⟩, h4⟩; exact ⟨h1, b, h3, h4⟩

theorem seg_append {next : α → Option α} {a b c : Option α} {xs ys : List α}
    (h1 : Seg next a xs b) (h2 : Seg next b ys c) : Seg next a (xs ++ ys) c :=
  seg_append_iff.mpr ⟨b, h1, h2⟩

theorem seg_snoc_iff {next : α → Option α} {a b : Option α} {u : α} {xs : List α} :
    Seg next a (xs ++ [u]) b ↔ Seg next a xs (some u) ∧ next u = b := by
  simp only [seg_append_iff, seg_cons, seg_nil]
  constructor
  · rintro ⟨m, h1, h2, h3⟩; subst h2; exact ⟨h1, h3⟩
  · rintro ⟨h1, h2⟩; exact ⟨some u, h1, rfl, h2⟩

theorem seg_set_last {b' : Option α} {t : α}
    (h : Seg next a (xs ++ [t]) b) (hn : t ∉ xs) : Seg (upd next t b') a (xs ++ [t]) b' := by
  rw [seg_snoc_iff] at h ⊢
  exact ⟨(seg_frame hn).mpr h.1, by simp⟩

theorem seg_head {next : α → Option α} {a b : Option α} {x : α} {xs : List α}
    (h : Seg next a (x :: xs) b) : a = some x := h.1

theorem seg_unique {ys : List α}
    (hx : Seg next a xs none) (hy : Seg next a ys none) : xs = ys := by
  induction xs generalizing a ys with
  | nil => cases ys with
    | nil => rfl
    | cons y _ => cases hx; cases hy.1
  | cons x r ih => cases ys with
    | nil => cases hy; cases hx.1
    | cons y r' =>
      obtain ⟨rfl, hr⟩ := hx
      obtain ⟨e, hr'⟩ := hy
      cases e
      rw [ih hr hr']

theorem seg_none_nodup {next : α → Option α} {a : Option α} {xs : List α}
    (h : Seg next a xs none) : xs.Nodup := by
  induction xs generalizing a with
  | nil => simp
  | cons y r ih =>
    refine List.nodup_cons.mpr ⟨fun hm => ?_, ih h.2⟩
    -- `y` again in `r = as ++ y :: bs`: both `r` and its proper suffix `bs` would be the chain from `next y`
    obtain ⟨as, bs, rfl⟩ := List.append_of_mem hm
    obtain ⟨m, _, h3⟩ := seg_append_iff.mp h.2
    have := congrArg List.length (seg_unique h.2 h3.2)
    simp at this
    omega

theorem seg_walk_take {next : Hdr → Option Hdr} {a b : Option Hdr} {xs : List Hdr} (h : Seg next a xs b)
    (k : Nat) (hk : k ≤ xs.length) : walk next k a = xs.take k := by
  induction xs generalizing a k with
  | nil => simp at hk; subst hk; simp [walk]
  | cons y r ih =>
    obtain ⟨rfl, hr⟩ := h
    cases k with
    | zero => simp [walk]
    | succ k => simp [walk, ih hr k (by simpa using hk)]

theorem seg_walk {next : Hdr → Option Hdr} {a b : Option Hdr} {xs : List Hdr} (h : Seg next a xs b) :
    walk next xs.length a = xs := by
  simpa using seg_walk_take h _ (Nat.le_refl _)

theorem seg_nthNext {next : Hdr → Option Hdr} {b : Option Hdr} {x : Hdr} {xs : List Hdr}
    (h : Seg next (some x) (x :: xs) b) (k : Nat) (hk : k ≤ xs.length) :
    (x :: xs)[k]? = some (nthNext next k x) := by
  induction k generalizing x xs with
  | zero => simp [nthNext]
  | succ k ih =>
    cases xs with
    | nil => simp at hk
    | cons y r =>
      obtain ⟨_, hr⟩ := h
      have hy : next x = some y := hr.1
      have := ih (x := y) (xs := r) ⟨rfl, hr.2⟩ (by simpa using hk)
      simp only [nthNext, hy, Option.getD_some]
      simpa using this

end Seg

/-! ### carving runs -/

theorem hdrRun_length (p hs k off : Nat) : (hdrRun p hs k off).length = k := by
  induction k generalizing off with
  | zero => rfl
  | succ k ih => simp [hdrRun, ih]

section Runs
variable {p hs k off : Nat} {x y : Hdr}

theorem mem_hdrRun (hx : x ∈ hdrRun p hs k off) :
    x.1 = p ∧ off ≤ x.2 ∧ x.2 + hs ≤ off + hs * k := by
  induction k generalizing off with
  | zero => simp [hdrRun] at hx
  | succ k ih =>
    simp only [hdrRun, List.mem_cons] at hx
    rcases hx with rfl | hx
    · refine ⟨rfl, Nat.le_refl _, ?_⟩
      simp only [Nat.mul_succ]; omega
    · have := ih hx
      refine ⟨this.1, by omega, ?_⟩
      simp only [Nat.mul_succ]; omega

theorem hdrRun_dvd (hd : hs ∣ off) (hx : x ∈ hdrRun p hs k off) : hs ∣ x.2 := by
  induction k generalizing off with
  | zero => simp [hdrRun] at hx
  | succ k ih =>
    simp only [hdrRun, List.mem_cons] at hx
    rcases hx with rfl | hx
    · exact hd
    · exact ih (Nat.dvd_add hd (Nat.dvd_refl hs)) hx

theorem hdrRun_sep :
    (hdrRun p hs k off).Pairwise (fun x y => x.2 + hs ≤ y.2) := by
  induction k generalizing off with
  | zero => simp [hdrRun]
  | succ k ih =>
    simp only [hdrRun, List.pairwise_cons]
    refine ⟨?_, ih⟩
    intro y hy
    have := mem_hdrRun hy
    simp; omega

theorem hdrRun_nodup (hpos : 0 < hs) : (hdrRun p hs k off).Nodup := by
  have := hdrRun_sep (p := p) (hs := hs) (k := k) (off := off)
  refine this.imp ?_
  intro a b hab e
  subst e; omega

theorem hdrRun_disjoint (hx : x ∈ hdrRun p hs k off) (hy : y ∈ hdrRun p hs k off)
    (hne : x ≠ y) : x.2 + hs ≤ y.2 ∨ y.2 + hs ≤ x.2 :=
  List.Pairwise.forall_of_forall_of_flip (R := fun x y => x ≠ y → x.2 + hs ≤ y.2 ∨ y.2 + hs ≤ x.2)
    (fun _ _ e => absurd rfl e) (hdrRun_sep.imp fun h _ => .inl h) (hdrRun_sep.imp fun h _ => .inr h) hx hy hne

end Runs

/-- the inner linking loop: starting with `prev` already linked to `head0`, after `k` more headers
the chain from the last one runs down through the run to whatever `prev` pointed to -/
theorem linkRun_spec (hs : Nat) (hpos : 0 < hs) (k : Nat) (next : Hdr → Option Hdr) (p off : Nat) :
    let r := linkRun hs k next (p, off)
    r.2 = (p, off + hs * k) ∧
    (∀ x, x ∉ hdrRun p hs k (off + hs) → r.1 x = next x) ∧
    Seg r.1 (some r.2) ((hdrRun p hs k (off + hs)).reverse) (some (p, off)) := by
  induction k generalizing next off with
  | zero => simp [linkRun, hdrRun]
  | succ k ih =>
    simp only [linkRun]
    have := ih (upd next (p, off + hs) (some (p, off))) (off + hs)
    obtain ⟨h1, h2, h3⟩ := this
    refine ⟨?_, ?_, ?_⟩
    · rw [h1]; simp only [Nat.mul_succ]; congr 1; omega
    · intro x hx
      simp only [hdrRun, List.mem_cons, not_or] at hx
      rw [h2 x hx.2]
      simp [upd, hx.1]
    · simp only [hdrRun, List.reverse_cons]
      rw [seg_snoc_iff]
      refine ⟨h3, ?_⟩
      have hnot : (p, off + hs) ∉ hdrRun p hs k (off + hs + hs) := by
        intro hm; have := mem_hdrRun hm; simp at this; omega
      rw [h2 _ hnot]; simp

/-! ### buckets -/

section Relabel
variable {own : Hdr → Owner} {a b o : Owner} {x : Hdr}

theorem relabel_eq_iff (h1 : o ≠ a) (h2 : o ≠ b) : relabel own a b x = o ↔ own x = o := by
  unfold relabel; split
  · rename_i e; exact ⟨fun e' => absurd e'.symm h2, fun e' => absurd (e.symm.trans e').symm h1⟩
  · rfl

theorem relabel_eq_target : relabel own a b x = b ↔ own x = a ∨ own x = b := by
  unfold relabel; split
  · rename_i e; simp [e]
  · rename_i e; simp [e]

theorem relabel_ne_source (hne : a ≠ b) (x : Hdr) : relabel own a b x ≠ a := by
  unfold relabel; split
  · exact hne.symm
  · assumption

end Relabel

def IsBucket (next : Hdr → Option Hdr) (own : Hdr → Owner) (a : Hdr) (n : Nat) (o : Owner) : Prop :=
  ∃ L, Seg next (some a) L none ∧ L.length = n ∧ L.Nodup ∧ ∀ x, x ∈ L ↔ own x = o

section Buckets
variable {next : Hdr → Option Hdr} {own : Hdr → Owner} {a : Hdr} {n : Nat} {o : Owner}

theorem IsBucket.relabel {next' : Hdr → Option Hdr} {own' : Hdr → Owner} {o' : Owner}
    (h : IsBucket next own a n o) (hn : ∀ x, own x = o → next' x = next x)
    (ho : ∀ x, own' x = o' ↔ own x = o) : IsBucket next' own' a n o' := by
  obtain ⟨L, hs, hl, hnd, hm⟩ := h
  refine ⟨L, ?_, hl, hnd, fun x => by rw [hm, ho]⟩
  exact (seg_congr (fun x hx => hn x ((hm x).mp hx))).mpr hs

theorem IsBucket.relabel_new {o' : Owner}
    (h : IsBucket next own a n o) (hf : ∀ x, own x ≠ o') : IsBucket next (MemPool.relabel own o o') a n o' :=
  h.relabel (fun _ _ => rfl) fun x => relabel_eq_target.trans (or_iff_left (hf x))

theorem IsBucket.walk (h : IsBucket next own a n o) :
    (∀ x, x ∈ walk next n (some a) ↔ own x = o) ∧
    (walk next n (some a)).length = n ∧ (walk next n (some a)).Nodup ∧ Seg next (some a) (walk next n (some a)) none := by
  obtain ⟨L, hs, rfl, hnd, hm⟩ := h
  rw [seg_walk hs]; exact ⟨hm, rfl, hnd, hs⟩

theorem IsBucket.uncons (h : IsBucket next own a n o) (hn : 0 < n) :
    ∃ rest, Seg next (next a) rest none ∧ rest.length + 1 = n ∧ (a :: rest).Nodup ∧
      ∀ x, x ∈ a :: rest ↔ own x = o := by
  obtain ⟨L, hs, hl, hnd, hm⟩ := h
  cases L with
  | nil => simp at hl; omega
  | cons x r =>
    cases hs.1
    exact ⟨r, hs.2, by simpa using hl, hnd, hm⟩

theorem IsBucket.head_own (h : IsBucket next own a n o) (hn : 0 < n) : own a = o := by
  obtain ⟨rest, _, _, _, hm⟩ := h.uncons hn
  exact (hm a).mp (by simp)

end Buckets

end ArgoVerif.Model.MemPool
