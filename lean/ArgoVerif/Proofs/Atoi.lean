import ArgoVerif.Model.Atoi
import ArgoVerif.Props.C20Spec
/-
Proofs.Atoi — `atoiLoop` computes the saturated decimal value of the digit run
(three phases: blanks, signs, digits) and never leaves a NUL-terminated buffer.
-/
namespace ArgoVerif.Proofs.Atoi
open ArgoVerif.Model.Atoi
open ArgoVerif.Gen.EnvTable
namespace S
export ArgoVerif.Props.C20Spec (isBlank isSign isDigit decVal negative numberOf saturate expected)
end S

/-! ### character classes -/

theorem isBlank_eq (c : Byte) : isBlank c = S.isBlank c := by
  unfold isBlank S.isBlank
  cases (c == 10) <;> cases (c == 9) <;> cases (c == 32) <;> cases (c == 13) <;> rfl

theorem isDigit_eq (c : Byte) : isDigit c = S.isDigit c := by
  simp [isDigit, S.isDigit]

theorem sign_cases {c : Byte} (h : S.isSign c = true) : c = 43 ∨ c = 45 := by
  simpa [S.isSign] using h

theorem digit_range {c : Byte} (h : S.isDigit c = true) : 48 ≤ c.toNat ∧ c.toNat ≤ 57 := by
  simpa [S.isDigit] using h

theorem digit_ne {c : Byte} (h : S.isDigit c = true) (k : Byte) (hk : k.toNat < 48 ∨ 57 < k.toNat) :
    (c == k) = false := by
  have := digit_range h
  rw [beq_eq_false_iff_ne]
  rintro rfl
  omega

/-! ### the overflow test is exact -/

theorem toUInt64_toNat_small (d : Nat) (hd : d ≤ 9) : (d.toUInt64).toNat = d := by
  simp [Nat.toUInt64, UInt64.toNat_ofNat']; omega

theorem overflow_test (val : UInt64) (d : Nat) (hd : d ≤ 9) :
    (val > u64Max / 10 || val * 10 > u64Max - d.toUInt64) = decide (val.toNat * 10 + d > 2^64 - 1) := by
  have h1 : (u64Max / 10).toNat = 1844674407370955161 := by decide
  have hd' := toUInt64_toNat_small d hd
  by_cases h : val.toNat > 1844674407370955161
  · have : val > u64Max / 10 := by rw [gt_iff_lt, UInt64.lt_iff_toNat_lt, h1]; exact h
    simp [this]; omega
  · have hn : ¬ (val > u64Max / 10) := by rw [gt_iff_lt, UInt64.lt_iff_toNat_lt, h1]; exact h
    have hm : (val * 10).toNat = val.toNat * 10 := by
      rw [UInt64.toNat_mul]; simp; omega
    have hs : (u64Max - d.toUInt64).toNat = 2^64 - 1 - d := by
      rw [UInt64.toNat_sub_of_le]; simp [hd', u64Max]
      rw [UInt64.le_iff_toNat_le, hd']; simp [u64Max]; omega
    simp only [hn, decide_false, Bool.false_or]
    simp only [gt_iff_lt, UInt64.lt_iff_toNat_lt, hs, hm]
    rw [decide_eq_decide]; omega

theorem accum_toNat (val : UInt64) (d : Nat) (hd : d ≤ 9) (h : val.toNat * 10 + d ≤ 2^64 - 1) :
    (val * 10 + d.toUInt64).toNat = 10 * val.toNat + d := by
  rw [UInt64.toNat_add, UInt64.toNat_mul, toUInt64_toNat_small d hd]; simp; omega

/-! ### one iteration of the loop, by the class of the character read -/

theorem atoiLoop_blank {c : Byte} (h : S.isBlank c = true) (rest : List Byte) (val : UInt64) (sg rd : Bool) :
    atoiLoop (c :: rest) val sg false rd = atoiLoop rest val sg false rd := by
  simp [atoiLoop, isBlank_eq, h]

theorem atoiLoop_sign {c : Byte} (h : S.isSign c = true) (rest : List Byte) (val : UInt64) (sg rc : Bool) :
    atoiLoop (c :: rest) val sg rc false = atoiLoop rest val (sg != (c == 45)) true false := by
  rcases sign_cases h with rfl | rfl <;> simp [atoiLoop, isBlank]

/-- Horner step of `decVal` -/
def hstep (a : Nat) (c : Byte) : Nat := 10 * a + (c.toNat - 48)

theorem atoiLoop_digit {c : Byte} (h : S.isDigit c = true) (rest : List Byte) (val : UInt64) (sg rc rd : Bool) :
    atoiLoop (c :: rest) val sg rc rd =
      if hstep val.toNat c ≤ 2^64 - 1 then atoiLoop rest (UInt64.ofNat (hstep val.toNat c)) sg true true
      else .ok sg u64Max true := by
  have hd := digit_range h
  have hv : digitVal c ≤ 9 := by unfold digitVal; omega
  have e : hstep val.toNat c = val.toNat * 10 + digitVal c := by unfold hstep digitVal; omega
  simp only [atoiLoop, isBlank, digit_ne h, isDigit_eq, h, Bool.or_self, Bool.false_and, Bool.false_eq_true,
    if_false, if_true, UInt8.reduceToNat, Nat.reduceLT, true_or]
  rw [overflow_test val _ hv]
  by_cases hov : hstep val.toNat c ≤ 2^64 - 1
  · rw [if_pos hov, if_neg (by rw [decide_eq_true_eq]; omega)]
    congr 1
    apply UInt64.toNat_inj.mp
    rw [accum_toNat val _ hv (by omega), UInt64.toNat_ofNat', Nat.mod_eq_of_lt (by omega)]; omega
  · rw [if_neg hov, if_pos (by rw [decide_eq_true_eq]; omega)]

/-- neither blank (unless something was read), sign nor digit, before any digit: `ABT_ERR_INV_ARG` -/
theorem atoiLoop_stop {c : Byte} (r : List Byte) (s rc : Bool) (hd : S.isDigit c = false)
    (hs : S.isSign c = false) (hb : rc = true ∨ S.isBlank c = false) :
    atoiLoop (c :: r) 0 s rc false = .invArg := by
  have h2 : (c == 43) = false ∧ (c == 45) = false := by simpa [S.isSign] using hs
  have h1 : (isBlank c && !rc) = false := by rcases hb with rfl | hb <;> simp [isBlank_eq, *]
  simp [atoiLoop, h1, h2, isDigit_eq, hd]

/-! ### the three phases -/

theorem foldl_hstep_mono (ds : List Byte) (a : Nat) : a ≤ ds.foldl hstep a := by
  induction ds generalizing a with
  | nil => simp
  | cons d ds ih => exact Nat.le_trans (by unfold hstep; omega) (ih _)

/-- what `atoi_impl` returns for a sign and a digit run of value `n` -/
def done (sg : Bool) (n : Nat) : Impl :=
  if n ≤ 2^64 - 1 then .ok sg (UInt64.ofNat n) false else .ok sg u64Max true

theorem loop_digits (ds : List Byte) (hds : ∀ c ∈ ds, S.isDigit c = true) (c0 : Byte) (r : List Byte)
    (hc0 : S.isDigit c0 = false) (val : UInt64) (sg rc rd : Bool)
    (hnil : ds = [] → rc = true ∧ rd = true) :
    atoiLoop (ds ++ c0 :: r) val sg rc rd = done sg (ds.foldl hstep val.toNat) := by
  induction ds generalizing val rc rd with
  | nil =>
    obtain ⟨rfl, rfl⟩ := hnil rfl
    have : val.toNat ≤ 2^64 - 1 := by have := val.toNat_lt; omega
    simp [atoiLoop, isDigit_eq, hc0, done, this]
  | cons d ds ih =>
    rw [List.cons_append, atoiLoop_digit (hds d (by simp)), List.foldl_cons]
    split
    · rename_i hle
      rw [ih (fun c hc => hds c (by simp [hc])) _ _ _ (fun _ => ⟨rfl, rfl⟩), UInt64.toNat_ofNat',
        Nat.mod_eq_of_lt (by omega)]
    · have := foldl_hstep_mono ds (hstep val.toNat d)
      rw [done, if_neg (by omega)]

theorem negative_cons (c : Byte) (sg : List Byte) : S.negative (c :: sg) = ((c == 45) != S.negative sg) := by
  simp only [S.negative, List.count_cons]
  cases c == 45 <;> simp
  rw [← decide_not, decide_eq_decide]; omega

theorem loop_signs (sg : List Byte) (hsg : ∀ c ∈ sg, S.isSign c = true) (rest : List Byte) (s rc : Bool) :
    atoiLoop (sg ++ rest) 0 s rc false =
      atoiLoop rest 0 (s != S.negative sg) (rc || !sg.isEmpty) false := by
  induction sg generalizing s rc with
  | nil => simp [S.negative]
  | cons c sg ih =>
    rw [List.cons_append, atoiLoop_sign (hsg c (by simp)), ih (fun c hc => hsg c (by simp [hc])), negative_cons]
    simp [Bool.bne_assoc]

theorem skip_run {α : Type} {F : List Byte → α} {p : Byte → Bool}
    (hF : ∀ c rest, p c = true → F (c :: rest) = F rest) (w l : List Byte) (hw : ∀ c ∈ w, p c = true) :
    F (w ++ l) = F l := by
  induction w with
  | nil => rfl
  | cons c w ih =>
    obtain ⟨hc, hw⟩ := List.forall_mem_cons.mp hw
    rw [List.cons_append, hF c _ hc, ih hw]

theorem loop_blanks (bl : List Byte) (hbl : ∀ c ∈ bl, S.isBlank c = true) (rest : List Byte) :
    atoiLoop (bl ++ rest) 0 false false false = atoiLoop rest 0 false false false :=
  skip_run (F := fun l => atoiLoop l 0 false false false) (fun _ rest h => atoiLoop_blank h rest 0 false false) bl rest hbl

/-! ### maximal runs of a buffer that contains a NUL -/

theorem mem_dropWhile_of_false {p : Byte → Bool} {a : Byte} (hp : p a = false) {l : List Byte}
    (h : a ∈ l) : a ∈ l.dropWhile p := by
  induction l with
  | nil => cases h
  | cons x l ih => rw [List.dropWhile_cons]; split <;> grind

theorem dropWhile_head_false {p : Byte → Bool} {l : List Byte} {c : Byte} {r : List Byte}
    (h : l.dropWhile p = c :: r) : p c = false := by
  have := List.head?_dropWhile_not p l
  rw [h] at this
  simpa using this

theorem takeWhile_all {p : Byte → Bool} (l : List Byte) : ∀ c ∈ l.takeWhile p, p c = true := by
  induction l with
  | nil => simp
  | cons x l ih => rw [List.takeWhile_cons]; split <;> simp_all

theorem dropWhile_of_takeWhile_nil {p : Byte → Bool} {l : List Byte} (h : l.takeWhile p = []) :
    l.dropWhile p = l := by
  have := List.takeWhile_append_dropWhile (p := p) (l := l)
  rwa [h] at this

/-- A buffer with a NUL is its maximal runs of three character classes (none of which
contains NUL) followed by a character `c0` outside the third class; when a run is
empty `c0` is outside the class before it as well. -/
theorem runs3 {p q r : Byte → Bool} (hp : p 0 = false) (hq : q 0 = false) (hr : r 0 = false)
    (b : List Byte) (h0 : (0 : Byte) ∈ b) :
    ∃ c0 rest, b = b.takeWhile p ++ ((b.dropWhile p).takeWhile q ++
        (((b.dropWhile p).dropWhile q).takeWhile r ++ c0 :: rest)) ∧
      (0 : Byte) ∈ c0 :: rest ∧ r c0 = false ∧
      (((b.dropWhile p).dropWhile q).takeWhile r = [] → q c0 = false ∧
        ((b.dropWhile p).takeWhile q = [] → p c0 = false)) := by
  have h0d := mem_dropWhile_of_false hr (mem_dropWhile_of_false hq (mem_dropWhile_of_false hp h0))
  cases hrest : ((b.dropWhile p).dropWhile q).dropWhile r with
  | nil => rw [hrest] at h0d; cases h0d
  | cons c0 rest =>
    refine ⟨c0, rest, ?_, hrest ▸ h0d, dropWhile_head_false hrest, fun hds => ?_⟩
    · simp only [← hrest, List.takeWhile_append_dropWhile]
    · rw [dropWhile_of_takeWhile_nil hds] at hrest
      refine ⟨dropWhile_head_false hrest, fun hsg => ?_⟩
      rw [dropWhile_of_takeWhile_nil hsg] at hrest
      exact dropWhile_head_false hrest

/-! ### `atoi_impl` as a function of the digit run -/

theorem atoiImpl_eq (buf : List Byte) (h0 : (0 : Byte) ∈ buf) :
    atoiImpl buf =
      (if ((buf.dropWhile S.isBlank).dropWhile S.isSign).takeWhile S.isDigit = [] then Impl.invArg
       else done (S.negative ((buf.dropWhile S.isBlank).takeWhile S.isSign))
        (S.decVal (((buf.dropWhile S.isBlank).dropWhile S.isSign).takeWhile S.isDigit))) := by
  obtain ⟨c0, r, e, -, hc0, hmax⟩ := runs3 (p := S.isBlank) (q := S.isSign) (r := S.isDigit)
    (by decide) (by decide) (by decide) buf h0
  have hbl := takeWhile_all (p := S.isBlank) buf
  have hsg := takeWhile_all (p := S.isSign) (buf.dropWhile S.isBlank)
  have hds := takeWhile_all (p := S.isDigit) ((buf.dropWhile S.isBlank).dropWhile S.isSign)
  generalize buf.takeWhile S.isBlank = bl at e hbl
  generalize (buf.dropWhile S.isBlank).takeWhile S.isSign = sg at e hsg hmax ⊢
  generalize ((buf.dropWhile S.isBlank).dropWhile S.isSign).takeWhile S.isDigit = ds at e hds hmax ⊢
  unfold atoiImpl
  rw [e, loop_blanks bl hbl, loop_signs sg hsg]
  by_cases hd : ds = []
  · subst hd
    obtain ⟨hs, hb⟩ := hmax rfl
    rw [if_pos rfl]
    -- the stop character follows the signs directly
    refine atoiLoop_stop r _ _ hc0 hs ?_
    cases sg with
    | nil => exact .inr (hb rfl)
    | cons x xs => exact .inl rfl
  · rw [if_neg hd, loop_digits ds hds c0 r hc0 0 _ _ false (fun h => absurd h hd), Bool.false_bne]
    rfl

/-! ### never outside the buffer, nothing behind the NUL matters -/

theorem loop_nul (pre post : List Byte) (val : UInt64) (sg rc rd : Bool) :
    atoiLoop (pre ++ 0 :: post) val sg rc rd ≠ .oob ∧
    atoiLoop (pre ++ 0 :: post) val sg rc rd = atoiLoop (pre ++ [0]) val sg rc rd := by
  induction pre generalizing val sg rc rd with
  | nil => cases rd <;> simp [atoiLoop, isBlank, isDigit]
  | cons c pre ih =>
    simp only [List.cons_append, atoiLoop]
    split
    · exact ih ..
    · split
      · exact ih ..
      · split
        · exact ih ..
        · split
          · split
            · simp
            · exact ih ..
          · split <;> simp

/-! ### the typed wrappers -/

theorem numberOf_none_iff (buf : List Byte) :
    S.numberOf buf = none ↔
      ((buf.dropWhile S.isBlank).dropWhile S.isSign).takeWhile S.isDigit = [] := by
  unfold S.numberOf
  simp only
  split <;> simp_all

/-- the common shape of the typed wrappers: `atoi_impl`'s magnitude and sign saturated
at the limits `[-L, H]` of the type -/
def satRes (L H : Nat) : Impl → Res
  | .invArg => .err errInvArg
  | .oob => .oob
  | .ok sg val ov =>
    if sg then (if val.toNat > L then .ok (-(L : Int)) true else .ok (-(val.toNat : Int)) ov)
    else if val.toNat > H then .ok H true else .ok val.toNat ov

/-- saturating the 64-bit magnitude is saturating the mathematical value -/
theorem satRes_done (L H : Nat) (hL : L ≤ 2^64 - 1) (hH : H ≤ 2^64 - 1) (neg : Bool) (n : Nat) :
    satRes L H (done neg n) =
      let m : Int := if neg then -(n : Int) else n
      .ok (S.saturate (-(L : Int)) H m) (decide (m < -(L : Int) ∨ (H : Int) < m)) := by
  have hu : u64Max.toNat = 2^64 - 1 := by decide
  unfold done
  split
  · rename_i hn
    have : (UInt64.ofNat n).toNat = n := by rw [UInt64.toNat_ofNat']; omega
    cases neg <;> simp only [satRes, this, S.saturate, Bool.false_eq_true, if_false, if_true] <;>
      split <;> simp <;> omega
  · cases neg <;> simp only [satRes, hu, S.saturate, Bool.false_eq_true, if_false, if_true] <;>
      split <;> simp <;> omega

def conv (lo hi : Int) : Option Int → Res
  | none => .err errInvArg
  | some m => .ok (S.saturate lo hi m) (decide (m < lo ∨ hi < m))

theorem satRes_spec (L H : Nat) (hL : L ≤ 2^64 - 1) (hH : H ≤ 2^64 - 1) (buf : List Byte)
    (h0 : (0 : Byte) ∈ buf) : satRes L H (atoiImpl buf) = conv (-(L : Int)) H (S.numberOf buf) := by
  rw [atoiImpl_eq buf h0]
  unfold S.numberOf
  simp only
  split
  · rfl
  · rw [satRes_done L H hL hH]; rfl

theorem abtuAtoi_satRes (s : List Byte) : abtuAtoi s = satRes 2147483648 2147483647 (atoiImpl s) := by
  unfold abtuAtoi; cases atoiImpl s <;> rfl

/-- for an unsigned type a negative input saturates at 0, flagged unless it is `-0` -/
theorem abtuAtoui_neg (val : UInt64) (ov : Bool) :
    Res.ok 0 (if val != 0 then true else ov) =
      if val.toNat > 0 then .ok (-((0 : Nat) : Int)) true else .ok (-(val.toNat : Int)) ov := by
  by_cases h : val = 0
  · subst h; rfl
  · have : val.toNat ≠ 0 := fun e => h (UInt64.toNat_inj.mp e)
    simp [h, Nat.pos_of_ne_zero this]

theorem abtuAtoui32_satRes (s : List Byte) : abtuAtoui32 s = satRes 0 cUint32Max (atoiImpl s) := by
  unfold abtuAtoui32
  cases atoiImpl s with
  | ok sg val ov => cases sg <;> simp only [satRes, abtuAtoui_neg] <;> rfl
  | _ => rfl

theorem abtuAtoui64_satRes (s : List Byte) : abtuAtoui64 s = satRes 0 cUint64Max (atoiImpl s) := by
  unfold abtuAtoui64
  cases atoiImpl s with
  | ok sg val ov =>
    have : ¬ val.toNat > cUint64Max := by have := val.toNat_lt; unfold cUint64Max; omega
    cases sg <;> simp only [satRes, abtuAtoui_neg, this] <;> rfl
  | _ => rfl

section wrappers
variable (buf : List Byte) (h0 : (0 : Byte) ∈ buf)
include h0

theorem abtuAtoi_eq : abtuAtoi buf = conv cIntMin cIntMax (S.numberOf buf) :=
  (abtuAtoi_satRes buf).trans (satRes_spec _ _ (by decide) (by decide) buf h0)

theorem abtuAtoui32_eq : abtuAtoui32 buf = conv 0 cUint32Max (S.numberOf buf) :=
  (abtuAtoui32_satRes buf).trans (satRes_spec _ _ (by decide) (by decide) buf h0)

theorem abtuAtoui64_eq : abtuAtoui64 buf = conv 0 cUint64Max (S.numberOf buf) :=
  (abtuAtoui64_satRes buf).trans (satRes_spec _ _ (by decide) (by decide) buf h0)

theorem abtuAtosz_eq : abtuAtosz buf = conv 0 cSizeMax (S.numberOf buf) := by
  unfold abtuAtosz
  rw [if_neg (by decide)]
  exact abtuAtoui64_eq buf h0

end wrappers

end ArgoVerif.Proofs.Atoi
