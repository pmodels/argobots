import ArgoVerif.Model.SyncLifo
/-
Proofs.SyncLifo — `ABTI_sync_lifo` (tagged-pointer branch): shape invariant, ABA freedom,
linearizability.  All theorems are for every interleaving of any number of threads
(induction over `Star Step init tr s` through the inductive invariant `Inv`).
-/
namespace ArgoVerif.Model.SyncLifo
open ArgoVerif

/-! ### chains -/

section Chains
variable {next : Elem → Option Elem} {a b : Option Elem} {xs : List Elem}

@[simp] theorem seg_nil : Seg next a [] b ↔ a = b := Iff.rfl

@[simp] theorem seg_cons {x : Elem} :
    Seg next a (x :: xs) b ↔ a = some x ∧ Seg next (next x) xs b := Iff.rfl

theorem seg_congr {next' : Elem → Option Elem}
    (hag : ∀ x ∈ xs, next' x = next x) : Seg next' a xs b ↔ Seg next a xs b := by
  induction xs generalizing a with
  | nil => simp
  | cons y ys ih =>
    have hy : next' y = next y := hag y (by simp)
    have ih' := @ih (next y) (fun x hx => hag x (by simp [hx]))
    simp only [seg_cons, hy, ih']

theorem seg_frame {next : Elem → Option Elem} {a b v : Option Elem} {e : Elem} {xs : List Elem}
    (h : e ∉ xs) : Seg (upd next e v) a xs b ↔ Seg next a xs b := by
  apply seg_congr
  intro x hx
  have : x ≠ e := fun h' => h (h' ▸ hx)
  simp [upd, this]

theorem seg_top_some {c : Elem}
    (h : Seg next (some c) xs none) : ∃ rest, xs = c :: rest ∧ Seg next (next c) rest none := by
  cases xs with
  | nil => simp at h
  | cons x rest =>
    obtain ⟨h1, h2⟩ := h
    cases h1
    exact ⟨rest, rfl, h2⟩

theorem seg_top_none (h : Seg next none xs none) : xs = [] := by
  cases xs with
  | nil => rfl
  | cons x rest => simp at h

theorem seg_unique {ys : List Elem}
    (hx : Seg next a xs none) (hy : Seg next a ys none) : xs = ys := by
  induction xs generalizing a ys with
  | nil =>
    cases hx
    exact (seg_top_none hy).symm
  | cons x r ih =>
    obtain ⟨rfl, hr⟩ := hx
    obtain ⟨r', rfl, hr'⟩ := seg_top_some hy
    rw [ih hr hr']

theorem seg_chain {n : Nat}
    (h : Seg next a xs none) (hn : xs.length ≤ n) : chain next a n = xs := by
  induction xs generalizing a n with
  | nil => cases h; cases n <;> rfl
  | cons x r ih =>
    obtain ⟨rfl, hr⟩ := h
    cases n with
    | zero => simp at hn
    | succ n =>
      simp only [chain]
      rw [ih hr (by simpa using hn)]

end Chains

/-! ### specification runs -/

theorem Spec.run_append (stk : List Elem) (a b : List LinOp) :
    Spec.run stk (a ++ b) = (Spec.run stk a).bind (fun m => Spec.run m b) := by
  induction a generalizing stk with
  | nil => simp [Spec.run]
  | cons op ops ih =>
    simp only [List.cons_append, Spec.run]
    cases Spec.apply stk op with
    | none => simp
    | some m => simpa using ih m

theorem Spec.run_snoc {stk0 stk : List Elem} {l : List LinOp} (op : LinOp)
    (h : Spec.run stk0 l = some stk) : Spec.run stk0 (l ++ [op]) = Spec.apply stk op := by
  rw [Spec.run_append, h]
  simp only [Option.bind_some, Spec.run]
  cases Spec.apply stk op <;> simp

/-! ### the inductive invariant -/

structure Inv (s : St) : Prop where
  /-- the real linked chain from `p_top` is exactly the ghost stack and ends in NULL -/
  seg : Seg s.next s.top s.stk none
  nodup : s.stk.Nodup
  stkFree : ∀ e, e ∈ s.stk → s.owner e = none
  pushOwn : ∀ t e, (s.pc t).pushing = some e → s.owner e = some t
  /-- at its CAS the pusher's `e->p_next` still holds what it stored -/
  storedNext : ∀ t e ct cg, s.pc t = .pushStored e ct cg → s.next e = ct
  tagLe : ∀ t g, (s.pc t).loadedTag = some g → g ≤ s.tag
  /-- tag unchanged since the load ⇒ top unchanged (this and the next three) -/
  pushLoadedCur : ∀ t e ct cg, s.pc t = .pushLoaded e ct cg → cg = s.tag → s.top = ct
  pushStoredCur : ∀ t e ct cg, s.pc t = .pushStored e ct cg → cg = s.tag → s.top = ct
  popLoadedCur : ∀ t c cg, s.pc t = .popLoaded c cg → cg = s.tag → s.top = some c
  /-- … and the `p_next` that was read is current -/
  popReadCur : ∀ t c cg n, s.pc t = .popRead c cg n → cg = s.tag → s.top = some c ∧ s.next c = n
  /-- the linearization log is a legal sequential LIFO history that ends in the ghost stack -/
  logOk : Spec.run [] s.log = some s.stk

theorem inv_init : Inv init := by
  constructor <;> simp [init, Pc.pushing, Pc.loadedTag, Spec.run]

theorem Inv.owned_not_mem {s : St} (h : Inv s) {e : Elem} {t : Tid} (ho : s.owner e = some t) : e ∉ s.stk := by
  intro hm
  have := h.stkFree e hm
  simp [this] at ho

theorem Inv.ownLoaded {s : St} (h : Inv s) :
    ∀ t e ct cg, s.pc t = .pushLoaded e ct cg → s.owner e = some t :=
  fun t e ct cg hp => h.pushOwn t e (by simp [hp, Pc.pushing])

theorem Inv.ownStored {s : St} (h : Inv s) :
    ∀ t e ct cg, s.pc t = .pushStored e ct cg → s.owner e = some t :=
  fun t e ct cg hp => h.pushOwn t e (by simp [hp, Pc.pushing])

theorem Inv.top_some {s : St} (h : Inv s) {c : Elem} (ht : s.top = some c) :
    ∃ rest, s.stk = c :: rest ∧ c ∉ rest ∧ rest.Nodup ∧ Seg s.next (s.next c) rest none := by
  have hseg := h.seg
  rw [ht] at hseg
  obtain ⟨rest, hr, hs⟩ := seg_top_some hseg
  have hn := h.nodup
  rw [hr] at hn
  exact ⟨rest, hr, (List.nodup_cons.mp hn).1, (List.nodup_cons.mp hn).2, hs⟩

theorem Inv.top_none {s : St} (h : Inv s) (ht : s.top = none) : s.stk = [] := by
  have hseg := h.seg
  rw [ht] at hseg
  exact seg_top_none hseg

theorem Inv.top_mem {s : St} (h : Inv s) : ∀ c, s.top = some c → c ∈ s.stk := by
  intro c ht
  obtain ⟨rest, hr, -⟩ := h.top_some ht
  simp [hr]

/-- what `Inv` says about a thread `t` whose program counter is `p`; it reads `owner`, `next`, `top` and `tag` only -/
def PcOk (s : St) (t : Tid) (p : Pc) : Prop :=
  (∀ e, p.pushing = some e → s.owner e = some t) ∧
  (∀ e ct cg, p = .pushStored e ct cg → s.next e = ct) ∧
  (∀ g, p.loadedTag = some g → g ≤ s.tag) ∧
  (∀ e ct cg, p = .pushLoaded e ct cg → cg = s.tag → s.top = ct) ∧
  (∀ e ct cg, p = .pushStored e ct cg → cg = s.tag → s.top = ct) ∧
  (∀ c cg, p = .popLoaded c cg → cg = s.tag → s.top = some c) ∧
  (∀ c cg n, p = .popRead c cg n → cg = s.tag → s.top = some c ∧ s.next c = n)

theorem Inv.pcOk {s : St} (h : Inv s) (t : Tid) : PcOk s t (s.pc t) :=
  ⟨h.pushOwn t, h.storedNext t, h.tagLe t, h.pushLoadedCur t, h.pushStoredCur t, h.popLoadedCur t, h.popReadCur t⟩

theorem pcOk_upd {s s' : St} {t : Tid} {v : Pc} (h : ∀ t', t' ≠ t → PcOk s' t' (s.pc t')) (hv : PcOk s' t v) (t' : Tid) :
    PcOk s' t' (upd s.pc t v t') := by
  unfold upd; split
  · next e => exact e ▸ hv
  · next e => exact h t' e

theorem pcOk_idle {s : St} {t : Tid} : PcOk s t .idle := by simp [PcOk, Pc.pushing, Pc.loadedTag]

/-- what `Inv` says about `t` survives a step of another thread that leaves alone the element `t` is pushing, does not
lower the tag and, if it keeps the tag, keeps `p_top` and the top element's `p_next` -/
theorem PcOk.frame {s s' : St} {t : Tid} {p : Pc} (h : PcOk s t p)
    (hown : ∀ e, s.owner e = some t → p.pushing = some e → s'.owner e = some t ∧ s'.next e = s.next e)
    (htag : s.tag ≤ s'.tag)
    (hcur : s'.tag = s.tag → s'.top = s.top ∧ ∀ c, s.top = some c → s'.next c = s.next c) : PcOk s' t p := by
  -- `simp` evaluates the clauses at each program counter; what is left compares the tags
  cases p <;> simp [PcOk, Pc.pushing, Pc.loadedTag] at h hown ⊢ <;> grind

/-- The clauses about
program counters go thread by thread (`pc`): the thread that steps gets its new `PcOk` from its old one, the others keep
theirs by `PcOk.frame` (an owned element is not in the chain, and a step that changes `p_top` moves the tag).  The clauses
about the chain, the ghost stack and the log go rule by rule. -/
theorem inv_step {s s' : St} {e : Ev} (h : Inv s) (hs : Step s e s') : Inv s' := by
  have pc : ∀ t, PcOk s' t (s'.pc t) := by
    have h3 := h.stkFree; have h11 := h.top_mem; have hk := h.pcOk
    cases hs with
    | pushCall t _ hpc | pushLoad t _ hpc | pushCasFail t _ _ _ hpc | popCall t hpc | popLoad t _ hpc | popLoadNull t hpc
    | popReadNext t _ _ hpc | popCasFail t _ _ _ hpc =>
      have := hk t
      exact pcOk_upd (fun t' _ => hk t') (by grind [PcOk, Pc.pushing, Pc.loadedTag])
    | popUnsafeNull => exact hk
    | acquire t e | release t e =>
      exact fun t' => (hk t').frame (by grind [upd, Pc.pushing]) (Nat.le_refl _) fun _ => ⟨rfl, fun _ _ => rfl⟩
    | scribble t e v hpc how =>
      exact fun t' => (hk t').frame (by grind [upd, Pc.pushing]) (Nat.le_refl _) fun _ => ⟨rfl, by grind [upd]⟩
    | pushStoreNext t e ct cg hpc =>
      have ho := h.ownLoaded t e ct cg hpc
      have := hk t
      exact pcOk_upd (fun t' hne => (hk t').frame (by grind [upd]) (Nat.le_refl _) fun _ => ⟨rfl, by grind [upd]⟩)
        (by grind [PcOk, upd, Pc.pushing, Pc.loadedTag])
    | pushCasOk t e ct cg hpc htop htag =>
      have ho := h.ownStored t e ct cg hpc
      exact pcOk_upd (fun t' hne => (hk t').frame (by grind [upd]) (by grind) (by grind)) pcOk_idle
    | popCasOk t c cg n hpc htop htag =>
      have ho := h3 c (h11 c htop)
      exact pcOk_upd (fun t' hne => (hk t').frame (by grind [upd]) (by grind) (by grind)) pcOk_idle
    | pushUnsafe t e hpc how =>
      exact fun t' => (hk t').frame (by grind [upd, Pc.pushing]) (by grind) (by grind)
    | popUnsafeOk t c hpc htop =>
      have ho := h3 c (h11 c htop)
      exact fun t' => (hk t').frame (by grind [upd]) (by grind) (by grind)
  refine ⟨?seg, ?nodup, ?stkFree, fun t => (pc t).1, fun t => (pc t).2.1, fun t => (pc t).2.2.1, fun t => (pc t).2.2.2.1,
    fun t => (pc t).2.2.2.2.1, fun t => (pc t).2.2.2.2.2.1, fun t => (pc t).2.2.2.2.2.2, ?logOk⟩
  case seg =>
    have hseg := h.seg
    cases hs with
    | scribble t e v hpc how => exact (seg_frame (h.owned_not_mem how)).mpr hseg
    | pushStoreNext t e ct cg hpc => exact (seg_frame (h.owned_not_mem (h.ownLoaded t e ct cg hpc))).mpr hseg
    | pushCasOk t e ct cg hpc htop htag =>
      simp only [seg_cons, true_and]
      rw [h.storedNext t e ct cg hpc, ← htop]; exact hseg
    | popCasOk t c cg n hpc htop htag =>
      obtain ⟨rest, hr, -, -, hseg'⟩ := h.top_some htop
      simp only [hr, List.tail_cons]
      rw [← (h.popReadCur t c cg n hpc htag.symm).2]; exact hseg'
    | pushUnsafe t e hpc how =>
      simp only [seg_cons, true_and, upd_same]
      exact (seg_frame (h.owned_not_mem how)).mpr hseg
    | popUnsafeOk t c hpc htop =>
      obtain ⟨rest, hr, -, -, hseg'⟩ := h.top_some htop
      simp only [hr, List.tail_cons]
      exact hseg'
    | _ => exact hseg
  case nodup =>
    have hn := h.nodup
    cases hs with
    | pushCasOk t e ct cg hpc htop htag => exact List.nodup_cons.mpr ⟨h.owned_not_mem (h.ownStored t e ct cg hpc), hn⟩
    | pushUnsafe t e hpc how => exact List.nodup_cons.mpr ⟨h.owned_not_mem how, hn⟩
    | popCasOk t c cg n hpc htop | popUnsafeOk t c hpc htop =>
      obtain ⟨rest, hr, -, hnd, -⟩ := h.top_some htop
      simpa [hr] using hnd
    | _ => exact hn
  case logOk =>
    have hl := h.logOk
    cases hs with
    | pushCasOk | pushUnsafe => simp [Spec.run_snoc _ hl, Spec.apply, Spec.push]
    | popLoadNull t hpc htop | popUnsafeNull t hpc htop => simp [Spec.run_snoc _ hl, Spec.apply, Spec.pop, h.top_none htop]
    | popCasOk t c cg n hpc htop | popUnsafeOk t c hpc htop =>
      obtain ⟨rest, hr, -⟩ := h.top_some htop
      simp [Spec.run_snoc _ hl, Spec.apply, Spec.pop, hr]
    | _ => exact hl
  case stkFree =>
    have h3 := h.stkFree
    cases hs with
    | popCasOk t c cg n hpc htop | popUnsafeOk t c hpc htop =>
      obtain ⟨rest, hr, hc, -⟩ := h.top_some htop
      grind [upd]
    | acquire | release | pushCasOk | pushUnsafe => grind [upd]
    | _ => exact h3

/-! ### 1. shape invariant -/

/-- `Inv` holds in every state the C code can reach from `ABTI_sync_lifo_init` — whatever the
number of threads, however their loads, stores and CASes interleave, whatever the owners of popped
elements write into them. -/
theorem lifo_inv {tr : List Ev} {s : St} (h : Star Step init tr s) : Inv s :=
  Star.invariant Inv (fun _ _ _ hi hs => inv_step hi hs) h inv_init

/-- `lifo_inv` spelled out; beyond `Inv`: the ghost stack is the *only* NULL-terminated chain from `p_top`, the
executable traversal returns it, and no two threads are pushing the same `e`. -/
theorem lifo_shape {tr : List Ev} {s : St} (h : Star Step init tr s) :
    Seg s.next s.top s.stk none ∧
    (∀ ys, Seg s.next s.top ys none → ys = s.stk) ∧
    chain s.next s.top s.stk.length = s.stk ∧
    s.stk.Nodup ∧
    (∀ e, e ∈ s.stk → s.owner e = none) ∧
    (∀ t e, (s.pc t).pushing = some e → s.owner e = some t ∧ e ∉ s.stk) ∧
    (∀ t u e, (s.pc t).pushing = some e → (s.pc u).pushing = some e → t = u) := by
  have hi := lifo_inv h
  refine ⟨hi.seg, fun ys hy => seg_unique hy hi.seg, seg_chain hi.seg (Nat.le_refl _), hi.nodup,
    hi.stkFree, fun t e hp => ⟨hi.pushOwn t e hp, hi.owned_not_mem (hi.pushOwn t e hp)⟩, ?_⟩
  intro t u e ht hu
  have h1 := hi.pushOwn t e ht
  have h2 := hi.pushOwn u e hu
  rw [h1] at h2
  exact Option.some.inj h2

/-! ### 2. no ABA -/

theorem tag_step {s s' : St} {e : Ev} (hs : Step s e s') :
    s'.tag = s.tag + (if e.isUpdate then 1 else 0) := by
  cases hs <;> simp_all [Ev.isUpdate]

theorem tag_star {s s' : St} {tr : List Ev} (h : Star Step s tr s') :
    s'.tag = s.tag + tr.countP Ev.isUpdate := by
  induction h with
  | refl => simp
  | cons hst _ ih =>
    rw [ih, tag_step hst, List.countP_cons]
    omega

/-- the tag half of `p_top` is a version number: it counts the successful CASes and `_unsafe` stores -/
theorem lifo_tag_counts {tr : List Ev} {s : St} (h : Star Step init tr s) :
    s.tag = tr.countP Ev.isUpdate := by
  simpa [init] using tag_star h

theorem star_split {σ ε : Type} {St' : σ → ε → σ → Prop} {s s' : σ} {a b : List ε}
    (h : Star St' s (a ++ b) s') : ∃ m, Star St' s a m ∧ Star St' m b s' := by
  induction a generalizing s with
  | nil => exact ⟨s, Star.refl _, h⟩
  | cons e es ih =>
    cases h with
    | cons hst hrest =>
      obtain ⟨m, h1, h2⟩ := ih hrest
      exact ⟨m, Star.cons hst h1, h2⟩

/-- the tag thread `t` would present to a CAS, if it carries one, is `g0` -/
def Tracks (g0 : Nat) (p : Pc) : Prop := ∀ g, p.loadedTag = some g → g = g0

theorem tracks_load {s s' : St} {e : Ev} {t : Tid} (hs : Step s e s') (hl : e.isLoadOf t = true) :
    Tracks s'.tag (s'.pc t) := by
  cases hs <;> simp_all [Ev.isLoadOf, Tracks, Pc.loadedTag]

theorem tracks_step {s s' : St} {e : Ev} {t : Tid} {g0 : Nat} (hs : Step s e s')
    (hl : e.isLoadOf t = false) (ht : Tracks g0 (s.pc t)) : Tracks g0 (s'.pc t) := by
  cases hs <;> grind [Tracks, upd, Pc.loadedTag, Ev.isLoadOf]

theorem tracks_star {s s' : St} {tr : List Ev} {t : Tid} {g0 : Nat} (h : Star Step s tr s')
    (hl : ∀ ev ∈ tr, ev.isLoadOf t = false) (ht : Tracks g0 (s.pc t)) : Tracks g0 (s'.pc t) := by
  induction h with
  | refl => exact ht
  | cons hst _ ih =>
    exact ih (fun ev hm => hl ev (List.mem_cons_of_mem _ hm)) (tracks_step hst (hl _ (by simp)) ht)

theorem tracks_cas {s s' : St} {e : Ev} {t : Tid} {g0 : Nat} (hs : Step s e s')
    (hc : e.isCasOkOf t = true) (ht : Tracks g0 (s.pc t)) : s.tag = g0 := by
  cases hs with
  | pushCasOk u e ct cg hpc htop htag =>
    cases of_decide_eq_true hc
    exact htag.trans (ht cg (by rw [hpc]; rfl))
  | popCasOk u c cg n hpc htop htag =>
    cases of_decide_eq_true hc
    exact htag.trans (ht cg (by rw [hpc]; rfl))
  | _ => cases hc

/-- A CAS of `ABTI_sync_lifo_push`/`_pop` succeeds only if *nothing* replaced `(p_top, tag)` since the load it is
based on (`hlast`: `ld` is the load of the loop iteration whose CAS succeeds).
The pointer half alone may well have left and come back (A-B-A: the examples at the end of this file); the tag half
cannot, under the assumption that it does not wrap. -/
theorem lifo_no_aba {tr1 tr2 : List Ev} {ld cas : Ev} {t : Tid} {s0 s : St}
    (h : Star Step s0 (tr1 ++ [ld] ++ tr2 ++ [cas]) s)
    (hld : ld.isLoadOf t = true) (hcas : cas.isCasOkOf t = true)
    (hlast : ∀ ev ∈ tr2, ev.isLoadOf t = false) :
    ∀ ev ∈ tr2, ev.isUpdate = false := by
  obtain ⟨s3, h123, h4⟩ := star_split h
  obtain ⟨s2, h12, h3⟩ := star_split h123
  obtain ⟨s1, _, h2⟩ := star_split h12
  cases h2 with
  | cons hl hnil =>
    cases hnil
    cases h4 with
    | cons hc hnil =>
      cases hnil
      have ht := tracks_star h3 hlast (tracks_load hl hld)
      have he := tracks_cas hc hcas ht
      have hcount := tag_star h3
      have hz : tr2.countP Ev.isUpdate = 0 := by omega
      intro ev hm
      have := List.countP_eq_zero.mp hz ev hm
      simpa using this

/-- The state half of ABA freedom: if thread `t` is at its CAS and the tag it loaded is still current (its CAS can
succeed), then everything it observed since the load is still current, so a successful CAS installs a correct new top. -/
theorem lifo_cas_sees_current {tr : List Ev} {s : St} (h : Star Step init tr s) :
    (∀ t e ct cg, s.pc t = .pushStored e ct cg → s.tag = cg →
        s.top = ct ∧ s.next e = ct ∧ e ∉ s.stk ∧ Seg s.next (s.next e) s.stk none) ∧
    (∀ t c cg n, s.pc t = .popRead c cg n → s.tag = cg →
        s.top = some c ∧ s.next c = n ∧ ∃ rest, s.stk = c :: rest ∧ Seg s.next n rest none) := by
  have hi := lifo_inv h
  constructor
  · intro t e ct cg hpc htag
    have h1 := hi.pushStoredCur t e ct cg hpc htag.symm
    have h2 := hi.storedNext t e ct cg hpc
    refine ⟨h1, h2, hi.owned_not_mem (hi.ownStored t e ct cg hpc), ?_⟩
    rw [h2, ← h1]; exact hi.seg
  · intro t c cg n hpc htag
    obtain ⟨h1, h2⟩ := hi.popReadCur t c cg n hpc htag.symm
    obtain ⟨rest, hr, -, -, hs⟩ := hi.top_some h1
    exact ⟨h1, h2, rest, hr, h2 ▸ hs⟩

theorem lifo_pop_cas_ok {tr : List Ev} {s s' : St} {t : Tid} {c : Elem}
    (h : Star Step init tr s) (hs : Step s (.popCasOk t c) s') :
    ∃ rest, s.stk = c :: rest ∧ s.top = some c ∧ s'.top = s.next c ∧ s'.stk = rest ∧
      s'.owner c = some t ∧ s'.tag = s.tag + 1 ∧ Seg s'.next s'.top rest none := by
  have hi' := inv_step (lifo_inv h) hs
  have hseg' := hi'.seg
  cases hs with
  | popCasOk _ _ cg n hpc htop htag =>
    obtain ⟨_, h2, rest, hr, _⟩ := (lifo_cas_sees_current h).2 t c cg n hpc htag
    refine ⟨rest, hr, htop, h2.symm, by simp [hr], by simp, by simp [htag], ?_⟩
    simpa [hr] using hseg'

/-- a CAS presented with a stale tag fails, even when the pointer half matches -/
theorem stale_tag_cas_fails {s : St} {t : Tid} {c : Elem} {cg : Nat} {n : Option Elem}
    (hpc : s.pc t = .popRead c cg n) (hne : cg ≠ s.tag) : ∀ s', ¬ Step s (.popCasOk t c) s' := by
  intro s' hs
  cases hs with
  | popCasOk _ _ cg' n' hpc' htop htag =>
    rw [hpc] at hpc'
    cases hpc'
    exact hne htag.symm

/-! ### 3. linearizability -/

theorem log_step {s s' : St} {e : Ev} (hs : Step s e s') : s'.log = s.log ++ e.lin.toList := by
  cases hs <;> simp [Ev.lin]

theorem lin_cons (e : Ev) (es : List Ev) : lin (e :: es) = e.lin.toList ++ lin es := by
  simp only [lin, List.filterMap_cons]
  cases e.lin <;> simp

theorem log_star {s s' : St} {tr : List Ev} (h : Star Step s tr s') : s'.log = s.log ++ lin tr := by
  induction h with
  | refl => simp [lin]
  | cons hst _ ih => rw [ih, log_step hst, lin_cons, List.append_assoc]

/-- in a legal sequential history every recorded pop response is the specification's response
in the state reached by the operations before it -/
theorem Spec.run_pop_response {stk0 stk' : List Elem} {pre post : List LinOp} {r : Option Elem}
    (h : Spec.run stk0 (pre ++ .pop r :: post) = some stk') :
    ∃ m, Spec.run stk0 pre = some m ∧ r = (Spec.pop m).1 := by
  rw [Spec.run_append] at h
  cases hm : Spec.run stk0 pre with
  | none => simp [hm] at h
  | some m =>
    refine ⟨m, rfl, ?_⟩
    simp only [hm, Option.bind_some, Spec.run, Spec.apply] at h
    by_cases hr : (Spec.pop m).1 = r
    · exact hr.symm
    · simp [hr] at h

/-- `lin tr`: the linearization points in trace order — a successful push CAS is `push e`, a
successful pop CAS is `pop` answering `cur_top`, a pop's load of NULL is `pop` answering NULL.
`Spec.run` over it is defined, i.e. *every response the implementation gave is the response the specification gives at
that point* (see `Spec.run_pop_response`).  Each linearization point is a step
of the calling thread taken after its `…Call` event and at or before its return (the successful
CAS / NULL load *is* the return), so the order of non-overlapping operations is respected by
construction. -/
theorem lifo_linearizable {tr : List Ev} {s : St} (h : Star Step init tr s) :
    Spec.run [] (lin tr) = some s.stk ∧ Seg s.next s.top s.stk none ∧ s.log = lin tr := by
  have hi := lifo_inv h
  have hl : s.log = lin tr := by simpa [init] using log_star h
  exact ⟨hl ▸ hi.logOk, hi.seg, hl⟩

/-! ### examples: the ABA scenario, with and without the tag -/

theorem run_exists {tr : List Ev} (h : (machine.run init tr).isSome = true) :
    ∃ s, Star Step init tr s := by
  cases hr : machine.run init tr with
  | none => simp [hr] at h
  | some s => exact ⟨s, run_star hr⟩

/-- Elements A = 10, B = 20.  Thread 2 builds the stack [A, B] (tag 2).  Thread 1 starts a pop:
loads `(A, 2)` and reads `A->p_next = B`.  Thread 2 pops A, pops B, overwrites `B->p_next` with
garbage 77 (it owns B now), and pushes A back.  `p_top` is A again — but with tag 5. -/
def abaTrace : List Ev :=
  [ .acquire 2 20, .pushCall 2 20, .pushLoad 2, .pushStoreNext 2, .pushCasOk 2 20,
    .acquire 2 10, .pushCall 2 10, .pushLoad 2, .pushStoreNext 2, .pushCasOk 2 10,
    .popCall 1, .popLoad 1, .popReadNext 1,
    .popCall 2, .popLoad 2, .popReadNext 2, .popCasOk 2 10,
    .popCall 2, .popLoad 2, .popReadNext 2, .popCasOk 2 20,
    .scribble 2 20 (some 77),
    .pushCall 2 10, .pushLoad 2, .pushStoreNext 2, .pushCasOk 2 10 ]

/-- the ABA situation is reachable -/
example : (machine.run init abaTrace).map (fun s => (s.view, s.pc 1, s.owner 20)) =
    some ((some 10, 5, [10], [10]), .popRead 10 2 (some 20), some 2) := by decide

/-- **aba_tagged**: with the tagged CAS thread 1's CAS cannot succeed … -/
example : machine.run init (abaTrace ++ [.popCasOk 1 10]) = none := by decide

/-- … it fails, reloads, and pops A correctly -/
example : (machine.run init (abaTrace ++ [.popCasFail 1, .popLoad 1, .popReadNext 1, .popCasOk 1 10])).map
    St.view = some (none, 6, [], []) := by decide

/-- **aba_untagged**: with a pointer-only CAS the same trace is accepted and corrupts the lifo:
`p_top` becomes B, which thread 2 owns and has scribbled over; the real chain is [B, 77] while the
abstract stack is empty.  (`stepNoTag` differs from `step` only in the two CAS guards, and
`abaTrace` is also a run of `machineNoTag` since every CAS in it has a matching tag.) -/
example : (machineNoTag.run init (abaTrace ++ [.popCasOk 1 10])).map St.view =
    some (some 20, 3, [20, 77], []) := by decide

example : (machineNoTag.run init (abaTrace ++ [.popCasOk 1 10])).map
    (fun s => (decide (Seg s.next s.top s.stk none), s.owner 20)) = some (false, some 2) := by decide

/-- the hypotheses of `lifo_no_aba` are satisfiable: thread 1's second attempt in the run above.
`tr2` (between its reload and its successful CAS) contains no update. -/
example : ∃ s, Star Step init
    ((abaTrace ++ [.popCasFail 1]) ++ [.popLoad 1] ++ [.popReadNext 1] ++ [.popCasOk 1 10]) s ∧
    (Ev.popLoad 1).isLoadOf 1 = true ∧ (Ev.popCasOk 1 10).isCasOkOf 1 = true ∧
    (∀ ev ∈ [Ev.popReadNext 1], ev.isLoadOf 1 = false) := by
  obtain ⟨s, hs⟩ := run_exists
    (tr := (abaTrace ++ [.popCasFail 1]) ++ [.popLoad 1] ++ [.popReadNext 1] ++ [.popCasOk 1 10]) (by decide)
  have := lifo_no_aba (t := 1) hs rfl rfl (by decide)
  exact ⟨s, hs, rfl, rfl, by decide⟩

/-- `lifo_no_aba` at work on the relation (not just the executable step): NO execution extends
`abaTrace` by a successful CAS of thread 1, because between thread 1's load (event 12) and the
end of `abaTrace` there are successful CASes of thread 2 -/
example : ¬ ∃ s, Star Step init (abaTrace ++ [.popCasOk 1 10]) s := by
  rintro ⟨s, hs⟩
  have heq : abaTrace ++ [Ev.popCasOk 1 10] =
      abaTrace.take 11 ++ [.popLoad 1] ++ abaTrace.drop 12 ++ [.popCasOk 1 10] := by decide
  rw [heq] at hs
  have := lifo_no_aba (t := 1) hs rfl rfl (by decide) (.popCasOk 2 10) (by decide)
  simp [Ev.isUpdate] at this

/-! ### examples: non-vacuity -/

/-- three threads: 1 pushes 10 and 2 pushes 20 concurrently (2's first CAS really fails: the tag
moved), 3 pops concurrently (its first CAS really fails too), then gets 20 -/
def demoTrace : List Ev :=
  [ .acquire 1 10, .acquire 2 20, .pushCall 1 10, .pushCall 2 20,
    .pushLoad 1, .pushLoad 2, .pushStoreNext 1, .pushStoreNext 2,
    .pushCasOk 1 10,
    .pushCasFail 2, .pushLoad 2, .pushStoreNext 2,
    .popCall 3, .popLoad 3,
    .pushCasOk 2 20 ]

def demoTrace2 : List Ev :=
  demoTrace ++ [ .popReadNext 3, .popCasFail 3, .popLoad 3, .popReadNext 3, .popCasOk 3 20 ]

example : (machine.run init demoTrace).map (fun s => (s.view, s.pc 3)) =
    some ((some 20, 2, [20, 10], [20, 10]), .popLoaded 10 1) := by decide

example : machine.run init (demoTrace.take 9 ++ [.pushCasOk 2 20]) = none := by decide

example : machine.run init (demoTrace ++ [.popReadNext 3, .popCasOk 3 10]) = none := by decide

example : (machine.run init demoTrace2).map (fun s => (s.view, s.owner 20, s.log)) =
    some ((some 10, 3, [10], [10]), some 3, [.push 10, .push 20, .pop (some 20)]) := by decide

example : ∃ s, Star Step init demoTrace2 s ∧ s.stk = [10] ∧
    lin demoTrace2 = [.push 10, .push 20, .pop (some 20)] ∧ Spec.run [] (lin demoTrace2) = some [10] := by
  obtain ⟨s, hs⟩ := run_exists (tr := demoTrace2) (by decide)
  have hl := (lifo_linearizable hs).1
  have hrun : Spec.run [] (lin demoTrace2) = some [10] := by decide
  rw [hrun] at hl
  exact ⟨s, hs, (Option.some.inj hl).symm, by decide, hrun⟩

/-- a pop on the empty lifo returns NULL, and the `_unsafe` variants run -/
example : (machine.run init
    [.popCall 1, .popLoadNull 1, .acquire 1 5, .pushUnsafe 1 5, .acquire 1 6, .pushUnsafe 1 6,
     .popUnsafe 1 (some 6), .popUnsafe 1 (some 5), .popUnsafe 1 none]).map (fun s => (s.view, s.log)) =
    some ((none, 4, [], []),
          [.pop none, .push 5, .push 6, .pop (some 6), .pop (some 5), .pop none]) := by decide

/-- the specification has teeth -/
example : Spec.run [] [.push 10, .push 20, .pop (some 10)] = none := by decide

end ArgoVerif.Model.SyncLifo
