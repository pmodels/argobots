import ArgoVerif.Model.Rank
import ArgoVerif.Core.Heap
/-
Proofs.Rank — the pointer-level stream list refines "sorted list of live streams".
Generic singly-linked segment lemmas (`Seg`), used twice: forward along `p_next` and
backward along `p_prev` over the reversed node list.
-/
namespace ArgoVerif.Model.Rank

/-! ### segments -/

/-- `Seg f a xs b`: following `f` from `a` visits exactly the (non-NULL) nodes `xs`, then reaches `b` -/
def Seg (f : Ptr → Ptr) : Ptr → List Ptr → Ptr → Prop
  | a, [], b => a = b
  | a, x :: xs, b => a = x ∧ x ≠ 0 ∧ Seg f (f x) xs b

theorem seg_start {f : Ptr → Ptr} {a b : Ptr} {xs : List Ptr} (h : Seg f a xs b) : a = xs.headD b := by
  cases xs with
  | nil => exact h
  | cons x xs => exact h.1

theorem seg_nonzero {f : Ptr → Ptr} {a b : Ptr} {xs : List Ptr} (h : Seg f a xs b) : ∀ x ∈ xs, x ≠ 0 := by
  induction xs generalizing a with
  | nil => simp
  | cons x xs ih => exact List.forall_mem_cons.mpr ⟨h.2.1, ih h.2.2⟩

theorem seg_frame {f g : Ptr → Ptr} {a b : Ptr} {xs : List Ptr} (h : Seg f a xs b)
    (hfg : ∀ x ∈ xs, g x = f x) : Seg g a xs b := by
  induction xs generalizing a with
  | nil => exact h
  | cons x xs ih =>
    refine ⟨h.1, h.2.1, ?_⟩
    rw [hfg x (by simp)]
    exact ih h.2.2 (fun y hy => hfg y (by simp [hy]))

theorem seg_append {f : Ptr → Ptr} {a b : Ptr} {l1 l2 : List Ptr} :
    Seg f a (l1 ++ l2) b ↔ Seg f a l1 (l2.headD b) ∧ Seg f (l2.headD b) l2 b := by
  induction l1 generalizing a with
  | nil =>
    simp only [List.nil_append, Seg]
    constructor
    · intro h; exact ⟨seg_start h, by rw [← seg_start h]; exact h⟩
    · intro h; rw [h.1]; exact h.2
  | cons x l1 ih => simp only [List.cons_append, Seg, ih, and_assoc]

theorem seg_snoc {f : Ptr → Ptr} {a b z : Ptr} {l : List Ptr} :
    Seg f a (l ++ [z]) b ↔ Seg f a l z ∧ z ≠ 0 ∧ f z = b := by
  simp [seg_append, Seg]

theorem headD_concat (l : List Ptr) (z d : Ptr) : (l ++ [z]).headD d = l.headD z := by
  cases l <;> rfl

theorem getLastD_concat (l : List Ptr) (z d : Ptr) : (l ++ [z]).getLastD d = z := by
  simp [List.getLastD_eq_getLast?]

theorem mem_of_eq_getLastD {l : List Ptr} {y : Ptr} (hy : y ≠ 0) (e : y = l.getLastD 0) : y ∈ l := by
  rcases List.eq_nil_or_concat l with rfl | ⟨l, z, rfl⟩
  · exact absurd e hy
  · simp [e]

/-- NULL is not a node, so `l.getLastD 0 = 0` says that `l` is empty; otherwise the segment starts at its first node -/
theorem seg_head {f : Ptr → Ptr} {a c : Ptr} {l : List Ptr} (h : Seg f a l c) (d : Ptr) :
    (if l.getLastD 0 = 0 then d else a) = l.headD d := by
  rcases List.eq_nil_or_concat l with rfl | ⟨l, z, rfl⟩
  · rfl
  · rw [List.concat_eq_append] at *
    rw [getLastD_concat, if_neg (seg_snoc.mp h).2.1, seg_start h, headD_concat, headD_concat]

/-- redirect the last node of `l1`, a segment that starts at its own first node, to `d`; `l2` is a segment apart
from it (NULL is not a node: if `l1` is empty nothing changes) -/
theorem seg_redirect {f : Ptr → Ptr} {b c d e : Ptr} {l1 l2 : List Ptr} (h1 : Seg f (l1.headD c) l1 c)
    (h2 : Seg f e l2 b) (hnd : (l1 ++ l2).Nodup) :
    Seg (upd f (l1.getLastD 0) d) (l1.headD d) l1 d ∧ Seg (upd f (l1.getLastD 0) d) e l2 b := by
  obtain ⟨hn1, -, hdj⟩ := List.nodup_append.mp hnd
  constructor
  · rcases List.eq_nil_or_concat l1 with rfl | ⟨l, z, rfl⟩
    · rfl
    · rw [List.concat_eq_append] at *
      rw [headD_concat] at h1
      rw [headD_concat, getLastD_concat]
      obtain ⟨k, hz, -⟩ := seg_snoc.mp h1
      refine seg_snoc.mpr ⟨seg_frame k fun y hy => upd_other _ _ _ _ fun e => ?_, hz, upd_same ..⟩
      exact (List.nodup_append.mp hn1).2.2 y hy z (by simp) e
  · exact seg_frame h2 fun y hy => upd_other _ _ _ _ fun e =>
      hdj y (mem_of_eq_getLastD (seg_nonzero h2 y hy) e) y hy rfl

theorem sublist_remove (l1 l2 : List Ptr) (p : Ptr) : (l1 ++ l2).Sublist (l1 ++ p :: l2) :=
  List.Sublist.append_left (List.sublist_cons_self p l2) l1

theorem nodup_middle_not_mem {l1 l2 : List Ptr} {p : Ptr} (h : (l1 ++ p :: l2).Nodup) : p ∉ l1 ++ l2 :=
  (List.nodup_cons.mp (List.perm_middle.nodup_iff.mp h)).1

theorem seg_insert {f : Ptr → Ptr} {a b p : Ptr} {l1 l2 : List Ptr}
    (h : Seg f a (l1 ++ l2) b) (hp0 : p ≠ 0) (hnd : (l1 ++ p :: l2).Nodup) :
    Seg (upd (upd f (l1.getLastD 0) p) p (l2.headD b)) (l1.headD p) (l1 ++ p :: l2) b := by
  obtain ⟨h1, h2⟩ := seg_append.mp h
  obtain rfl := seg_start h1
  obtain ⟨k1, k2⟩ := seg_redirect (d := p) h1 h2 (hnd.sublist (sublist_remove ..))
  have hfr : ∀ y ∈ l1 ++ l2, upd (upd f (l1.getLastD 0) p) p (l2.headD b) y = upd f (l1.getLastD 0) p y :=
    fun y hy => upd_other _ _ _ _ fun e => nodup_middle_not_mem hnd (e ▸ hy)
  refine seg_append.mpr ⟨seg_frame k1 fun y hy => hfr y (List.mem_append_left _ hy), rfl, hp0, ?_⟩
  rw [upd_same]
  exact seg_frame k2 fun y hy => hfr y (List.mem_append_right _ hy)

theorem seg_remove {f : Ptr → Ptr} {a b p : Ptr} {l1 l2 : List Ptr}
    (h : Seg f a (l1 ++ p :: l2) b) (hnd : (l1 ++ p :: l2).Nodup) :
    Seg (upd f (l1.getLastD 0) (f p)) (l1.headD (f p)) (l1 ++ l2) b := by
  obtain ⟨h1, -, -, h2⟩ := seg_append.mp h
  obtain rfl := seg_start h1
  have e := seg_start h2
  rw [e] at h2 ⊢
  exact seg_append.mpr (seg_redirect h1 h2 (hnd.sublist (sublist_remove ..)))

theorem headD_append (l m : List Ptr) (d : Ptr) : (l ++ m).headD d = l.headD (m.headD d) := by
  cases l <;> rfl

theorem headD_concat_append (l m : List Ptr) (z d : Ptr) :
    (l ++ [z] ++ m).headD d = (l ++ [z]).headD d := by
  cases l <;> simp

theorem headD_reverse (l : List Ptr) (d : Ptr) : l.reverse.headD d = l.getLastD d := by
  simp [List.headD_eq_head?_getD, List.getLastD_eq_getLast?]

theorem getLastD_reverse (l : List Ptr) (d : Ptr) : l.reverse.getLastD d = l.headD d := by
  simp [List.headD_eq_head?_getD, List.getLastD_eq_getLast?]

def Sorted (rk : Ptr → Int) (xs : List Ptr) : Prop := xs.Pairwise (fun a b => rk a < rk b)

theorem Sorted.nodup {rk : Ptr → Int} {xs : List Ptr} (h : Sorted rk xs) : xs.Nodup :=
  List.Pairwise.imp (fun hab e => by subst e; omega) h

theorem Sorted.congr {rk rk' : Ptr → Int} {xs : List Ptr} (h : Sorted rk xs)
    (he : ∀ x ∈ xs, rk' x = rk x) : Sorted rk' xs :=
  List.Pairwise.imp_of_mem (fun ha hb hab => by rw [he _ ha, he _ hb]; exact hab) h

theorem Sorted.inj {rk : Ptr → Int} {xs : List Ptr} (h : Sorted rk xs) {p q : Ptr} (hp : p ∈ xs) (hq : q ∈ xs)
    (e : rk p = rk q) : p = q := by
  induction xs with
  | nil => cases hp
  | cons a l ih =>
    have hl := List.pairwise_cons.mp h
    rcases List.mem_cons.mp hp with rfl | hp' <;> rcases List.mem_cons.mp hq with rfl | hq'
    · rfl
    · have := hl.1 q hq'; omega
    · have := hl.1 p hp'; omega
    · exact ih hl.2 hp' hq'

theorem sorted_insert {rk : Ptr → Int} {l1 l2 : List Ptr} {p : Ptr} (hs : Sorted rk (l1 ++ l2))
    (h1 : ∀ y ∈ l1, rk y < rk p) (h2 : ∀ y ∈ l2, rk p < rk y) : Sorted rk (l1 ++ p :: l2) := by
  unfold Sorted at *
  rw [List.pairwise_append] at hs ⊢
  refine ⟨hs.1, List.pairwise_cons.mpr ⟨h2, hs.2.1⟩, fun a ha b hb => ?_⟩
  rcases List.mem_cons.mp hb with rfl | hb
  · exact h1 a ha
  · exact hs.2.2 a ha b hb

theorem sorted_remove {rk : Ptr → Int} {l1 l2 : List Ptr} {p : Ptr} (hs : Sorted rk (l1 ++ p :: l2)) :
    Sorted rk (l1 ++ l2) :=
  List.Pairwise.sublist (sublist_remove ..) hs

/-! ### the loops -/

theorem walk_seg {f : Ptr → Ptr} : ∀ (xs : List Ptr) (a : Ptr) (n : Nat),
    Seg f a xs 0 → xs.length ≤ n → walk f n a = xs
  | [], _, n, h, _ => by cases h; cases n <;> simp [walk]
  | _ :: _, _, 0, _, hn => by simp at hn
  | x :: xs, a, n + 1, ⟨h1, h2, h3⟩, hn => by
    subst h1
    simp only [walk, h2, if_false]
    rw [walk_seg xs _ n h3 (by simpa using hn)]

theorem findLoop_spec (s : St) (r : Int) : ∀ (xs : List Ptr) (a : Ptr) (n : Nat),
    Seg s.next a xs 0 → Sorted s.rank xs → xs.length < n →
    findLoop s r n a = some (decide (r ∈ xs.map s.rank))
  | _, _, 0, _, _, hn => by simp at hn
  | [], _, n + 1, h, _, _ => by cases h; simp [findLoop]
  | x :: xs, a, n + 1, ⟨h1, h2, h3⟩, hs, hn => by
    subst h1
    have hs' := List.pairwise_cons.mp hs
    have ih := findLoop_spec s r xs _ n h3 hs'.2 (by simpa using hn)
    simp only [findLoop, h2, if_false, ih, List.map_cons, List.mem_cons]
    by_cases he : s.rank a = r
    · simp [he]
    · by_cases hg : s.rank a > r
      · -- the ranks further on are larger still
        have : r ∉ xs.map s.rank := fun hm => by
          obtain ⟨y, hy, e⟩ := List.mem_map.mp hm
          have := hs'.1 y hy
          omega
        simp [he, hg, this, Ne.symm he]
      · simp [he, hg, Ne.symm he]

/-- the `rank == -1` loop, started at `r` on a sorted list with ranks `≥ r`, returns the least value `≥ r` that is
not a rank in the list -/
theorem mexLoop_spec (s : St) : ∀ (xs : List Ptr) (a : Ptr) (n : Nat) (r : Int),
    Seg s.next a xs 0 → Sorted s.rank xs → (∀ y ∈ xs, r ≤ s.rank y) → xs.length < n →
    ∃ m, mexLoop s n r a = some m ∧ r ≤ m ∧ m ∉ xs.map s.rank ∧ ∀ k, r ≤ k → k < m → k ∈ xs.map s.rank
  | _, _, 0, _, _, _, _, hn => by simp at hn
  | [], _, n + 1, r, h, _, _, _ => by
    cases h
    exact ⟨r, by simp [mexLoop], Int.le_refl r, by simp, fun k h1 h2 => by omega⟩
  | x :: xs, a, n + 1, r, ⟨h1, h2, h3⟩, hs, hlb, hn => by
    subst h1
    have hs' := List.pairwise_cons.mp hs
    simp only [mexLoop, h2, if_false, List.map_cons, List.mem_cons, not_or]
    by_cases he : s.rank a = r
    · obtain ⟨m, hm, hle, hnin, hall⟩ := mexLoop_spec s xs _ n (r + 1) h3 hs'.2
        (fun y hy => by have := hs'.1 y hy; omega) (by simpa using hn)
      refine ⟨m, by rw [if_pos he]; exact hm, by omega, ⟨by omega, hnin⟩, fun k hk1 hk2 => ?_⟩
      by_cases hk : k = r
      · exact Or.inl (hk.trans he.symm)
      · exact Or.inr (hall k (by omega) hk2)
    · -- `r` itself is missing: the head is larger, and so is everything after it
      have hq := hlb a (by simp)
      refine ⟨r, by rw [if_neg he], Int.le_refl r, ⟨fun e => he e.symm, fun hm => ?_⟩, fun k h1 h2 => by omega⟩
      obtain ⟨y, hy, e⟩ := List.mem_map.mp hm
      have := hs'.1 y hy
      omega

theorem addLoop_spec (s : St) (r : Int) : ∀ (xs : List Ptr) (a pp : Ptr) (n : Nat),
    Seg s.next a xs 0 → Sorted s.rank xs → (∀ y ∈ xs, s.rank y ≠ r) → xs.length < n →
    ∃ l1 l2, xs = l1 ++ l2 ∧ (∀ y ∈ l1, s.rank y < r) ∧ (∀ y ∈ l2, r < s.rank y) ∧
      addLoop s r n pp a = some (l1.getLastD pp, l2.headD 0)
  | _, _, _, 0, _, _, _, hn => by simp at hn
  | [], _, _, n + 1, h, _, _, _ => by cases h; exact ⟨[], [], by simp [addLoop]⟩
  | x :: xs, a, pp, n + 1, ⟨h1, h2, h3⟩, hs, hne, hn => by
    subst h1
    have hs' := List.pairwise_cons.mp hs
    have hxa : ¬ s.rank a = r := hne a (by simp)
    by_cases hg : s.rank a > r
    · refine ⟨[], a :: xs, rfl, by simp, ?_, by simp [addLoop, h2, hxa, hg]⟩
      exact List.forall_mem_cons.mpr ⟨hg, fun y hy => by have := hs'.1 y hy; omega⟩
    · obtain ⟨l1, l2, e, hl1, hl2, hl⟩ := addLoop_spec s r xs (s.next a) a n h3 hs'.2
        (fun y hy => hne y (by simp [hy])) (by simpa using hn)
      refine ⟨a :: l1, l2, by simp [e], List.forall_mem_cons.mpr ⟨by omega, hl1⟩, hl2, ?_⟩
      simp only [addLoop, h2, if_false, hxa, hg, hl]
      cases l1 <;> simp [List.getLastD]

/-! ### doubly linked list = forward segment along `p_next` + backward segment along `p_prev` -/

structure DL (nx pv : Ptr → Ptr) (hd : Ptr) (xs : List Ptr) : Prop where
  fwd : Seg nx hd xs 0
  bwd : Seg pv (xs.getLastD 0) xs.reverse 0

theorem DL.frame {nx pv nx' pv' : Ptr → Ptr} {hd : Ptr} {xs : List Ptr} (h : DL nx pv hd xs)
    (hn : ∀ x ∈ xs, nx' x = nx x) (hp : ∀ x ∈ xs, pv' x = pv x) : DL nx' pv' hd xs :=
  ⟨seg_frame h.fwd hn, seg_frame h.bwd (fun x hx => hp x (by simpa using hx))⟩

theorem reverse_split (l1 l2 : List Ptr) (p : Ptr) : (l1 ++ p :: l2).reverse = l2.reverse ++ p :: l1.reverse := by
  simp

theorem dl_prev_of_split {nx pv : Ptr → Ptr} {hd x : Ptr} {l1 l2 : List Ptr}
    (h : DL nx pv hd (l1 ++ x :: l2)) : pv x = l1.getLastD 0 := by
  have hb := h.bwd
  rw [reverse_split] at hb
  rw [seg_start (seg_append.mp hb).2.2.2, headD_reverse]

theorem dl_next_of_split {nx pv : Ptr → Ptr} {hd x : Ptr} {l1 l2 : List Ptr}
    (h : DL nx pv hd (l1 ++ x :: l2)) : nx x = l2.headD 0 :=
  seg_start (seg_append.mp h.fwd).2.2.2

theorem dl_head_of_split {nx pv : Ptr → Ptr} {hd : Ptr} {l1 l2 : List Ptr}
    (h : DL nx pv hd (l1 ++ l2)) (h0 : l1.getLastD 0 = 0) : hd = l2.headD 0 := by
  rw [← if_pos h0 (t := l2.headD 0) (e := hd), seg_head (seg_append.mp h.fwd).1, ← headD_append]
  exact seg_start h.fwd

/-- link `p` in between `l1` and `l2`: besides the fields of `p`, only `p_next` of the node before and `p_prev` of
the node after change, and the head if there is no node before -/
theorem dl_insert {nx pv : Ptr → Ptr} {hd p : Ptr} {l1 l2 : List Ptr}
    (h : DL nx pv hd (l1 ++ l2)) (hp0 : p ≠ 0) (hnd : (l1 ++ p :: l2).Nodup) :
    DL (upd (upd nx (l1.getLastD 0) p) p (l2.headD 0)) (upd (upd pv (l2.headD 0) p) p (l1.getLastD 0))
      (if l1.getLastD 0 = 0 then p else hd) (l1 ++ p :: l2) := by
  constructor
  · rw [seg_head (seg_append.mp h.fwd).1]
    exact seg_insert h.fwd hp0 hnd
  · have hb := h.bwd
    rw [List.reverse_append] at hb
    have := seg_insert hb hp0 (reverse_split .. ▸ Heap.nodup_reverse.mpr hnd)
    rw [getLastD_reverse, headD_reverse] at this
    rwa [← headD_reverse (l1 ++ p :: l2), reverse_split, headD_append, List.headD_cons]

/-- unlink `p`: the same fields -/
theorem dl_remove {nx pv : Ptr → Ptr} {hd p : Ptr} {l1 l2 : List Ptr}
    (h : DL nx pv hd (l1 ++ p :: l2)) (hnd : (l1 ++ p :: l2).Nodup) :
    DL (upd nx (pv p) (nx p)) (upd pv (nx p) (pv p)) (if pv p = 0 then nx p else hd) (l1 ++ l2) := by
  have hpv := dl_prev_of_split h
  constructor
  · rw [hpv, seg_head (seg_append.mp h.fwd).1]
    exact seg_remove h.fwd hnd
  · have hb := h.bwd
    rw [reverse_split] at hb
    have := seg_remove hb (reverse_split .. ▸ Heap.nodup_reverse.mpr hnd)
    rw [getLastD_reverse, ← dl_next_of_split h] at this
    rwa [List.reverse_append, ← headD_reverse, List.reverse_append, headD_append, headD_reverse l1, ← hpv]

/-- what `xstream_add_xstream_list` writes once its loop has stopped at `(pp, x)`: `p` is linked in before `x` and
behind `z`, the node that was before `x` or the last one (each NULL if there is none).  If `p` becomes the head
of a non-empty list, `p->p_prev` is not written. -/
theorem addList_writes {s : St} {p pp x z : Ptr}
    (hloop : addLoop s (s.rank p) (fuel s) s.head s.head = some (pp, x))
    (hz : z = if x = 0 then pp else s.prev x) (hhd : z = 0 → s.head = x) (hxp : x ≠ 0 → p ≠ x)
    (hst : z = 0 → x ≠ 0 → s.prev p = 0) :
    ∃ s', addList s p = some s' ∧ s'.rank = s.rank ∧ s'.num = s.num ∧ s'.term = s.term ∧
      s'.head = (if z = 0 then p else s.head) ∧
      (∀ y, y ≠ 0 → s'.next y = upd (upd s.next z p) p x y) ∧
      s'.prev p = z ∧ (∀ y, y ≠ 0 → y ≠ p → s'.prev y = upd s.prev x p y) := by
  unfold addList
  rw [hloop]
  -- the four shapes of the C code: `p_xstream` / `p_prev_xstream` (or `p_xstream->p_prev`) NULL or not
  by_cases hx : x = 0 <;> by_cases hz0 : z = 0 <;> simp only [hx, if_true, if_false] at hz <;>
    simp only [hx, ← hz, hz0, hhd, if_true, if_false, ne_eq, not_true_eq_false, not_false_eq_true] <;>
    refine ⟨_, rfl, rfl, rfl, rfl, ?_⟩ <;> simp +contextual [upd, hz0, hx, hxp, hst]

/-- `xstream_add_xstream_list` inserts `p` at its rank position and keeps the list doubly linked,
provided that — if `p` goes in front of the current head — `p->p_prev` is already NULL
(the C code does not write it on that path). -/
theorem addList_spec (s : St) (p : Ptr) (xs : List Ptr)
    (hdl : DL s.next s.prev s.head xs) (hs : Sorted s.rank xs) (hp0 : p ≠ 0) (hpx : p ∉ xs)
    (hne : ∀ y ∈ xs, s.rank y ≠ s.rank p) (hlen : xs.length < fuel s)
    (hstale : s.head ≠ 0 → s.rank p < s.rank s.head → s.prev p = 0) :
    ∃ s' l1 l2, addList s p = some s' ∧ xs = l1 ++ l2 ∧
      (∀ y ∈ l1, s.rank y < s.rank p) ∧ (∀ y ∈ l2, s.rank p < s.rank y) ∧
      DL s'.next s'.prev s'.head (l1 ++ p :: l2) ∧ s'.rank = s.rank ∧ s'.num = s.num := by
  obtain ⟨l1, l2, rfl, hl1, hl2, hloop⟩ :=
    addLoop_spec s (s.rank p) xs s.head s.head (fuel s) hdl.fwd hs hne hlen
  have hhd := dl_head_of_split hdl
  have hx : l2.headD 0 ≠ 0 → l2.headD 0 ∈ l2 ∧ s.prev (l2.headD 0) = l1.getLastD 0 := by
    cases l2 with
    | nil => exact fun h => absurd rfl h
    | cons x l2 => exact fun _ => ⟨by simp, dl_prev_of_split hdl⟩
  have hz : l1.getLastD 0 = if l2.headD 0 = 0 then l1.getLastD s.head else s.prev (l2.headD 0) := by
    split
    · next h => rw [seg_start hdl.fwd, headD_append, h]; cases l1 <;> rfl
    · next h => exact (hx h).2.symm
  obtain ⟨s', hadd, hrk, hnum, -, hh, hn, hpp, hp⟩ := addList_writes hloop hz hhd
    (fun h e => hpx (e ▸ List.mem_append_right _ (hx h).1))
    (fun h0 h => by rw [hhd h0] at hstale; exact hstale h (hl2 _ (hx h).1))
  have hdl' := dl_insert hdl hp0 (sorted_insert hs hl1 hl2).nodup
  have hnz := seg_nonzero hdl'.fwd
  refine ⟨s', l1, l2, hadd, rfl, hl1, hl2, hh ▸ hdl'.frame (fun y hy => hn y (hnz y hy)) fun y hy => ?_,
    hrk, hnum⟩
  by_cases e : y = p
  · rw [e, hpp, upd_same]
  · rw [hp y (hnz y hy) e, upd_other _ _ _ _ e]

/-- what `xstream_remove_xstream_list` writes; `p` keeps its own (now stale) `p_prev`/`p_next` -/
theorem removeList_writes {s : St} {p : Ptr} (hhd : s.prev p = 0 → s.head = p) (hzp : p ≠ s.prev p) :
    ∃ s', removeList s p = some s' ∧ s'.rank = s.rank ∧ s'.num = s.num ∧ s'.term = s.term ∧
      s'.head = (if s.prev p = 0 then s.next p else s.head) ∧
      (∀ y, y ≠ 0 → s'.next y = upd s.next (s.prev p) (s.next p) y) ∧
      (∀ y, y ≠ 0 → s'.prev y = upd s.prev (s.next p) (s.prev p) y) := by
  unfold removeList
  -- the four shapes of the C code: `p_xstream->p_prev` / `p_xstream->p_next` NULL or not
  by_cases hz0 : s.prev p = 0 <;> by_cases hx : s.next p = 0 <;>
    simp only [hz0, hhd, upd_other _ _ _ _ hzp, hx, if_true, if_false, ne_eq, not_true_eq_false, not_false_eq_true] <;>
    refine ⟨_, rfl, rfl, rfl, rfl, ?_⟩ <;> simp +contextual [upd]

theorem removeList_spec (s : St) (p : Ptr) (l1 l2 : List Ptr)
    (hdl : DL s.next s.prev s.head (l1 ++ p :: l2)) (hnd : (l1 ++ p :: l2).Nodup) :
    ∃ s', removeList s p = some s' ∧ DL s'.next s'.prev s'.head (l1 ++ l2) ∧ s'.rank = s.rank ∧ s'.num = s.num := by
  have hpv := dl_prev_of_split hdl
  have hp0 := seg_nonzero hdl.fwd p (by simp)
  have hzp : p ≠ s.prev p := fun e =>
    nodup_middle_not_mem hnd (List.mem_append_left _ (mem_of_eq_getLastD hp0 (hpv ▸ e)))
  obtain ⟨s', hrm, hrk, hnum, -, hh, hn, hp⟩ := removeList_writes (fun h => dl_head_of_split hdl (hpv ▸ h)) hzp
  have hdl' := dl_remove hdl hnd
  have hnz := seg_nonzero hdl'.fwd
  exact ⟨s', hrm, hh ▸ hdl'.frame (fun y hy => hn y (hnz y hy)) (fun y hy => hp y (hnz y hy)), hrk, hnum⟩

/-! ### the representation invariant -/

/-- `xs` = the live streams in list order: doubly linked through `p_next`/`p_prev`, strictly
sorted by rank, counted by `num_xstreams`, headed by the primary stream holding rank 0 -/
structure R (s : St) (xs : List Ptr) : Prop where
  dl : DL s.next s.prev s.head xs
  sorted : Sorted s.rank xs
  num : s.num = xs.length
  prim : xs.head? = some primaryId
  prim0 : s.rank primaryId = 0

theorem R.fuel {s : St} {xs : List Ptr} (h : R s xs) : xs.length < fuel s := by
  unfold Rank.fuel; rw [h.num]; simp

theorem R.live_eq {s : St} {xs : List Ptr} (h : R s xs) : live s = xs :=
  walk_seg xs s.head _ h.dl.fwd (Nat.le_of_lt h.fuel)

theorem R.rank_pos {s : St} {xs : List Ptr} (h : R s xs) :
    ∀ y ∈ xs, y ≠ primaryId → 0 < s.rank y := by
  obtain ⟨ys, rfl⟩ := List.head?_eq_some_iff.mp h.prim
  intro y hy hne
  rw [← h.prim0]
  exact (List.pairwise_cons.mp h.sorted).1 y ((List.mem_cons.mp hy).resolve_left hne)

theorem R.rank_nonneg {s : St} {xs : List Ptr} (h : R s xs) : ∀ y ∈ xs, 0 ≤ s.rank y := by
  intro y hy
  by_cases hne : y = primaryId
  · rw [hne, h.prim0]; exact Int.le_refl 0
  · exact Int.le_of_lt (h.rank_pos y hy hne)

theorem R.nonzero {s : St} {xs : List Ptr} (h : R s xs) : ∀ y ∈ xs, y ≠ 0 := seg_nonzero h.dl.fwd

theorem R.ranks_pairwise {s : St} {xs : List Ptr} (h : R s xs) :
    (xs.map s.rank).Pairwise (· < ·) := by
  rw [List.pairwise_map]; exact h.sorted

theorem not_mem_ranks {s : St} {xs : List Ptr} {r : Int} (h : r ∉ xs.map s.rank) :
    ∀ y ∈ xs, s.rank y ≠ r :=
  fun y hy e => h (List.mem_map.mpr ⟨y, hy, e⟩)

theorem R.findLoop {s : St} {xs : List Ptr} (h : R s xs) (r : Int) :
    findLoop s r (Rank.fuel s) s.head = some (decide (r ∈ xs.map s.rank)) :=
  findLoop_spec s r xs s.head _ h.dl.fwd h.sorted h.fuel

theorem R.mexLoop {s : St} {xs : List Ptr} (h : R s xs) :
    ∃ r, mexLoop s (Rank.fuel s) 0 s.head = some r ∧
      0 ≤ r ∧ r ∉ xs.map s.rank ∧ ∀ k, 0 ≤ k → k < r → k ∈ xs.map s.rank :=
  mexLoop_spec s xs s.head _ 0 h.dl.fwd h.sorted h.rank_nonneg h.fuel

theorem R.reset {s : St} {xs : List Ptr} (h : R s xs) {p : Ptr} (hpx : p ∉ xs) :
    R { s with prev := upd s.prev p 0, next := upd s.next p 0 } xs := by
  have hne : ∀ x ∈ xs, x ≠ p := fun x hx e => hpx (e ▸ hx)
  exact ⟨h.dl.frame (fun x hx => upd_other _ _ _ _ (hne x hx)) (fun x hx => upd_other _ _ _ _ (hne x hx)),
    h.sorted, h.num, h.prim, h.prim0⟩

theorem R.term_irrel {s : St} {xs : List Ptr} (h : R s xs) (t : Ptr → Bool) : R { s with term := t } xs :=
  ⟨h.dl, h.sorted, h.num, h.prim, h.prim0⟩

theorem head?_remove {l1 l2 : List Ptr} {p q : Ptr} (h : (l1 ++ p :: l2).head? = some q) (hq : q ≠ p) :
    (l1 ++ l2).head? = some q := by
  cases l1 with
  | nil => exact absurd (Option.some.inj h).symm hq
  | cons a l1 => exact h

theorem head?_insert {l1 l2 : List Ptr} {q : Ptr} (p : Ptr) (h : (l1 ++ l2).head? = some q) (hq : q ∉ l2) :
    (l1 ++ p :: l2).head? = some q := by
  cases l1 with
  | nil => exact absurd (List.mem_of_mem_head? h) hq
  | cons a l1 => exact h

/-- give a descriptor outside the list the unused rank `r ≥ 0` and link it in: what `xstream_set_new_rank` and
`xstream_change_rank` have in common -/
theorem link_spec (s : St) (xs : List Ptr) (p : Ptr) (r : Int)
    (hdl : DL s.next s.prev s.head xs) (hs : Sorted s.rank xs) (hprim : xs.head? = some primaryId)
    (hprim0 : s.rank primaryId = 0) (hlen : xs.length < fuel s) (hp0 : p ≠ 0) (hpx : p ∉ xs) (hr : 0 ≤ r)
    (hru : ∀ y ∈ xs, s.rank y ≠ r) :
    ∃ s' l1 l2, addList { s with rank := upd s.rank p r } p = some s' ∧ xs = l1 ++ l2 ∧
      DL s'.next s'.prev s'.head (l1 ++ p :: l2) ∧ Sorted s'.rank (l1 ++ p :: l2) ∧
      (l1 ++ p :: l2).head? = some primaryId ∧ s'.rank primaryId = 0 ∧
      s'.rank = upd s.rank p r ∧ s'.num = s.num := by
  have hrk : ∀ y ∈ xs, upd s.rank p r y = s.rank y := fun y hy => upd_other _ _ _ _ fun e => hpx (e ▸ hy)
  have hrp : upd s.rank p r p = r := upd_same ..
  have hpm := List.mem_of_mem_head? hprim
  have hp1 : upd s.rank p r primaryId = 0 := by rw [hrk _ hpm, hprim0]
  -- the primary's rank 0 is taken, so it is below `r`
  have hr1 : ¬ upd s.rank p r p < upd s.rank p r primaryId := by have := hru _ hpm; omega
  have hh : s.head = primaryId := by rw [seg_start hdl.fwd, List.headD_eq_head?_getD, hprim]; rfl
  obtain ⟨s', l1, l2, hadd, rfl, hl1, hl2, hdl', hrank, hnum⟩ :=
    addList_spec { s with rank := upd s.rank p r } p xs hdl (hs.congr hrk) hp0 hpx
      (fun y hy => by show upd s.rank p r y ≠ upd s.rank p r p; rw [hrk y hy, hrp]; exact hru y hy) hlen
      (fun _ hlt => absurd (hh ▸ hlt) hr1)
  exact ⟨s', l1, l2, hadd, rfl, hdl', hrank ▸ sorted_insert (hs.congr hrk) hl1 hl2,
    head?_insert p hprim fun hm => hr1 (hl2 _ hm), hrank ▸ hp1, hrank, hnum⟩

/-! ### the invariant over the list the model itself walks; what a call does to it -/

/-- the invariant, with the node list read off the heap (no existential) -/
def WF (s : St) : Prop := R s (live s)

theorem R.wf {s : St} {xs : List Ptr} (h : R s xs) : WF s := by
  unfold WF; rw [h.live_eq]; exact h

theorem init_R : R init [primaryId] :=
  ⟨⟨⟨rfl, by decide, rfl⟩, ⟨rfl, by decide, rfl⟩⟩, by simp [Sorted], rfl, rfl, rfl⟩

theorem init_wf : WF init := init_R.wf

theorem ranks_eq {s : St} (h : WF s) : ranks s = (live s).map s.rank := rfl

/-- nothing: same streams in the same order, same ranks, same counter (the descriptor's private fields and the
life-cycle flags may differ) -/
structure Quiet (s s' : St) : Prop where
  wf : WF s'
  live : live s' = live s
  rank : s'.rank = s.rank
  num : s'.num = s.num

/-- afterwards `p` is live with rank `r`; every other stream is where and what it was -/
structure Placed (s s' : St) (p : Ptr) (r : Int) : Prop where
  wf : WF s'
  mem : ∀ q, q ∈ live s' ↔ q = p ∨ q ∈ live s
  rank : s'.rank = upd s.rank p r

/-- afterwards `p` is gone; every other stream is where and what it was -/
structure Removed (s s' : St) (p : Ptr) : Prop where
  wf : WF s'
  mem : ∀ q, q ∈ live s' ↔ q ∈ live s ∧ q ≠ p
  rank : s'.rank = s.rank
  len : (live s').length + 1 = (live s).length

theorem Quiet.refl {s : St} (hw : WF s) : Quiet s s := ⟨hw, rfl, rfl, rfl⟩

theorem Quiet.term {s : St} (hw : WF s) (t : Ptr → Bool) : Quiet s { s with term := t } :=
  ⟨(R.term_irrel hw t).wf, rfl, rfl, rfl⟩

theorem Quiet.reset {s : St} (hw : WF s) {p : Ptr} (hpx : p ∉ Rank.live s) :
    Quiet s { s with prev := upd s.prev p 0, next := upd s.next p 0 } :=
  ⟨(R.reset hw hpx).wf, (R.reset hw hpx).live_eq, rfl, rfl⟩

theorem Quiet.ranks {s s' : St} (h : Quiet s s') : ranks s' = ranks s := by
  unfold Rank.ranks; rw [h.live, h.rank]

theorem Quiet.placed {s s1 s' : St} {p : Ptr} {r : Int} (hq : Quiet s s1) (h : Placed s1 s' p r) : Placed s s' p r :=
  ⟨h.wf, fun q => by rw [h.mem, hq.live], by rw [h.rank, hq.rank]⟩

theorem Placed.term {s s' : St} {p : Ptr} {r : Int} (h : Placed s s' p r) (t : Ptr → Bool) :
    Placed s { s' with term := t } p r :=
  ⟨(R.term_irrel h.wf t).wf, h.mem, h.rank⟩

theorem mem_insert_iff {l1 l2 : List Ptr} {p q : Ptr} : q ∈ l1 ++ p :: l2 ↔ q = p ∨ q ∈ l1 ++ l2 := by
  simp only [List.mem_append, List.mem_cons]
  exact or_left_comm

/-- tail of `xstream_set_new_rank`: a fresh descriptor `p` with an unused rank `r ≥ 0` -/
theorem grant_spec (s : St) (p : Ptr) (r : Int) (hw : WF s) (hp0 : p ≠ 0) (hpx : p ∉ live s) (hr : 0 ≤ r)
    (hnin : r ∉ ranks s) : ∃ s', grant s p r = some (s', true) ∧ Placed s s' p r := by
  have h : R s (live s) := hw
  obtain ⟨s2, l1, l2, hadd, e, hdl, hso, hpr, hp1, hrank, hnum⟩ :=
    link_spec s (live s) p r h.dl h.sorted h.prim h.prim0 h.fuel hp0 hpx hr (not_mem_ranks hnin)
  have hR : R { s2 with num := s2.num + 1 } (l1 ++ p :: l2) := by
    refine ⟨hdl, hso, ?_, hpr, hp1⟩
    show s2.num + 1 = _
    rw [hnum, h.num, e]; simp; omega
  exact ⟨_, by simp only [grant, hadd], hR.wf, fun q => by rw [hR.live_eq, e]; exact mem_insert_iff, hrank⟩

/-- `xstream_set_new_rank(…, -1)`: grants the least non-negative rank not in the list -/
theorem setNewRank_auto (s : St) (p : Ptr) (hw : WF s) (hp0 : p ≠ 0) (hpx : p ∉ live s) :
    ∃ s' r, setNewRank s p (-1) = some (s', true) ∧ Placed s s' p r ∧
      0 ≤ r ∧ r ∉ ranks s ∧ ∀ k, 0 ≤ k → k < r → k ∈ ranks s := by
  obtain ⟨r, hm, h0, hnin, hall⟩ := R.mexLoop hw
  obtain ⟨s', hg, hpl⟩ := grant_spec s p r hw hp0 hpx h0 hnin
  exact ⟨s', r, by simp only [setNewRank, if_true, hm, hg], hpl, h0, hnin, hall⟩

/-- `xstream_set_new_rank(…, r)`, `r ≥ 0`: refused iff a node with rank `r` is in the list -/
theorem setNewRank_exact (s : St) (p : Ptr) (r : Int) (hw : WF s) (hp0 : p ≠ 0) (hpx : p ∉ live s) (hr : 0 ≤ r) :
    (r ∈ ranks s → setNewRank s p r = some (s, false)) ∧
    (r ∉ ranks s → ∃ s', setNewRank s p r = some (s', true) ∧ Placed s s' p r) := by
  have hne : ¬ r = -1 := by omega
  refine ⟨fun hin => by simp [setNewRank, hne, R.findLoop hw, show r ∈ (live s).map s.rank from hin], fun hnin => ?_⟩
  obtain ⟨s', hg, hpl⟩ := grant_spec s p r hw hp0 hpx hr hnin
  exact ⟨s', by simp [setNewRank, hne, R.findLoop hw, show r ∉ (live s).map s.rank from hnin, hg], hpl⟩

/-- `xstream_return_rank`: unlinks a live non-primary stream and decrements the counter -/
theorem returnRank_spec (s : St) (p : Ptr) (hw : WF s) (hpx : p ∈ live s) (hpp : p ≠ primaryId) :
    ∃ s', returnRank s p = some s' ∧ Removed s s' p := by
  have h : R s (live s) := hw
  obtain ⟨l1, l2, e⟩ := List.append_of_mem hpx
  rw [e] at h
  have hnd := h.sorted.nodup
  obtain ⟨s1, hrm, hdl, hrk, hnum⟩ := removeList_spec s p l1 l2 h.dl hnd
  have hR : R { s1 with num := s1.num - 1 } (l1 ++ l2) := by
    refine ⟨hdl, hrk ▸ sorted_remove h.sorted, ?_, head?_remove h.prim hpp.symm, hrk ▸ h.prim0⟩
    show s1.num - 1 = _
    rw [hnum, h.num]; simp; omega
  refine ⟨_, by simp only [returnRank, hrm], hR.wf, fun q => ?_, hrk, by rw [hR.live_eq, e]; simp; omega⟩
  -- the list has no duplicates, so `p` does not occur in what is left
  rw [hR.live_eq, e, mem_insert_iff]
  exact ⟨fun hq => ⟨Or.inr hq, fun e => nodup_middle_not_mem hnd (e ▸ hq)⟩, fun h => h.1.resolve_left h.2⟩

/-- `xstream_change_rank` to an unused rank `r ≥ 0` of a live non-primary stream: remove, set the rank, add again -/
theorem changeRank_move (s : St) (p : Ptr) (r : Int) (hw : WF s) (hpx : p ∈ live s)
    (hpp : p ≠ primaryId) (hr : 0 ≤ r) (hne : s.rank p ≠ r) (hnin : r ∉ ranks s) :
    ∃ s', changeRank s p r = some (s', true) ∧ Placed s s' p r := by
  have h : R s (live s) := hw
  have hfl := h.findLoop r
  have hfuel := h.fuel
  have hnin : r ∉ (live s).map s.rank := hnin
  obtain ⟨l1, l2, e⟩ := List.append_of_mem hpx
  rw [e] at h hfl hnin hfuel
  have hnd := h.sorted.nodup
  obtain ⟨s1, hrm, hdl1, hrk1, hnum1⟩ := removeList_spec s p l1 l2 h.dl hnd
  obtain ⟨s3, m1, m2, hadd, e3, hdl3, hso3, hpr3, hp13, hrank3, hnum3⟩ :=
    link_spec s1 (l1 ++ l2) p r hdl1 (hrk1 ▸ sorted_remove h.sorted) (head?_remove h.prim hpp.symm)
      (hrk1 ▸ h.prim0) (by unfold fuel at hfuel ⊢; rw [hnum1]; simp at hfuel ⊢; omega) (h.nonzero p (by simp))
      (nodup_middle_not_mem hnd) hr
      (fun y hy => hrk1 ▸ not_mem_ranks hnin y (mem_insert_iff.mpr (Or.inr hy)))
  have hlen : (m1 ++ m2).length = (l1 ++ l2).length := by rw [e3]
  have hR : R s3 (m1 ++ p :: m2) := by
    refine ⟨hdl3, hso3, ?_, hpr3, hp13⟩
    rw [hnum3, hnum1, h.num]
    simp at hlen ⊢; omega
  refine ⟨s3, ?_, hR.wf, fun q => ?_, hrk1 ▸ hrank3⟩
  · simp only [changeRank, hne, if_false, hfl, hnin, decide_false, hrm, hadd]
  · rw [hR.live_eq, e, mem_insert_iff, mem_insert_iff, e3, or_self_left]

/-! ### API level -/

theorem step_eq {s : St} {op : Op} (h : Pre s op = true) : step s op = apiStep s op := by
  simp [step, h]

theorem pre_of_step {s : St} {op : Op} {x : St × Out} (h : step s op = some x) : Pre s op = true := by
  unfold step at h
  split at h
  · assumption
  · cases h

/-- `malloc` returned a fresh address -/
theorem pre_create {s : St} {p : Ptr} : Pre s (.create p) = true ↔ p ≠ 0 ∧ p ∉ live s := by
  simp [Pre]

theorem pre_createw {s : St} {p : Ptr} {r : Int} : Pre s (.createWithRank p r) = true ↔ p ≠ 0 ∧ p ∉ live s := by
  simp [Pre]

/-- a non-NULL handle passed to set_rank / free denotes a live stream -/
theorem pre_setrank {s : St} {p : Ptr} {r : Int} (h : Pre s (.setRank p r) = true) (hp0 : p ≠ 0) : p ∈ live s := by
  simpa [Pre, hp0] using h

theorem pre_free {s : St} {p : Ptr} (h : Pre s (.free p) = true) (hp0 : p ≠ 0) : p ∈ live s := by
  simpa [Pre, hp0] using h

/-- **the calls, branch by branch of the C code**: result and effect of a call made from `s`.  The calls that do not
touch the list (join, revive, get_rank, get_num) are what `apiStep` says. -/
def Post (s s' : St) (o : Out) : Op → Prop
  | .create p => ∃ r, o = .okRank r ∧ Placed s s' p r ∧ 0 ≤ r ∧ r ∉ ranks s ∧ ∀ k, 0 ≤ k → k < r → k ∈ ranks s
  | .createWithRank p r =>
    if r < 0 ∨ r ∈ ranks s then o = .errRank ∧ Quiet s s' else o = .okRank r ∧ Placed s s' p r
  | .setRank p r =>
    if p = 0 ∨ p = primaryId then o = .errXstream ∧ s' = s
    else if r < 0 then o = .errRank ∧ s' = s
    else if s.rank p = r then o = .ok ∧ s' = s
    else if r ∈ ranks s then o = .errRank ∧ s' = s
    else o = .ok ∧ Placed s s' p r
  | .free p => if p = 0 ∨ p = primaryId then o = .errXstream ∧ s' = s else o = .ok ∧ Removed s s' p
  | op => apiStep s op = some (s', o)

/-- every call whose API preconditions hold is executed to completion — no `ABTI_ASSERT` in add/remove fails, every
walk ends within `num_xstreams + 1` nodes — and does what `Post` says -/
theorem step_spec (s : St) (op : Op) (hw : WF s) (hpre : Pre s op = true) :
    ∃ s' o, step s op = some (s', o) ∧ Post s s' o op := by
  have hR : R s (live s) := hw
  rw [step_eq hpre]
  cases op with
  | create p =>
    obtain ⟨hp0, hpx⟩ := pre_create.mp hpre
    have hq := Quiet.reset hw hpx
    obtain ⟨s1, r, hset, hpl, hmex⟩ := setNewRank_auto _ p hq.wf hp0 (hq.live ▸ hpx)
    exact ⟨{ s1 with term := upd s1.term p false }, .okRank r, by simp [apiStep, xstreamCreate, hset, hpl.rank],
      r, rfl, (hq.placed hpl).term _, hq.ranks ▸ hmex⟩
  | createWithRank p r =>
    obtain ⟨hp0, hpx⟩ := pre_createw.mp hpre
    have hq := Quiet.reset hw hpx
    by_cases hr : r < 0
    · exact ⟨s, .errRank, by simp [apiStep, hr], by simp [Post, hr, Quiet.refl hw]⟩
    have hset := hq.ranks ▸ setNewRank_exact _ p r hq.wf hp0 (hq.live ▸ hpx) (by omega)
    by_cases hin : r ∈ ranks s
    · exact ⟨_, .errRank, by simp [apiStep, xstreamCreate, hr, hset.1 hin], (if_pos (Or.inr hin)).mpr ⟨rfl, hq⟩⟩
    · obtain ⟨s1, hset, hpl⟩ := hset.2 hin
      exact ⟨{ s1 with term := upd s1.term p false }, .okRank r, by simp [apiStep, xstreamCreate, hr, hset, hpl.rank],
        (if_neg (not_or.mpr ⟨hr, hin⟩)).mpr ⟨rfl, (hq.placed hpl).term _⟩⟩
  | setRank p r =>
    by_cases hx0 : p = 0 ∨ p = primaryId
    · exact ⟨s, .errXstream, by rcases hx0 with rfl | rfl <;> simp [apiStep, primaryId], by simp [Post, hx0]⟩
    obtain ⟨hp0, hpp⟩ := not_or.mp hx0
    by_cases hr : r < 0
    · exact ⟨s, .errRank, by simp [apiStep, hp0, hpp, hr], by simp [Post, hx0, hr]⟩
    by_cases he : s.rank p = r
    · exact ⟨s, .ok, by simp [apiStep, hp0, hpp, hr, changeRank, he], by simp [Post, hx0, hr, he]⟩
    by_cases hin : r ∈ ranks s
    · exact ⟨s, .errRank, by simp [apiStep, hp0, hpp, hr, changeRank, he, hR.findLoop, show r ∈ (live s).map s.rank from hin],
        by simp [Post, hx0, hr, he, hin]⟩
    · obtain ⟨s', hch, hpl⟩ := changeRank_move s p r hw (pre_setrank hpre hp0) hpp (by omega) he hin
      exact ⟨s', .ok, by simp [apiStep, hp0, hpp, hr, hch], by simpa only [Post, hx0, hr, he, hin, if_false, true_and] using hpl⟩
  | free p =>
    by_cases hx0 : p = 0 ∨ p = primaryId
    · exact ⟨s, .errXstream, by rcases hx0 with rfl | rfl <;> simp [apiStep, primaryId], by simp [Post, hx0]⟩
    obtain ⟨hp0, hpp⟩ := not_or.mp hx0
    obtain ⟨s', hret, hrm⟩ := returnRank_spec _ p (Quiet.term hw (upd s.term p true)).wf (pre_free hpre hp0) hpp
    exact ⟨s', .ok, by simp [apiStep, hp0, hpp, hret], (if_neg hx0).mpr ⟨rfl, hrm.wf, hrm.mem, hrm.rank, hrm.len⟩⟩
  | join p | revive p =>
    simp only [Post, apiStep]
    split
    · exact ⟨_, _, rfl, rfl⟩
    · split <;> exact ⟨_, _, rfl, rfl⟩
  | getRank p => simp only [Post, apiStep]; split <;> exact ⟨_, _, rfl, rfl⟩
  | getNum => exact ⟨_, _, rfl, rfl⟩

theorem step_total (s : St) (op : Op) (hw : WF s) (hpre : Pre s op = true) : ∃ s' o, step s op = some (s', o) :=
  (step_spec s op hw hpre).imp fun _ h => h.imp fun _ => And.left

theorem step_post {s s' : St} {op : Op} {o : Out} (hw : WF s) (hs : step s op = some (s', o)) : Post s s' o op := by
  obtain ⟨s1, o1, he, h⟩ := step_spec s op hw (pre_of_step hs)
  cases he.symm.trans hs
  exact h

theorem join_ok {s : St} {p : Ptr} (hp0 : p ≠ 0) (hpp : p ≠ primaryId) (hpl : p ∈ live s) :
    step s (.join p) = some ({ s with term := upd s.term p true }, .ok) := by
  simp [step, Pre, apiStep, hp0, hpp, hpl]

theorem revive_ok {s : St} {p : Ptr} (hp0 : p ≠ 0) (hpl : p ∈ live s) (ht : s.term p = true) :
    step s (.revive p) = some ({ s with term := upd s.term p false }, .ok) := by
  simp [step, Pre, apiStep, hp0, hpl, ht]

theorem runOps_cons {s s' : St} {op : Op} {ops : List Op} {outs : List Out} :
    runOps s (op :: ops) = some (s', outs) ↔
      ∃ s1 o os, step s op = some (s1, o) ∧ runOps s1 ops = some (s', os) ∧ outs = o :: os := by
  simp only [runOps]
  cases step s op with
  | none => simp
  | some x =>
    obtain ⟨s1, o⟩ := x
    cases hr : runOps s1 ops <;> grind

theorem runOps_snoc : ∀ (ops : List Op) (s s1 s2 : St) (outs : List Out) (op : Op) (o : Out),
    runOps s ops = some (s1, outs) → step s1 op = some (s2, o) →
    runOps s (ops ++ [op]) = some (s2, outs ++ [o])
  | [], s, s1, s2, outs, op, o, h, hs => by
    cases h
    simp [runOps, hs]
  | x :: xs, s, s1, s2, outs, op, o, h, hs => by
    obtain ⟨sa, oa, os, hx, hr, rfl⟩ := runOps_cons.mp h
    exact runOps_cons.mpr ⟨sa, oa, _, hx, runOps_snoc xs sa s1 s2 os op o hr hs, rfl⟩

/-! ### the abstract view used by Props.C17 -/

/-- the abstract specification: a finite partial map "live stream ↦ its rank" -/
abbrev Spec := Ptr → Option Int

def used (m : Spec) (r : Int) : Prop := ∃ q, m q = some r

def absMap (s : St) : Spec := fun q => if q ∈ live s then some (s.rank q) else none

theorem Quiet.absMap {s s' : St} (h : Quiet s s') : absMap s' = absMap s := by
  unfold Rank.absMap; rw [h.live, h.rank]

theorem Placed.absMap {s s' : St} {p : Ptr} {r : Int} (h : Placed s s' p r) :
    absMap s' = fun q => if q = p then some r else absMap s q := by
  funext q
  by_cases hq : q = p <;> simp [Rank.absMap, h.mem, h.rank, upd, hq]

theorem Removed.absMap {s s' : St} {p : Ptr} (h : Removed s s' p) :
    absMap s' = fun q => if q = p then none else absMap s q := by
  funext q
  by_cases hq : q = p <;> simp [Rank.absMap, h.mem, h.rank, hq]

theorem used_abs {s : St} {r : Int} : used (absMap s) r ↔ r ∈ ranks s := by
  simp [used, absMap, ranks]

end ArgoVerif.Model.Rank
