import ArgoVerif.Proofs.RankConc
/-
Proofs.RankConcInv — the inductive invariants of Model.RankConc (all interleavings, any number of
actors): every event preserves them, and every step is a stutter or exactly one atomic Model.Rank
call of the acting actor (forward simulation).
-/
namespace ArgoVerif.Model.RankConc
open ArgoVerif ArgoVerif.Model.Rank

structure Inv (s : St) : Prop where
  /-- the shared list is well formed at every step (also in the middle of a critical section) -/
  wf : WF s.g
  /-- the calls linearised so far, run atomically by Model.Rank, give the shared state and the results -/
  hist : runOps Rank.init (s.hist.map Prod.fst) = some (s.g, s.hist.map Prod.snd)
  act : ∀ a, s.pc a ≠ .idle ↔ a ∈ s.active
  /-- descriptors / handles of in-flight calls are pairwise different -/
  excl : ∀ a b, a ≠ b → s.pc a ≠ .idle → s.pc b ≠ .idle → target (s.op a) ≠ 0 →
    target (s.op a) ≠ target (s.op b)
  own : ∀ a, s.lock = some a ↔ inCrit (s.pc a) = true
  alw : ∀ a, s.pc a ≠ .idle → allowed (s.op a) = true
  /-- the API contract still holds for every call that has not taken effect -/
  pre : ∀ a, preLin (s.pc a) = true → Pre s.g (s.op a) = true
  need : ∀ a, wantsLock (s.pc a) = true → lockFree s.g (s.op a) = false
  /-- what a successful scan found is still true (nobody else writes while the lock is held) -/
  chk : ∀ a, s.pc a = .chkOk → ChkFact s.g (s.op a) (s.loc a)
  lin : ∀ a, postLin (s.pc a) = true → (s.op a, s.res a) ∈ s.hist

/-- streams that are still executing (or being joined) are in the list: `ABT_xstream_free` returns the rank only
after its join part completed -/
structure InvR (s : St) : Prop where
  inlist : ∀ p, s.running p = true → p ∈ live s.g
  /-- a free that is past its join — on its way to, or inside, the removing critical section — acts on a stopped stream -/
  stopped : ∀ a p, s.op a = .free p → afterJoin (s.pc a) = true → s.running p = false

/-- what one event does to the abstract (atomic) run -/
inductive Sim (s s' : St) : Prop where
  | stutter (hg : s'.g = s.g) (hh : s'.hist = s.hist)
  | lin (a : Actor) (o : Out) (hpre : preLin (s.pc a) = true) (hpost : postLin (s'.pc a) = true)
      (hst : Rank.step s.g (s.op a) = some (s'.g, o))
      (hh : s'.hist = s.hist ++ [(s.op a, o)]) (hres : s'.res a = o)
      (hlk : s.lock = some a ∨ (lockFree s.g (s.op a) = true ∧ s'.g = s.g))

/-- the step that appended `(op, o)` to the history is the atomic call `op` on the list as it was, made by the lock
holder unless the call never writes -/
theorem Sim.of_hist {s s' : St} {op : Op} {o : Out} (h : Sim s s') (hh : s'.hist = s.hist ++ [(op, o)]) :
    Rank.step s.g op = some (s'.g, o) ∧
      ((∃ a, s.lock = some a ∧ s.op a = op) ∨ (lockFree s.g op = true ∧ s'.g = s.g)) := by
  cases h with
  | stutter _ h2 => rw [h2] at hh; simp at hh
  | lin a o' _ _ hst hh' _ hlk =>
    obtain ⟨rfl, rfl⟩ : s.op a = op ∧ o' = o := by simpa [hh'] using hh
    exact ⟨hst, hlk.imp (fun hl => ⟨a, hl, rfl⟩) id⟩

/-- what every event keeps: both invariants (the second given the first), and the simulation -/
abbrev Keeps (s s' : St) : Prop := Inv s' ∧ Sim s s' ∧ (InvR s → InvR s')

/-- the clauses of `Inv` that speak of one actor only, as a predicate of that actor's components -/
structure Loc (g : G) (hist : List (Op × Out)) (pc : Pc) (op : Op) (loc : Int) (res : Out) : Prop where
  alw : pc ≠ .idle → allowed op = true
  pre : preLin pc = true → Pre g op = true
  need : wantsLock pc = true → lockFree g op = false
  chk : pc = .chkOk → ChkFact g op loc
  lin : postLin pc = true → (op, res) ∈ hist

theorem Inv.loc {s : St} (h : Inv s) (a : Actor) : Loc s.g s.hist (s.pc a) (s.op a) (s.loc a) (s.res a) :=
  ⟨h.alw a, h.pre a, h.need a, h.chk a, h.lin a⟩

/-! ### how the classes of program counters lie to each other -/

theorem preLin_ne_idle {p : Pc} (h : preLin p = true) : p ≠ .idle := by
  rintro rfl; cases h

theorem postLin_ne_idle {p : Pc} (h : postLin p = true) : p ≠ .idle := by
  rintro rfl; cases h

theorem wantsLock_preLin {p : Pc} (h : wantsLock p = true) : preLin p = true := by
  cases p <;> first | rfl | cases h

theorem postLin_not_preLin {p : Pc} (h : postLin p = true) : ¬ preLin p = true := by
  cases p <;> first | decide | cases h

theorem afterJoin_wantsLock {p : Pc} (h : afterJoin p = true) : wantsLock p = true := by
  cases p <;> first | rfl | cases h

/-! ### the facts about the other in-flight calls survive a call -/

/-- the API contract asks only whether the handle is NULL or in the list -/
theorem pre_frame {g g' : G} {op : Op} (hp : Pre g op = true)
    (hm : target op ≠ 0 → (target op ∈ live g' ↔ target op ∈ live g)) : Pre g' op = true := by
  by_cases h0 : target op = 0
  · cases op <;> simp_all [Pre, target]
  · have := hm h0
    cases op <;> simp_all [Pre, target]

theorem need_frame {g g' : G} {op : Op} (hn : lockFree g op = false)
    (hm : target op ≠ 0 → g'.rank (target op) = g.rank (target op)) : lockFree g' op = false := by
  cases op with
  | setRank p r =>
    obtain ⟨h1, h2, h3, h4⟩ := lockFree_setrank hn
    have e : g'.rank p = g.rank p := hm h1
    simp [lockFree, h1, h2, h3, e, h4]
  | _ => exact hn

/-- an actor that did not move keeps its facts when somebody else's call `x` takes effect, if that call left its
handle alone and, while the actor holds the lock after a successful scan, did not write at all -/
theorem Loc.frame {g g' : G} {hist : List (Op × Out)} {pc : Pc} {op : Op} {loc : Int} {res : Out} (x : Op × Out)
    (hl : Loc g hist pc op loc res)
    (hm : pc ≠ .idle → target op ≠ 0 →
      (target op ∈ live g' ↔ target op ∈ live g) ∧ g'.rank (target op) = g.rank (target op))
    (hc : pc = .chkOk → g' = g) : Loc g' (hist ++ [x]) pc op loc res :=
  ⟨hl.alw, fun e => pre_frame (hl.pre e) fun ht => (hm (preLin_ne_idle e) ht).1,
    fun e => need_frame (hl.need e) fun ht => (hm (preLin_ne_idle (wantsLock_preLin e)) ht).2,
    fun e => hc e ▸ hl.chk e, fun e => List.mem_append_left _ (hl.lin e)⟩

/-! ### one actor moves -/

/-- the clauses that speak of one actor are shown for the acting actor in its new state, and for
the others, whose components the step leaves alone, in their old state against the new shared list and history -/
theorem Inv.of_actor_step {s : St} (a : Actor) (np : Pc) {g' : G} {lk : Option Actor} {opf : Actor → Op} {lc : Actor → Int}
    {rs : Actor → Out} {act' : List Actor} {hist' : List (Op × Out)} (r : Ptr → Bool)
    (hop : ∀ b, b ≠ a → opf b = s.op b) (hlc : ∀ b, b ≠ a → lc b = s.loc b) (hrs : ∀ b, b ≠ a → rs b = s.res b)
    (hwf : WF g') (hhist : runOps Rank.init (hist'.map Prod.fst) = some (g', hist'.map Prod.snd))
    (hact : ∀ b, upd s.pc a np b ≠ .idle ↔ b ∈ act')
    (hexcl : ∀ x y, x ≠ y → upd s.pc a np x ≠ .idle → upd s.pc a np y ≠ .idle → target (opf x) ≠ 0 →
      target (opf x) ≠ target (opf y))
    (hown : ∀ b, lk = some b ↔ inCrit (upd s.pc a np b) = true)
    (ha : Loc g' hist' np (opf a) (lc a) (rs a))
    (hb : ∀ b, b ≠ a → Loc g' hist' (s.pc b) (s.op b) (s.loc b) (s.res b)) :
    Inv { g := g', lock := lk, pc := upd s.pc a np, op := opf, loc := lc, res := rs, running := r,
          active := act', hist := hist' } := by
  have hl : ∀ b, Loc g' hist' (upd s.pc a np b) (opf b) (lc b) (rs b) := fun b => by
    by_cases hba : b = a
    · subst hba; rw [upd_same]; exact ha
    · rw [upd_other _ _ _ _ hba, hop b hba, hlc b hba, hrs b hba]; exact hb b hba
  exact ⟨hwf, hhist, hact, hexcl, hown, fun b => (hl b).alw, fun b => (hl b).pre, fun b => (hl b).need,
    fun b => (hl b).chk, fun b => (hl b).lin⟩

theorem Inv.incall {s : St} (h : Inv s) {a : Actor} {np : Pc} (hai : s.pc a ≠ .idle) (hnp : np ≠ .idle) :
    (∀ b, upd s.pc a np b ≠ .idle ↔ b ∈ s.active) ∧
      ∀ x y, x ≠ y → upd s.pc a np x ≠ .idle → upd s.pc a np y ≠ .idle → target (s.op x) ≠ 0 →
        target (s.op x) ≠ target (s.op y) := by
  have hid : ∀ b, upd s.pc a np b ≠ .idle ↔ s.pc b ≠ .idle := fun b => by
    by_cases hb : b = a
    · subst hb; simp [hnp, hai]
    · rw [upd_other _ _ _ _ hb]
  exact ⟨fun b => (hid b).trans (h.act b), fun x y hxy hx hy => h.excl x y hxy ((hid x).mp hx) ((hid y).mp hy)⟩

theorem own_upd {s : St} (h : Inv s) {a : Actor} {np : Pc} {lk : Option Actor} (ha : lk = some a ↔ inCrit np = true)
    (hb : ∀ b, b ≠ a → (lk = some b ↔ s.lock = some b)) :
    ∀ b, lk = some b ↔ inCrit (upd s.pc a np b) = true := by
  intro b
  by_cases hba : b = a
  · subst hba; rw [upd_same]; exact ha
  · rw [upd_other _ _ _ _ hba]; exact (hb b hba).trans (h.own b)

theorem own_same {s : St} (h : Inv s) {a : Actor} {pc₀ np : Pc} (hpc : s.pc a = pc₀) (hc : inCrit np = inCrit pc₀) :
    ∀ b, s.lock = some b ↔ inCrit (upd s.pc a np b) = true :=
  own_upd h ((h.own a).trans (by rw [hpc, hc])) fun _ _ => Iff.rfl

/-- steps that leave `running` alone: if they move `a` to where a free is past its join, the stream has stopped -/
theorem invR_pc {s s' : St} (a : Actor) (np : Pc) (hR : InvR s)
    (hin : ∀ p, s.running p = true → p ∈ live s'.g) (hr : s'.running = s.running)
    (hop : ∀ b, b ≠ a → s'.op b = s.op b) (hpc : s'.pc = upd s.pc a np)
    (hnp : ∀ p, s'.op a = .free p → afterJoin np = true → s.running p = false) : InvR s' := by
  refine ⟨fun p hp => hin p (hr ▸ hp), fun b p hb hpcb => ?_⟩
  rw [hpc] at hpcb; rw [hr]
  by_cases hba : b = a
  · subst hba; rw [upd_same] at hpcb; exact hnp p hb hpcb
  · rw [upd_other _ _ _ _ hba] at hpcb
    exact hR.stopped b p (hop b hba ▸ hb) hpcb

/-- **a local step** of actor `a` from `pc₀` to `np`, both inside a call: only `a`'s program counter, the lock word
and `a`'s local may change -/
theorem local_keeps {s : St} (a : Actor) (pc₀ np : Pc) {lk : Option Actor} {lc : Actor → Int} (h : Inv s)
    (hpc : s.pc a = pc₀)
    (hmv : pc₀ ≠ .idle ∧ np ≠ .idle ∧ (preLin np = true → preLin pc₀ = true) ∧
      (postLin np = true → postLin pc₀ = true))
    (hown : ∀ b, lk = some b ↔ inCrit (upd s.pc a np b) = true)
    (hneed : wantsLock np = true → wantsLock pc₀ = false → lockFree s.g (s.op a) = false)
    (hchk : np = .chkOk → ChkFact s.g (s.op a) (lc a)) (hloc : ∀ b, b ≠ a → lc b = s.loc b)
    (haj : afterJoin np = true → afterJoin pc₀ = false → ∀ p, s.op a = .free p → s.running p = false) :
    Keeps s { s with lock := lk, loc := lc, pc := upd s.pc a np } := by
  subst hpc
  obtain ⟨hai, hnpi, hpre, hlin⟩ := hmv
  have hl := h.loc a
  refine ⟨Inv.of_actor_step a np s.running (fun _ _ => rfl) hloc (fun _ _ => rfl) h.wf h.hist (h.incall hai hnpi).1
      (h.incall hai hnpi).2 hown
      ⟨fun _ => hl.alw hai, fun e => hl.pre (hpre e), fun e => ?_, hchk, fun e => hl.lin (hlin e)⟩ fun b _ => h.loc b,
    .stutter rfl rfl, fun hR => invR_pc a np hR hR.inlist rfl (fun _ _ => rfl) rfl fun p hp e => ?_⟩
  · cases hw : wantsLock (s.pc a)
    · exact hneed e hw
    · exact hl.need hw
  · cases hj : afterJoin (s.pc a)
    · exact haj e hj p hp
    · exact hR.stopped a p hp hj

/-- **a call takes effect**: the acting actor's call is one atomic `Model.Rank` step of the shared state; either
the actor holds the lock or the call does not write at all.  A free that unlinks its stream does so past its join
(`pc₀` is not `chkOk`, where the call is a creation or a set_rank) -/
theorem keeps_lin {s : St} (a : Actor) (pc₀ np : Pc) {g' : G} {o : Out} (h : Inv s) (hpc : s.pc a = pc₀)
    (hpl : preLin pc₀ = true) (hnp : postLin np = true) (hcr : inCrit np = inCrit pc₀)
    (hap : apiStep s.g (s.op a) = some (g', o))
    (hlk : s.lock = some a ∨ (lockFree s.g (s.op a) = true ∧ g' = s.g))
    (hfree : g' = s.g ∨ afterJoin pc₀ = true ∨ pc₀ = .chkOk) :
    Keeps s (linearize s a g' o np) := by
  subst hpc
  have hl := h.loc a
  have hai := preLin_ne_idle hpl
  have hst : Rank.step s.g (s.op a) = some (g', o) := step_eq (hl.pre hpl) ▸ hap
  have hfr := step_frame s.g g' (s.op a) o h.wf (hl.alw hai) hst
  have hnpre := postLin_not_preLin hnp
  have hin := h.incall hai (postLin_ne_idle hnp)
  refine ⟨Inv.of_actor_step a np s.running (fun _ _ => rfl) (fun _ _ => rfl) (fun b hb => upd_other _ _ _ _ hb) hfr.wf ?_ hin.1
      hin.2 (own_same h rfl hcr)
      ⟨fun _ => hl.alw hai, fun e => absurd e hnpre, fun e => absurd (wantsLock_preLin e) hnpre,
        fun e => (by subst e; cases hnp), fun _ => by simp⟩
      fun b hba => (h.loc b).frame _ (fun hbi ht => ?_) fun hb => ?_,
    .lin a o hpl (by simp [linearize, hnp]) hst rfl (by simp [linearize]) hlk,
    fun hR => invR_pc a np hR (fun q hq => ?_) rfl (fun _ _ => rfl) rfl fun _ _ e =>
      absurd (wantsLock_preLin (afterJoin_wantsLock e)) hnpre⟩
  · simp only [List.map_append, List.map_cons, List.map_nil]
    exact runOps_snoc _ _ _ _ _ _ _ h.hist hst
  · have := h.excl b a hba hbi hai ht
    exact ⟨hfr.mem _ this, hfr.rank _ this⟩
  · -- somebody else at `chkOk` holds the lock, so this call did not write
    have hlb : s.lock = some b := (h.own b).mpr (by rw [hb]; rfl)
    rcases hlk with e | ⟨-, e⟩
    · rw [e] at hlb; exact absurd (Option.some.inj hlb).symm hba
    · exact e
  · -- a running stream stays in the list: the only call that unlinks its target is a free past its join
    have hql := hR.inlist q hq
    rcases hfr.stays q hql with hq' | hop
    · exact hq'
    rcases hfree with e | e | e
    · exact e ▸ hql
    · rw [hR.stopped a q hop e] at hq; cases hq
    · exact (hop ▸ hl.chk e : ChkFact _ (.free q) _).elim

/-! ### streams start and stop -/

theorem Inv.running_irrel {s : St} (h : Inv s) (r : Ptr → Bool) : Inv { s with running := r } :=
  ⟨h.wf, h.hist, h.act, h.excl, h.own, h.alw, h.pre, h.need, h.chk, h.lin⟩

theorem Sim.running_irrel {s s' : St} (h : Sim s s') (r : Ptr → Bool) : Sim s { s' with running := r } := by
  cases h with
  | stutter hg hh => exact .stutter hg hh
  | lin a o h1 h2 h3 h4 h5 h6 => exact .lin a o h1 h2 h3 h4 h5 h6

theorem InvR.stop {s : St} (hR : InvR s) (p : Ptr) : InvR { s with running := upd s.running p false } := by
  refine ⟨fun q hq => hR.inlist q ?_, fun b p' hb hj => ?_⟩
  · have hq : upd s.running p false q = true := hq
    by_cases hqp : q = p
    · subst hqp; simp at hq
    · rwa [upd_other _ _ _ _ hqp] at hq
  · show upd s.running p false p' = false
    by_cases hpp : p' = p
    · subst hpp; exact upd_same ..
    · rw [upd_other _ _ _ _ hpp]; exact hR.stopped b p' hb hj

/-- the stream a free is about to unlink is not the descriptor of any other in-flight call -/
theorem free_target_ne {s : St} (h : Inv s) {a b : Actor} {p' : Ptr} (hba : b ≠ a) (hai : s.pc a ≠ .idle)
    (hb : s.op b = .free p') (hpcb : afterJoin (s.pc b) = true) : p' ≠ target (s.op a) := by
  have hw := afterJoin_wantsLock hpcb
  have hb0 := h.need b hw
  rw [hb] at hb0
  have hp0 : p' ≠ 0 := by rintro rfl; simp [lockFree] at hb0
  have := h.excl b a hba (preLin_ne_idle (wantsLock_preLin hw)) hai (by rw [hb]; exact hp0)
  rwa [hb] at this

/-- a granted creation: the update is the atomic call, and the new stream starts running -/
theorem insert_keeps {s : St} (a : Actor) {g' : G} (p : Ptr) (h : Inv s) (hpc : s.pc a = .chkOk)
    (hlk : s.lock = some a) (htp : target (s.op a) = p)
    (hap : apiStep s.g (s.op a) = some (g', .okRank (g'.rank p))) :
    Keeps s { linearize s a g' (.okRank (g'.rank p)) .mutated with running := upd s.running p true } := by
  have hl := hpc ▸ h.loc a
  have hai : s.pc a ≠ .idle := by rw [hpc]; nofun
  obtain ⟨hi, hsim, hr⟩ := keeps_lin a .chkOk .mutated h hpc rfl rfl rfl hap (.inl hlk) (.inr (.inr rfl))
  refine ⟨hi.running_irrel _, hsim.running_irrel _, fun hR => ⟨fun q hq => ?_, fun b p' hb hpcb => ?_⟩⟩
  · have hq : upd s.running p true q = true := hq
    by_cases hqp : q = p
    · subst hqp htp
      exact (step_frame s.g g' (s.op a) _ h.wf (hl.alw nofun) (step_eq (hl.pre rfl) ▸ hap)).created
        (hl.need rfl) _ rfl
    · rw [upd_other _ _ _ _ hqp] at hq
      exact (hr hR).inlist q hq
  · have hpcb : afterJoin (upd s.pc a .mutated b) = true := hpcb
    have hb : s.op b = .free p' := hb
    show upd s.running p true p' = false
    by_cases hba : b = a
    · subst hba; rw [upd_same] at hpcb; cases hpcb
    · rw [upd_other _ _ _ _ hba] at hpcb
      rw [upd_other _ _ _ _ (htp ▸ free_target_ne h hba hai hb hpcb)]
      exact hR.stopped b p' hb hpcb

/-! ### the events -/

theorem afterPre_cases (op : Op) : afterPre op = .want ∨ afterPre op = .joining := by
  cases op <;> simp [afterPre]

theorem step_keeps {s s' : St} {e : Ev} (h : Inv s) (hs : step s e = some s') : Keeps s s' := by
  cases e with
  | call a op =>
    obtain ⟨⟨hidle, hal, hpre, hfresh⟩, hs⟩ := Option.ite_none_right_eq_some.mp hs
    cases hs
    have hfr : ∀ b, s.pc b ≠ .idle → target op ≠ 0 → target (s.op b) ≠ target op := fun b hb ht => by
      simpa using List.all_eq_true.mp (hfresh.resolve_left ht) b ((h.act b).mp hb)
    refine ⟨Inv.of_actor_step a .start s.running (fun b hb => upd_other _ _ _ _ hb) (fun _ _ => rfl) (fun _ _ => rfl)
        h.wf h.hist (fun b => ?_) (fun x y hxy hx hy ht => ?_) (own_same h hidle rfl)
        ⟨fun _ => by simp [hal], fun _ => by simp [hpre], nofun, nofun, nofun⟩ fun b _ => h.loc b,
      .stutter rfl rfl, fun hR => invR_pc a .start hR hR.inlist rfl (fun b hb => upd_other _ _ _ _ hb) rfl nofun⟩
    · by_cases hb : b = a
      · subst hb; simp
      · rw [upd_other _ _ _ _ hb, List.mem_cons, h.act b]; simp [hb]
    · -- the new call's handle is fresh, the others' are as before
      by_cases hxa : x = a
      · subst hxa
        rw [upd_same] at ht
        rw [upd_other _ _ _ _ (Ne.symm hxy)] at hy ⊢
        rw [upd_same]
        exact (hfr y hy ht).symm
      · rw [upd_other _ _ _ _ hxa] at hx ht ⊢
        by_cases hya : y = a
        · subst hya; rw [upd_same]; exact fun e => hfr x hx (e ▸ ht) e
        · rw [upd_other _ _ _ _ hya] at hy ⊢; exact h.excl x y hxy hx hy ht
  | ret a o =>
    obtain ⟨⟨hpc, -⟩, hs⟩ := Option.ite_none_right_eq_some.mp hs
    cases hs
    have hsub : ∀ x, upd s.pc a .idle x ≠ .idle → s.pc x ≠ .idle := fun x hx => by
      by_cases hxa : x = a
      · subst hxa; simp at hx
      · rwa [upd_other _ _ _ _ hxa] at hx
    refine ⟨Inv.of_actor_step a .idle s.running (fun _ _ => rfl) (fun _ _ => rfl) (fun _ _ => rfl) h.wf h.hist
        (fun b => ?_) (fun x y hxy hx hy => h.excl x y hxy (hsub x hx) (hsub y hy)) (own_same h hpc rfl)
        ⟨fun hi => absurd rfl hi, nofun, nofun, nofun, nofun⟩ fun b _ => h.loc b,
      .stutter rfl rfl, fun hR => invR_pc a .idle hR hR.inlist rfl (fun _ _ => rfl) rfl nofun⟩
    by_cases hb : b = a
    · subst hb; simp
    · simp [upd, hb, h.act b]
  | pre a =>
    obtain ⟨hpc, hs⟩ := Option.ite_none_right_eq_some.mp hs
    split at hs
    next hlf =>
      split at hs
      next g' o hap =>
        cases hs
        have hsame := lockFree_same s.g g' (s.op a) o (h.alw a (by rw [hpc]; nofun)) hlf hap
        exact keeps_lin a .start .done h hpc rfl rfl rfl hap (.inr ⟨hlf, hsame⟩) (.inl hsame)
      next => cases hs
    next hlf =>
      cases hs
      have hlf : lockFree s.g (s.op a) = false := by simpa using hlf
      rcases afterPre_cases (s.op a) with e | e <;> rw [e]
      · exact local_keeps a .start .want h hpc (by decide) (own_same h hpc rfl) (fun _ _ => hlf) nofun (fun _ _ => rfl)
          fun _ _ p hp => by rw [hp] at e; cases e
      · exact local_keeps a .start .joining h hpc (by decide) (own_same h hpc rfl) (fun _ _ => hlf) nofun
          (fun _ _ => rfl) nofun
  | joined a =>
    obtain ⟨hpc, hs⟩ := Option.ite_none_right_eq_some.mp hs
    split at hs
    next p hop =>
      cases hs
      -- the stream stops, then `a` goes on
      have k := local_keeps a .joining .want (h.running_irrel (upd s.running p false)) hpc (by decide)
        (own_same h hpc rfl) nofun nofun (fun _ _ => rfl) fun _ _ p' hp' => by
          cases hop.symm.trans hp'; exact upd_same ..
      exact ⟨k.1, .stutter rfl rfl, fun hR => k.2.2 (hR.stop p)⟩
    next => cases hs
  | tas a old =>
    obtain ⟨⟨hpc, hold⟩, hs⟩ := Option.ite_none_right_eq_some.mp hs
    split at hs
    · cases hs
      exact local_keeps a .want .spin h hpc (by decide) (own_same h hpc rfl) nofun nofun (fun _ _ => rfl) nofun
    next hof =>
      cases hs
      have hnone : s.lock = none := by cases hl : s.lock <;> simp_all
      exact local_keeps a .want .locked h hpc (by decide)
        (own_upd h (by simp [inCrit]) fun b hb => by simp [hnone, Ne.symm hb]) nofun nofun (fun _ _ => rfl) nofun
  | spinLoad a v =>
    obtain ⟨⟨hpc, -⟩, hs⟩ := Option.ite_none_right_eq_some.mp hs
    split at hs
    · cases hs
      exact ⟨h, .stutter rfl rfl, id⟩
    · cases hs
      exact local_keeps a .spin .want h hpc (by decide) (own_same h hpc rfl) nofun nofun (fun _ _ => rfl) nofun
  | check a =>
    obtain ⟨⟨hpc, hlk⟩, hs⟩ := Option.ite_none_right_eq_some.mp hs
    have hneed := h.need a (by rw [hpc]; rfl)
    -- the scan succeeded: the rank is remembered, the lock stays held
    have ok : ∀ r, ChkFact s.g (s.op a) r → Keeps s { s with loc := upd s.loc a r, pc := upd s.pc a .chkOk } :=
      fun r hf => local_keeps a .locked .chkOk h hpc (by decide) (own_same h hpc rfl) nofun
        (fun _ => by simpa using hf) (fun b hb => upd_other _ _ _ _ hb) nofun
    -- the rank is taken: the call takes effect with `errRank`, the list is not written
    have fail : ∀ g', apiStep s.g (s.op a) = some (g', .errRank) → Keeps s (linearize s a g' .errRank .chkFail) :=
      fun g' hap => keeps_lin a .locked .chkFail h hpc rfl rfl rfl hap (.inl hlk) (.inr (.inl rfl))
    split at hs
    next p hop =>
      dsimp only at hs
      split at hs
      next r hm => cases hs; exact ok r (by rw [hop]; exact hm)
      next => cases hs
    next p r hop =>
      rw [hop] at hneed
      dsimp only at hs
      split at hs
      next hm => cases hs; exact fail _ (by rw [hop]; exact apiStep_createw_fail hneed hm)
      next hm => cases hs; exact ok r (by rw [hop]; exact ⟨hm, rfl⟩)
      next => cases hs
    next p r hop =>
      rw [hop] at hneed
      split at hs
      next hm => cases hs; exact fail _ (by rw [hop]; exact apiStep_setrank_fail hneed hm)
      next hm => cases hs; exact ok r (by rw [hop]; exact hm)
      next => cases hs
    next => cases hs
  | insert a =>
    obtain ⟨⟨hpc, hlk⟩, hs⟩ := Option.ite_none_right_eq_some.mp hs
    have hl := hpc ▸ h.loc a
    split at hs
    next p hop =>
      rw [hop] at hl
      split at hs
      next g' hi =>
        cases hs
        exact insert_keeps a p h hpc hlk (by rw [hop]; rfl) (by rw [hop, apiStep_create (hl.chk rfl), hi]; rfl)
      next => cases hs
    next p r hop =>
      rw [hop] at hl
      split at hs
      next g' hi =>
        cases hs
        exact insert_keeps a p h hpc hlk (by rw [hop]; rfl)
          (by rw [hop, apiStep_createw (hl.need rfl) (hl.chk rfl), hi]; rfl)
      next => cases hs
    next => cases hs
  | move a =>
    obtain ⟨⟨hpc, hlk⟩, hs⟩ := Option.ite_none_right_eq_some.mp hs
    have hl := hpc ▸ h.loc a
    split at hs
    next p r hop =>
      rw [hop] at hl
      split at hs
      next g' hi =>
        cases hs
        exact keeps_lin a .chkOk .mutated h hpc rfl rfl rfl
          (by rw [hop, apiStep_setrank (hl.need rfl) (hl.chk rfl), hi]; rfl) (.inl hlk) (.inr (.inr rfl))
      next => cases hs
    next => cases hs
  | remove a =>
    obtain ⟨⟨hpc, hlk⟩, hs⟩ := Option.ite_none_right_eq_some.mp hs
    have hl := hpc ▸ h.loc a
    split at hs
    next p hop =>
      rw [hop] at hl
      split at hs
      next g' hi =>
        cases hs
        exact keeps_lin a .locked .mutated h hpc rfl rfl rfl (by rw [hop, apiStep_free (hl.need rfl), hi]; rfl)
          (.inl hlk) (.inr (.inl rfl))
      next => cases hs
    next => cases hs
  | clear a =>
    obtain ⟨⟨hpc, hlk⟩, hs⟩ := Option.ite_none_right_eq_some.mp hs
    cases hs
    rcases hpc with hpc | hpc <;>
      exact local_keeps a _ .done h hpc (by decide)
        (own_upd h (by simp [inCrit]) fun b hb => by simp [hlk, Ne.symm hb]) nofun nofun (fun _ _ => rfl) nofun

theorem inv_step (s s' : St) (e : Ev) (h : Inv s) (hs : step s e = some s') : Inv s' ∧ Sim s s' :=
  ⟨(step_keeps h hs).1, (step_keeps h hs).2.1⟩

theorem inv_init : Inv init := by
  refine ⟨init_wf, rfl, ?_, ?_, ?_, ?_, ?_, ?_, ?_, ?_⟩ <;> intro a <;> simp [init, inCrit, preLin, wantsLock, postLin]

theorem invR_init : InvR init := by
  refine ⟨fun p hp => ?_, fun a p _ hpc => by simp [init, afterJoin] at hpc⟩
  obtain rfl : p = primaryId := by simpa [init] using hp
  show primaryId ∈ live Rank.init
  rw [init_R.live_eq]; simp

theorem inv_reachable {s : St} (h : machine.Reachable s) : Inv s ∧ InvR s :=
  machine.invariant_reachable (fun s => Inv s ∧ InvR s) ⟨inv_init, invR_init⟩
    (fun _ _ _ hi hs => ⟨(step_keeps hi.1 hs).1, (step_keeps hi.1 hs).2.2 hi.2⟩) s h

end ArgoVerif.Model.RankConc
