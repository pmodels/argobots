import ArgoVerif.Model.RankConc
import ArgoVerif.Proofs.Rank
/-
Proofs.RankConc — sequential facts behind the interleaving proof (Proofs/RankConcInv.lean):
what one atomic `Model.Rank` call leaves untouched (frame), and that the pieces a critical
section of `Model.RankConc` executes (scan, then update) compose to exactly the atomic call,
so that the update is enabled whenever the call is.
-/
namespace ArgoVerif.Model.RankConc
open ArgoVerif ArgoVerif.Model.Rank

theorem lockFree_same (g g' : G) (op : Op) (o : Out) (hal : allowed op = true)
    (hlf : lockFree g op = true) (hs : apiStep g op = some (g', o)) : g' = g := by
  -- every branch of `apiStep` that `lockFree` selects returns `g` itself
  cases op <;> simp only [allowed, lockFree, Bool.or_eq_true, decide_eq_true_eq, Bool.false_eq_true] at hal hlf
  case createWithRank p r => simp_all [apiStep]
  case setRank p r =>
    simp only [apiStep, changeRank] at hs
    grind
  case free p =>
    simp only [apiStep] at hs
    grind
  case getNum => cases hs; rfl

/-- **frame of one atomic call** -/
structure Frame (g g' : G) (op : Op) (o : Out) : Prop where
  wf : WF g'
  mem : ∀ q, q ≠ target op → (q ∈ live g' ↔ q ∈ live g)
  rank : ∀ q, q ≠ target op → g'.rank q = g.rank q
  created : lockFree g op = false → ∀ r, o = .okRank r → target op ∈ live g'
  stays : ∀ q, q ∈ live g → q ∈ live g' ∨ op = .free q

theorem Frame.of_quiet {g g' : G} {op : Op} {o : Out} (hq : Quiet g g') (ho : ∀ r, o ≠ .okRank r) : Frame g g' op o :=
  ⟨hq.wf, fun _ _ => by rw [hq.live], fun _ _ => by rw [hq.rank], fun _ r h => absurd h (ho r),
    fun _ h => Or.inl (hq.live ▸ h)⟩

theorem Frame.same {g : G} {op : Op} {o : Out} (hw : WF g) (ho : ∀ r, o ≠ .okRank r) : Frame g g op o :=
  .of_quiet (.refl hw) ho

theorem Frame.of_placed {g g' : G} {op : Op} {o : Out} {r : Int} (hc : Placed g g' (target op) r) : Frame g g' op o :=
  ⟨hc.wf, fun q hq => by simp [hc.mem q, hq], fun q hq => by simp [hc.rank, upd, hq],
    fun _ _ _ => (hc.mem _).mpr (Or.inl rfl), fun q h => Or.inl ((hc.mem q).mpr (Or.inr h))⟩

theorem step_frame (g g' : G) (op : Op) (o : Out) (hw : WF g) (hal : allowed op = true)
    (hs : Rank.step g op = some (g', o)) : Frame g g' op o := by
  have h := step_post hw hs
  cases op with
  | create p =>
    obtain ⟨r, -, hc, -⟩ := h
    exact .of_placed hc
  | createWithRank p r =>
    simp only [Post] at h
    split at h
    · exact .of_quiet h.2 (h.1 ▸ nofun)
    · exact .of_placed h.2
  | setRank p r =>
    -- the argument checks, the rank already held and a rank that is taken all leave the state as it is
    have : (g' = g ∧ ∀ k, o ≠ .okRank k) ∨ Placed g g' p r := by
      simp only [Post] at h
      grind
    rcases this with ⟨rfl, ho⟩ | hp
    · exact .same hw ho
    · exact .of_placed hp
  | free p =>
    simp only [Post] at h
    split at h
    · obtain ⟨rfl, rfl⟩ := h; exact .same hw nofun
    · obtain ⟨rfl, hr⟩ := h
      refine ⟨hr.wf, fun q hq => by simp [hr.mem q, show q ≠ p from hq], fun q _ => by rw [hr.rank], nofun, fun q h => ?_⟩
      by_cases e : q = p
      · exact Or.inr (e ▸ rfl)
      · exact Or.inl ((hr.mem q).mpr ⟨h, e⟩)
  | getNum =>
    cases h
    exact .same hw nofun
  | join p => simp [allowed] at hal
  | revive p => simp [allowed] at hal
  | getRank p => simp [allowed] at hal

/-! ### scan + update under one lock hold = the atomic call -/

/-- what the scan established (kept while the lock is held) -/
def ChkFact (g : G) : Op → Int → Prop
  | .create p, loc =>
    mexLoop (privInit g p) (fuel (privInit g p)) 0 (privInit g p).head = some loc
  | .createWithRank p r, loc =>
    findLoop (privInit g p) r (fuel (privInit g p)) (privInit g p).head = some false ∧ loc = r
  | .setRank _ r, _ => findLoop g r (fuel g) g.head = some false
  | _, _ => False

theorem grant_true {s : G} {p : Ptr} {r : Int} {g2 : G} {b : Bool} (h : grant s p r = some (g2, b)) :
    b = true := by
  simp only [grant] at h
  split at h
  · cases h
  · cases h; rfl

/-- the two stores of `xstream_create` before the lock are `privInit` -/
theorem xstreamCreate_privInit (g : G) (p : Ptr) (r : Int) :
    xstreamCreate g p r = match setNewRank (privInit g p) p r with
      | none => none
      | some (s3, true) => some ({ s3 with term := upd s3.term p false }, true)
      | some (s3, false) => some (s3, false) := rfl

/-- `xstream_create` once the scan has chosen the rank: the rest is `insertAt` -/
theorem xstreamCreate_eq {g : G} {p : Ptr} {r loc : Int}
    (h : setNewRank (privInit g p) p r = grant (privInit g p) p loc) :
    (match xstreamCreate g p r with
      | none => none
      | some (s', true) => some (s', Out.okRank (s'.rank p))
      | some (s', false) => some (s', .errRank)) =
    (insertAt g p loc).map fun g' => (g', .okRank (g'.rank p)) := by
  rw [xstreamCreate_privInit, h, insertAt]
  cases hg : grant (privInit g p) p loc with
  | none => rfl
  | some x =>
    obtain ⟨g2, b⟩ := x
    obtain rfl := grant_true hg
    rfl

theorem apiStep_create {g : G} {p : Ptr} {loc : Int} (hc : ChkFact g (.create p) loc) :
    apiStep g (.create p) = (insertAt g p loc).map fun g' => (g', .okRank (g'.rank p)) :=
  xstreamCreate_eq (by
    have hc : mexLoop (privInit g p) (fuel (privInit g p)) 0 (privInit g p).head = some loc := hc
    simp only [setNewRank, if_true, hc])

theorem apiStep_createw {g : G} {p : Ptr} {r loc : Int} (hlf : lockFree g (.createWithRank p r) = false)
    (hc : ChkFact g (.createWithRank p r) loc) :
    apiStep g (.createWithRank p r) = (insertAt g p loc).map fun g' => (g', .okRank (g'.rank p)) := by
  have hr : ¬ r < 0 := by simpa [lockFree] using hlf
  have hr1 : r ≠ -1 := by omega
  obtain ⟨hf, rfl⟩ := hc
  simp only [apiStep, hr, if_false]
  exact xstreamCreate_eq (by simp only [setNewRank, hr1, if_false, hf])

theorem apiStep_createw_fail {g : G} {p : Ptr} {r : Int} (hlf : lockFree g (.createWithRank p r) = false)
    (hf : findLoop (privInit g p) r (fuel (privInit g p)) (privInit g p).head = some true) :
    apiStep g (.createWithRank p r) = some (privInit g p, .errRank) := by
  have hr : ¬ r < 0 := by simpa [lockFree] using hlf
  have hr1 : r ≠ -1 := by omega
  simp only [apiStep, hr, if_false, xstreamCreate_privInit, setNewRank, hr1, hf]

theorem lockFree_setrank {g : G} {p : Ptr} {r : Int} (hlf : lockFree g (.setRank p r) = false) :
    p ≠ 0 ∧ p ≠ primaryId ∧ ¬ r < 0 ∧ g.rank p ≠ r := by
  simpa [lockFree, and_assoc] using hlf

theorem apiStep_setrank_fail {g : G} {p : Ptr} {r : Int} (hlf : lockFree g (.setRank p r) = false)
    (hf : findLoop g r (fuel g) g.head = some true) :
    apiStep g (.setRank p r) = some (g, .errRank) := by
  obtain ⟨h1, h2, h3, h4⟩ := lockFree_setrank hlf
  simp only [apiStep, changeRank, h1, h2, h3, h4, if_false, hf]

theorem apiStep_setrank {g : G} {p : Ptr} {r loc : Int} (hlf : lockFree g (.setRank p r) = false)
    (hc : ChkFact g (.setRank p r) loc) :
    apiStep g (.setRank p r) = (moveTo g p r).map fun g' => (g', .ok) := by
  obtain ⟨h1, h2, h3, h4⟩ := lockFree_setrank hlf
  have hc : findLoop g r (fuel g) g.head = some false := hc
  simp only [apiStep, changeRank, moveTo, h1, h2, h3, h4, if_false, hc]
  cases removeList g p with
  | none => rfl
  | some s1 =>
    simp only
    cases addList { s1 with rank := upd s1.rank p r } p <;> rfl

theorem apiStep_free {g : G} {p : Ptr} (hlf : lockFree g (.free p) = false) :
    apiStep g (.free p) = (returnRank { g with term := upd g.term p true } p).map fun g' => (g', .ok) := by
  simp only [lockFree, Bool.or_eq_false_iff, decide_eq_false_iff_not] at hlf
  simp only [apiStep, hlf.1, hlf.2, if_false]
  cases returnRank { g with term := upd g.term p true } p <;> rfl

/-- the update of a critical section whose scan succeeded cannot fail (no `ABTI_ASSERT` of the list functions, no
walk beyond the list), and it is the atomic call -/
theorem update_enabled {g : G} {op : Op} {u : Option G} {f : G → G × Out} (hw : WF g) (hp : Pre g op = true)
    (he : apiStep g op = u.map f) : ∃ g', u = some g' ∧ Rank.step g op = some (f g') := by
  obtain ⟨s', o, hs⟩ := step_total g op hw hp
  rw [step_eq hp] at hs ⊢
  rw [he] at hs ⊢
  cases u with
  | none => cases hs
  | some g' => exact ⟨g', rfl, rfl⟩

/-! ### what the scan means in terms of the ranks of live streams -/

theorem privInit_R {g : G} {p : Ptr} (hw : WF g) (hpx : p ∉ live g) : R (privInit g p) (live g) :=
  R.reset hw hpx

theorem chk_createw {g : G} {p : Ptr} {r loc : Int} (hw : WF g) (hpx : p ∉ live g)
    (hc : ChkFact g (.createWithRank p r) loc) : r ∉ ranks g ∧ loc = r := by
  refine ⟨?_, hc.2⟩
  exact of_decide_eq_false (Option.some.inj (hc.1.symm.trans ((privInit_R hw hpx).findLoop r))).symm

theorem chk_create {g : G} {p : Ptr} {loc : Int} (hw : WF g) (hpx : p ∉ live g)
    (hc : ChkFact g (.create p) loc) :
    0 ≤ loc ∧ loc ∉ ranks g ∧ ∀ k, 0 ≤ k → k < loc → k ∈ ranks g := by
  obtain ⟨r, hm, hr⟩ := (privInit_R hw hpx).mexLoop
  cases Option.some.inj (hm.symm.trans hc)
  exact hr

theorem chk_setrank {g : G} {p : Ptr} {r loc : Int} (hw : WF g) (hc : ChkFact g (.setRank p r) loc) :
    r ∉ ranks g :=
  of_decide_eq_false (Option.some.inj (Eq.symm hc |>.trans (R.findLoop hw r))).symm

end ArgoVerif.Model.RankConc
