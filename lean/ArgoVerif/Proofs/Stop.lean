import ArgoVerif.Model.Stop
/-
Proofs.Stop — lemmas about Model.Stop: the scan of ABTI_sched_has_unit as a statement about every pool, the
loops of sched_create / ABTI_sched_free as arithmetic on num_scheds, the inductive invariant of the
consumer-accounting machine, the request plumbing of one stream.
-/
namespace ArgoVerif.Proofs.Stop
open ArgoVerif ArgoVerif.Model.Stop

/-! ### (a) decisions -/

theorem poolHasUnit_iff (p : PoolView) :
    poolHasUnit p = true ↔ p.size ≠ 0 ∨ (p.soleConsumer ∧ p.numBlocked ≠ 0) := by
  obtain ⟨sz, nb, ac, ns⟩ := p
  cases ac <;> simp [poolHasUnit, PoolView.soleConsumer, Access.shared] <;> omega

theorem poolHasUnit_false_iff (p : PoolView) :
    poolHasUnit p = false ↔ p.size = 0 ∧ (p.soleConsumer → p.numBlocked = 0) := by
  rw [← Bool.not_eq_true, poolHasUnit_iff]
  simp only [not_or, not_and, Decidable.not_not]

theorem hasUnit_eq_any (ps : List PoolView) : hasUnit ps = ps.any poolHasUnit := by
  induction ps with
  | nil => rfl
  | cons p ps ih => simp only [hasUnit, List.any_cons, ih]; cases poolHasUnit p <;> simp

theorem hasUnit_false_iff (ps : List PoolView) :
    hasUnit ps = false ↔ ∀ p ∈ ps, p.size = 0 ∧ (p.soleConsumer → p.numBlocked = 0) := by
  simp [hasUnit_eq_any, poolHasUnit_false_iff]

theorem hasUnit_true_iff (ps : List PoolView) :
    hasUnit ps = true ↔ ∃ p ∈ ps, p.size ≠ 0 ∨ (p.soleConsumer ∧ p.numBlocked ≠ 0) := by
  simp [hasUnit_eq_any, poolHasUnit_iff]

theorem hasToStop_true_cases (r0 r1 : SchedReq) (v1 v2 : List PoolView) (used : Used)
    (h : hasToStop r0 v1 r1 v2 used = true) :
    r0.exit = true ∨
    (hasUnit v1 = false ∧ (r1.finish = true ∨ r1.replace = true) ∧ hasUnit v2 = false) ∨
    (hasUnit v1 = false ∧ r1.finish = false ∧ r1.replace = false ∧ used = .inPool) := by
  unfold hasToStop at h
  cases he : r0.exit <;> cases hf : r1.finish <;> cases hr : r1.replace <;> simp_all

/-- `ABTI_xstream_check_events` only sets bits: FINISH on a join request, EXIT on a cancel request -/
theorem checkEvents_eq (ult : ThreadReq) (r : SchedReq) :
    checkEvents ult r = { r with finish := r.finish || ult.join, exit := r.exit || ult.cancel } := by
  cases hj : ult.join <;> cases hc : ult.cancel <;> simp [checkEvents, schedFinish, schedExit, hj, hc]

theorem checkEvents_finish (ult : ThreadReq) (r : SchedReq) :
    (checkEvents ult r).finish = (r.finish || ult.join) := by
  rw [checkEvents_eq]

theorem checkEvents_exit (ult : ThreadReq) (r : SchedReq) :
    (checkEvents ult r).exit = (r.exit || ult.cancel) := by
  rw [checkEvents_eq]

theorem checkEvents_replace (ult : ThreadReq) (r : SchedReq) :
    (checkEvents ult r).replace = r.replace := by
  rw [checkEvents_eq]

/-! ### (b) accounting -/

theorem retainAll_apply (ns : PoolId → Int) (ps : List PoolId) (q : PoolId) :
    retainAll ns ps q = ns q + (ps.count q : Int) := by
  induction ps generalizing ns with
  | nil => simp [retainAll]
  | cons p ps ih => simp only [retainAll, ih, List.count_cons, upd]; grind

theorem releaseAll_ns (pools : List (PoolId × Bool)) (ns : PoolId → Int) (ps : List PoolId) (q : PoolId) :
    (releaseAll pools ns ps).2 q = ns q - (ps.count q : Int) := by
  induction ps generalizing pools ns with
  | nil => simp [releaseAll]
  | cons p ps ih => simp only [releaseAll, ih, List.count_cons, upd]; grind

theorem poolLive_dropPool (pools : List (PoolId × Bool)) (p q : PoolId) :
    poolLive (dropPool pools p) q = (poolLive pools q && (q != p)) := by
  simp only [poolLive, dropPool, List.any_filter]
  induction pools with
  | nil => rfl
  | cons a as ih => simp only [List.any_cons, ih]; grind

theorem releaseAll_live_mono (pools : List (PoolId × Bool)) (ns : PoolId → Int) (ps : List PoolId) (q : PoolId) :
    poolLive (releaseAll pools ns ps).1 q = true → poolLive pools q = true := by
  induction ps generalizing pools ns with
  | nil => simp [releaseAll]
  | cons p ps ih =>
    intro h
    have := ih _ _ h
    split at this
    · rw [poolLive_dropPool] at this; simp at this; exact this.1
    · exact this

theorem releaseAll_freed_le (pools : List (PoolId × Bool)) (ns : PoolId → Int) (ps : List PoolId) (q : PoolId) :
    poolLive pools q = true → poolLive (releaseAll pools ns ps).1 q = false → (releaseAll pools ns ps).2 q ≤ 0 := by
  induction ps generalizing pools ns with
  | nil => simp_all [releaseAll]
  | cons p ps ih =>
    intro h1 h2
    simp only [releaseAll] at h2 ⊢
    by_cases hc : (poolAuto pools p && (ns p - 1 == 0)) = true <;> simp only [hc, ↓reduceIte] at h2 ⊢
    · by_cases hq : q = p
      · have : (0 : Int) ≤ (List.count q ps : Int) := Int.natCast_nonneg _
        simp_all [releaseAll_ns, upd]
      · exact ih _ _ (by simp [poolLive_dropPool, h1, hq]) h2
    · exact ih _ _ h1 h2

theorem occ_eq_count (l : List SchedRec) (p : PoolId) : occ l p = (l.map (·.pools)).flatten.count p := by
  induction l with
  | nil => rfl
  | cons a as ih => simp [occ, ih]

theorem occ_eq_zero_iff (l : List SchedRec) (p : PoolId) : occ l p = 0 ↔ ∀ r ∈ l, p ∉ r.pools := by
  simp [occ_eq_count, List.count_eq_zero]

theorem occ_pos_iff (l : List SchedRec) (p : PoolId) : 0 < occ l p ↔ ∃ r ∈ l, p ∈ r.pools := by
  simp [Nat.pos_iff_ne_zero, occ_eq_zero_iff]

theorem occ_erase (l : List SchedRec) (r : SchedRec) (p : PoolId) (h : r ∈ l) :
    occ l p = r.pools.count p + occ (l.erase r) p := by
  induction l with
  | nil => cases h
  | cons a as ih =>
    by_cases ha : a = r
    · subst ha; simp [occ]
    · rw [List.erase_cons_tail (by simpa using ha)]
      simp only [occ, ih ((List.mem_cons.1 h).resolve_left (Ne.symm ha))]; omega

theorem occ_erase_eq_zero_iff (l : List SchedRec) (hnd : l.Nodup) (r : SchedRec) (p : PoolId) :
    occ (l.erase r) p = 0 ↔ ∀ r' ∈ l, p ∈ r'.pools → r' = r := by
  simp only [occ_eq_zero_iff, hnd.mem_erase_iff, and_imp]
  exact ⟨fun h r' hr' hp' => Classical.byContradiction fun hne => h r' hne hr' hp',
    fun h r' hne hr' hp' => hne (h r' hr' hp')⟩

theorem setUsed_map {α : Type} (f : SchedRec → α) (hf : ∀ r u, f { r with used := u } = f r)
    (l : List SchedRec) (k : SchedId) (u : Used) : (setUsed l k u).map f = l.map f := by
  simp only [setUsed, List.map_map]
  exact List.map_congr_left fun r _ => by simp only [Function.comp]; split <;> simp [hf]

theorem sched?_mem {s : Acc} {k : SchedId} {r : SchedRec} (h : s.sched? k = some r) : r ∈ s.scheds :=
  List.mem_of_find?_eq_some h

theorem sched?_none (s : Acc) (k : SchedId) (h : s.sched? k = none) : k ∉ s.scheds.map (·.id) := by
  unfold Acc.sched? at h
  rw [List.find?_eq_none] at h
  intro hm
  obtain ⟨r, hr, he⟩ := List.mem_map.1 hm
  simpa [he] using h r hr

structure AInv (s : Acc) : Prop where
  count : ∀ p, s.ns p = (occ s.scheds p : Int)
  live : ∀ r ∈ s.scheds, ∀ p ∈ r.pools, poolLive s.pools p = true
  ids : (s.scheds.map (·.id)).Nodup

theorem AInv.scheds_nodup {s : Acc} (hi : AInv s) : s.scheds.Nodup :=
  hi.ids.of_map _ fun _ _ h e => h (congrArg _ e)

theorem inv_freeSched (s : Acc) (r : SchedRec) (hi : AInv s) (hr : r ∈ s.scheds) : AInv (freeSched s r) := by
  have hc : ∀ p, (releaseAll s.pools s.ns r.pools).2 p = (occ (s.scheds.erase r) p : Int) := fun p => by
    rw [releaseAll_ns, hi.count p, occ_erase s.scheds r p hr]; omega
  refine ⟨hc, fun r' hr' p hp => ?_, hi.ids.sublist (List.erase_sublist.map _)⟩
  -- a pool freed by the loop has count ≤ 0 afterwards, but r' still lists it
  cases hd : poolLive (releaseAll s.pools s.ns r.pools).1 p with
  | true => exact hd
  | false =>
    have := releaseAll_freed_le s.pools s.ns r.pools p (hi.live r' (List.mem_of_mem_erase hr') p hp) hd
    have := (occ_pos_iff (s.scheds.erase r) p).2 ⟨r', hr', hp⟩
    have := hc p
    omega

theorem inv_setUsed (s : Acc) (k : SchedId) (u : Used) (hi : AInv s) :
    AInv { s with scheds := setUsed s.scheds k u } := by
  have hpools := setUsed_map (·.pools) (fun _ _ => rfl) s.scheds k u
  refine ⟨fun p => by simpa only [occ_eq_count, hpools] using hi.count p, fun r' hr' p hp => ?_, by
    simpa only [setUsed_map (·.id) (fun _ _ => rfl)] using hi.ids⟩
  have := List.mem_map_of_mem (f := (·.pools)) hr'
  rw [hpools] at this
  obtain ⟨r, hr, he⟩ := List.mem_map.1 this
  exact hi.live r hr p (he ▸ hp)

theorem inv_discard (s : Acc) (r : SchedRec) (hi : AInv s) (hr : r ∈ s.scheds) : AInv (discard s r) := by
  unfold Model.Stop.discard
  split
  · exact inv_freeSched s r hi hr
  · exact inv_setUsed s r.id .notUsed hi

@[simp] theorem discard_req (s : Acc) (r : SchedRec) : (discard s r).req = s.req := by
  unfold Model.Stop.discard freeSched; split <;> rfl

@[simp] theorem discard_stale (s : Acc) (r : SchedRec) : (discard s r).stale = s.stale := by
  unfold Model.Stop.discard freeSched; split <;> rfl

theorem inv_init : AInv ainit := by
  constructor <;> simp [ainit, occ]

theorem inv_step (s : Acc) (e : AEv) (s' : Acc) (hi : AInv s) (hs : astep s e = some s') : AInv s' := by
  -- the invariant speaks about pools, num_scheds and scheduler objects only
  have congr : ∀ {t t' : Acc}, AInv t → t'.pools = t.pools → t'.ns = t.ns → t'.scheds = t.scheds → AInv t' := by
    intro t t' ⟨h1, h2, h3⟩ hp hn hk
    exact ⟨hn ▸ hk ▸ h1, hp ▸ hk ▸ h2, hk ▸ h3⟩
  -- in each case the splits follow the guards of `astep`; a failed guard gives `none`, so one goal per successful
  -- branch remains
  cases e with
  | poolCreate p a =>
    simp only [astep] at hs; split at hs <;> cases hs
    next hl =>
    have hd : occ s.scheds p = 0 := (occ_eq_zero_iff _ p).2 fun r hr hp => hl (hi.live r hr p hp)
    refine ⟨fun q => ?_, fun r hr q hq => ?_, hi.ids⟩
    · by_cases hq : q = p <;> simp [upd, hq, hd, hi.count]
    · have := hi.live r hr q hq
      simp only [poolLive, List.any_cons] at this ⊢
      simp [this]
  | poolFree p =>
    simp only [astep] at hs; split at hs <;> cases hs
    next hc =>
    refine ⟨hi.count, fun r hr q hq => ?_, hi.ids⟩
    have := (occ_pos_iff s.scheds q).2 ⟨r, hr, hq⟩
    have : q ≠ p := by rintro rfl; simp_all
    simp [poolLive_dropPool, hi.live r hr q hq, this]
  | schedCreate k ps a =>
    simp only [astep] at hs; split at hs <;> cases hs
    next hc =>
    simp only [Bool.or_eq_true, Bool.not_eq_true', not_or, Bool.not_eq_false, Option.not_isSome_iff_eq_none] at hc
    refine ⟨fun q => ?_, fun r hr q hq => ?_, ?_⟩
    · simp only [retainAll_apply, hi.count q, occ]; omega
    · rcases List.mem_cons.1 hr with rfl | h
      · exact List.all_eq_true.1 hc.2 q hq
      · exact hi.live r h q hq
    · exact List.nodup_cons.2 ⟨sched?_none s k hc.1, hi.ids⟩
  | schedFree k =>
    simp only [astep] at hs; (repeat' split at hs) <;> cases hs
    next r hr _ => exact inv_freeSched s r hi (sched?_mem hr)
  | streamCreate x k =>
    simp only [astep] at hs; (repeat' split at hs) <;> cases hs
    exact congr (inv_setUsed s _ .main hi) rfl rfl rfl
  | replace x k =>
    -- the old scheduler is discarded in the state where the new one is `main`; once for each value of `joined x`
    simp only [astep] at hs; (repeat' split at hs) <;> cases hs <;>
      next ro hro _ => exact inv_discard _ ro (congr (inv_setUsed s _ .main hi) rfl rfl rfl) (sched?_mem hro)
  | streamFree x =>
    simp only [astep] at hs; (repeat' split at hs) <;> cases hs
    next ro hro => exact inv_discard _ ro (congr hi rfl rfl rfl) (sched?_mem hro)
  | join x | revive x =>
    simp only [astep] at hs; (repeat' split at hs) <;> cases hs
    exact congr hi rfl rfl rfl
  | stackPush k =>
    simp only [astep] at hs; (repeat' split at hs) <;> cases hs
    exact inv_setUsed s _ .inPool hi
  | stackDone k =>
    simp only [astep] at hs; (repeat' split at hs) <;> cases hs
    next r hr _ => exact inv_discard s r hi (sched?_mem hr)

theorem inv_reachable (s : Acc) (h : amachine.Reachable s) : AInv s :=
  Machine.invariant_reachable amachine AInv inv_init inv_step s h

/-- no scheduler object remembers a replacement that has been carried out: a step leaves `stale` as it is
    or clears it -/
theorem stale_step (s : Acc) (e : AEv) (s' : Acc) (hi : ∀ k, s.stale k = false) (hs : astep s e = some s') :
    ∀ k, s'.stale k = false := by
  intro j
  cases e <;> simp only [astep] at hs <;> (repeat' split at hs) <;> cases hs <;> simp [freeSched, upd, hi]

theorem stale_reachable (s : Acc) (h : amachine.Reachable s) : ∀ k, s.stale k = false :=
  Machine.invariant_reachable amachine (fun s => ∀ k, s.stale k = false) (fun _ => rfl) stale_step s h

/-- entries of a duplicate-free family of pool arrays: count = number of schedulers having the pool -/
theorem occ_eq_length_filter (l : List SchedRec) (p : PoolId) (hnd : ∀ r ∈ l, r.pools.Nodup) :
    occ l p = (l.filter (fun r => decide (p ∈ r.pools))).length := by
  induction l with
  | nil => rfl
  | cons a as ih =>
    have hrest := ih (fun r hr => hnd r (List.mem_cons_of_mem _ hr))
    have ha := hnd a (by simp)
    by_cases hp : p ∈ a.pools <;> simp [occ, hrest, hp, List.Nodup.count ha]; omega

/-! ### (c) one stream -/

structure XInv (s : XS) : Prop where
  join : s.joinReq = true → s.ult.join = true
  cancel : s.cancelReq = true → s.ult.cancel = true

theorem xinv_step (s : XS) (e : XEv) (s' : XS) (hi : XInv s) (hs : xstep s e = some s') : XInv s' := by
  -- `join` and `cancel` set their ghost flag together with the bit; no other event touches the four fields
  obtain ⟨hj, hc⟩ := hi
  cases e with
  | join => cases hs; exact ⟨fun _ => rfl, hc⟩
  | cancel => cases hs; exact ⟨hj, fun _ => rfl⟩
  | _ => simp only [xstep] at hs; (repeat' split at hs) <;> cases hs <;> exact ⟨hj, hc⟩

theorem xstep_checkEvents {s s' : XS} {k : SchedId} (hs : xstep s (.checkEvents k) = some s') :
    s'.req k = checkEvents s.ult (s.req k) ∧ s'.main = s.main := by
  cases hs; simp [upd]

theorem xinv_reachable (m : SchedId) (req : SchedId → SchedReq) (s : XS) (h : (xmachine m req).Reachable s) : XInv s :=
  Machine.invariant_reachable (xmachine m req) XInv ⟨by simp [xmachine, xinit], by simp [xmachine, xinit]⟩
    xinv_step s h

theorem joinReq_step (s : XS) (e : XEv) (s' : XS) (hj : s.joinReq = true) (hs : xstep s e = some s') :
    s'.joinReq = true := by
  cases e with
  | join => cases hs; rfl
  | _ => simp only [xstep] at hs; (repeat' split at hs) <;> cases hs <;> exact hj

end ArgoVerif.Proofs.Stop
