import ArgoVerif.Model.Future
/-
Proofs.Future — inductive invariant of the future model (one lemma per step function); `Fill`, which ties the ghost
list of the values set in this epoch to the array; and what a return step tells about the program counter of the
returning actor.

A step is taken by one actor `a`: it moves `a`'s program counter and writes some shared fields.  `Inv` is therefore
split into the clauses that mention no program counter (`Global`) and, for each actor, what is said of it at its
program counter (`Local`, in which `s.pc` does not occur); what is said of the lock holder alone is kept apart
(`Held`), so that it drops out for every other actor.  `inv_move` reduces a step of `a` to three facts about `Global`
and `Local`; `inv_goto`, `inv_enter` and `inv_leave` settle the steps that write nothing but the program counter and
the lock word, each by a decidable relation between the two program counters.
-/
namespace ArgoVerif.Model.Future
open ArgoVerif

/-- program counters at which the actor holds `p_future->lock` -/
def HoldsLock : Pc → Prop
  | .setCS | .setErrCS | .setCbCS | .setCbRun | .setStCS | .setBcCS | .setRelCS | .waitLdCS | .waitCS | .waitEnq | .reW
  | .reR | .passCS | .resetCS | .resetStCS | .freeCS | .freed => True
  | .idle | .rejected | .setCalled | .setErrDone | .setDone | .waitCalled | .waiting | .woken | .waitDone
  | .testCalled | .testDone0 | .testDone1 | .resetCalled | .resetDone | .freeCalled => False

def InQ : Pc → Prop
  | .waitEnq | .waiting | .reW => True
  | .idle | .rejected | .setCalled | .setCS | .setErrCS | .setErrDone | .setCbCS | .setCbRun | .setStCS | .setBcCS
  | .setRelCS | .setDone | .waitCalled | .waitLdCS | .waitCS | .woken | .reR | .passCS | .waitDone
  | .testCalled | .testDone0 | .testDone1 | .resetCalled | .resetCS | .resetStCS | .resetDone
  | .freeCalled | .freeCS | .freed => False

/-- program counters inside ABT_future_wait past the tasklet check -/
def InWait : Pc → Prop
  | .waitCalled | .waitLdCS | .waitCS | .waitEnq | .waiting | .reW | .woken | .reR | .passCS | .waitDone => True
  | .idle | .rejected | .setCalled | .setCS | .setErrCS | .setErrDone | .setCbCS | .setCbRun | .setStCS | .setBcCS
  | .setRelCS | .setDone | .testCalled | .testDone0 | .testDone1 | .resetCalled | .resetCS | .resetStCS
  | .resetDone | .freeCalled | .freeCS | .freed => False

/-- callers whose observation was "all compartments set" -/
def SawReady : Pc → Prop
  | .woken | .reR | .passCS | .waitDone | .testDone1 => True
  | .idle | .rejected | .setCalled | .setCS | .setErrCS | .setErrDone | .setCbCS | .setCbRun | .setStCS | .setBcCS
  | .setRelCS | .setDone | .waitCalled | .waitLdCS | .waitCS | .waitEnq | .waiting | .reW | .testCalled
  | .testDone0 | .resetCalled | .resetCS | .resetStCS | .resetDone | .freeCalled | .freeCS | .freed => False

/-- between the compartment store and the counter store of a successful set -/
def Staged : Pc → Prop
  | .setCbCS | .setCbRun | .setStCS => True
  | .idle | .rejected | .setCalled | .setCS | .setErrCS | .setErrDone | .setBcCS | .setRelCS | .setDone
  | .waitCalled | .waitLdCS | .waitCS | .waitEnq | .waiting | .reW | .woken | .reR | .passCS | .waitDone
  | .testCalled | .testDone0 | .testDone1 | .resetCalled | .resetCS | .resetStCS | .resetDone
  | .freeCalled | .freeCS | .freed => False

/-- program counters that cannot occur when the future has no compartment -/
def NeedsComp : Pc → Prop
  | .setCbCS | .setCbRun | .setStCS | .setBcCS | .setRelCS | .setDone | .waitCS | .waitEnq | .waiting | .reW | .woken
  | .reR | .testDone0 => True
  | .idle | .rejected | .setCalled | .setCS | .setErrCS | .setErrDone | .waitCalled | .waitLdCS | .passCS
  | .waitDone | .testCalled | .testDone1 | .resetCalled | .resetCS | .resetStCS | .resetDone
  | .freeCalled | .freeCS | .freed => False

structure Inv (s : St) : Prop where
  lockIff : ∀ a, s.lock = some a ↔ HoldsLock (s.pc a)
  nodup : s.q.Nodup
  inQ : ∀ a, a ∈ s.q ↔ InQ (s.pc a)
  taskPc : ∀ a, s.kind a = .task → ¬ InWait (s.pc a)
  ultPc : ∀ a, s.kind a = .ult → (s.pc a ≠ .reW ∧ s.pc a ≠ .reR)
  cntLe : s.counter ≤ s.n
  cntSets : s.counter = s.sets s.epoch
  fut : ∀ k, s.epoch < k → (s.sets k = 0 ∧ s.cbRuns k = 0 ∧ s.cbBeg k = 0)
  noLost : s.q ≠ [] → s.counter = s.n → (s.lock ≠ none ∧ ∀ b, s.lock = some b → s.pc b = .setBcCS)
  csNotFull : ∀ a, s.pc a = .waitCS → s.counter < s.n
  bcFull : ∀ a, s.pc a = .setBcCS → s.counter = s.n
  relNotFull : ∀ a, s.pc a = .setRelCS → s.counter < s.n
  valsFree : s.lock = none → s.vals.length = s.counter
  valsHeld : ∀ a, HoldsLock (s.pc a) → ¬ Staged (s.pc a) → s.vals.length = s.counter
  staged : ∀ a, Staged (s.pc a) → (s.vals.length = s.counter + 1 ∧ s.loc a = s.counter + 1 ∧ s.loc a ≤ s.n)
  cbStage : ∀ a, s.pc a = .setCbCS → (s.loc a = s.n ∧ s.hasCb = true ∧ s.cbRuns s.epoch = 0 ∧ s.cbBeg s.epoch = 0)
  cbRunStage : ∀ a, s.pc a = .setCbRun → (s.loc a = s.n ∧ s.hasCb = true ∧ s.cbRuns s.epoch = 0 ∧ s.cbBeg s.epoch = 1)
  stStage : ∀ a, s.pc a = .setStCS →
    ((s.cbRuns s.epoch = if s.loc a = s.n ∧ s.hasCb = true then 1 else 0) ∧ s.cbBeg s.epoch = s.cbRuns s.epoch)
  begFree : s.lock = none → s.cbBeg s.epoch = s.cbRuns s.epoch
  begHeld : ∀ a, HoldsLock (s.pc a) → ¬ Staged (s.pc a) → s.cbBeg s.epoch = s.cbRuns s.epoch
  begLe : ∀ k, s.cbBeg k ≤ 1
  cbFree : s.lock = none → (s.cbRuns s.epoch = if s.counter = s.n ∧ s.hasCb = true ∧ 0 < s.n then 1 else 0)
  cbHeld : ∀ a, HoldsLock (s.pc a) → ¬ Staged (s.pc a) →
    (s.cbRuns s.epoch = if s.counter = s.n ∧ s.hasCb = true ∧ 0 < s.n then 1 else 0)
  cbLe : ∀ k, s.cbRuns k ≤ 1
  cbFull : s.counter = s.n → s.hasCb = true → 0 < s.n → s.cbRuns s.epoch = 1
  sawOK : ∀ a, SawReady (s.pc a) →
    (s.sets (s.relEpoch a) = s.n ∧ s.relEpoch a ≤ s.epoch ∧ (s.hasCb = true → 0 < s.n → s.cbRuns (s.relEpoch a) = 1))
  zero : s.n = 0 → ((∀ a, ¬ NeedsComp (s.pc a)) ∧ s.q = [] ∧ s.vals = [] ∧ ∀ k, s.cbRuns k = 0)
  zeroBeg : s.n = 0 → ∀ k, s.cbBeg k = 0

-- each class predicate lists every program counter, so that it has one equation per constructor for `simp` to rewrite with
attribute [local simp] HoldsLock InQ InWait SawReady Staged NeedsComp

theorem inQ_inWait (p : Pc) (h : InQ p) : InWait p := by cases p <;> simp_all
theorem inQ_needs (p : Pc) (h : InQ p) : NeedsComp p := by cases p <;> simp_all
theorem staged_iff (p : Pc) : Staged p ↔ p = .setCbCS ∨ p = .setCbRun ∨ p = .setStCS := by cases p <;> simp

theorem holdsLock_of_cs_pc (p : Pc) (h : Staged p ∨ p = .waitCS ∨ p = .setBcCS ∨ p = .setRelCS) : HoldsLock p := by
  cases p <;> simp_all

theorem inv_init (k : Actor → Kind) (n : Nat) (c : Bool) : Inv (init k n c) := by
  constructor <;> simp [init]
  all_goals (first | omega | grind)

theorem Inv.holder_unique {s : St} (hi : Inv s) {a b : Actor} (ha : HoldsLock (s.pc a)) (hb : HoldsLock (s.pc b)) : a = b :=
  Option.some.inj (((hi.lockIff a).mpr ha).symm.trans ((hi.lockIff b).mpr hb))

/-- the callback has returned as often as it was called unless a setter is inside it -/
theorem Inv.beg_eq_runs {s : St} (h : Inv s) (hno : ∀ b, s.pc b ≠ .setCbRun) : s.cbBeg s.epoch = s.cbRuns s.epoch := by
  cases hl : s.lock with
  | none => exact h.begFree hl
  | some x =>
    have hx := (h.lockIff x).mp hl
    by_cases hs : Staged (s.pc x)
    · rcases (staged_iff _).mp hs with hp | hp | hp
      · rw [(h.cbStage x hp).2.2.1, (h.cbStage x hp).2.2.2]
      · exact absurd hp (hno x)
      · exact (h.stStage x hp).2
    · exact h.begHeld x hx hs

/-- no set is between its compartment store and its counter store -/
def Quiet (s : St) : Prop :=
  s.vals.length = s.counter ∧ s.cbBeg s.epoch = s.cbRuns s.epoch ∧
  s.cbRuns s.epoch = if s.counter = s.n ∧ s.hasCb = true ∧ 0 < s.n then 1 else 0

def Global (s : St) : Prop :=
  s.q.Nodup ∧ s.counter ≤ s.n ∧ s.counter = s.sets s.epoch ∧
  (∀ k, s.epoch < k → s.sets k = 0 ∧ s.cbRuns k = 0 ∧ s.cbBeg k = 0) ∧
  (s.q ≠ [] → s.counter = s.n → s.lock ≠ none) ∧ (s.lock = none → Quiet s) ∧
  (∀ k, s.cbBeg k ≤ 1) ∧ (∀ k, s.cbRuns k ≤ 1) ∧
  (s.counter = s.n → s.hasCb = true → 0 < s.n → s.cbRuns s.epoch = 1) ∧
  (s.n = 0 → s.q = [] ∧ s.vals = [] ∧ (∀ k, s.cbRuns k = 0) ∧ ∀ k, s.cbBeg k = 0)

def Held (s : St) (a : Actor) (p : Pc) : Prop :=
  (s.q ≠ [] → s.counter = s.n → p = .setBcCS) ∧ (p = .waitCS → s.counter < s.n) ∧
  (p = .setBcCS → s.counter = s.n) ∧ (p = .setRelCS → s.counter < s.n) ∧ (¬ Staged p → Quiet s) ∧
  (Staged p → s.vals.length = s.counter + 1 ∧ s.loc a = s.counter + 1 ∧ s.loc a ≤ s.n) ∧
  (p = .setCbCS → s.loc a = s.n ∧ s.hasCb = true ∧ s.cbRuns s.epoch = 0 ∧ s.cbBeg s.epoch = 0) ∧
  (p = .setCbRun → s.loc a = s.n ∧ s.hasCb = true ∧ s.cbRuns s.epoch = 0 ∧ s.cbBeg s.epoch = 1) ∧
  (p = .setStCS →
    (s.cbRuns s.epoch = if s.loc a = s.n ∧ s.hasCb = true then 1 else 0) ∧ s.cbBeg s.epoch = s.cbRuns s.epoch)

def Local (s : St) (a : Actor) (p : Pc) : Prop :=
  (s.lock = some a ↔ HoldsLock p) ∧ (a ∈ s.q ↔ InQ p) ∧ (s.kind a = .task → ¬ InWait p) ∧
  (s.kind a = .ult → p ≠ .reW ∧ p ≠ .reR) ∧ (s.n = 0 → ¬ NeedsComp p) ∧
  (SawReady p → s.sets (s.relEpoch a) = s.n ∧ s.relEpoch a ≤ s.epoch ∧
    (s.hasCb = true → 0 < s.n → s.cbRuns (s.relEpoch a) = 1)) ∧
  (s.lock = some a → Held s a p)

/-- for `h : Global s ∧ ∀ a, Local s a (s.pc a)` -/
macro "inv_tac" h:ident : tactic => `(tactic|
  (have := ($h).1; have := ($h).2; simp only [setPc]
   grind [upd, Global, Local, Held, Quiet, HoldsLock, InQ, InWait, SawReady, Staged, NeedsComp]))

macro "close_tac" h:ident hs:ident : tactic => `(tactic|
  first
  | (cases $hs:ident; done)
  | (cases $hs:ident; constructor <;> inv_tac $h))

theorem inv_iff (s : St) : Inv s ↔ Global s ∧ ∀ a, Local s a (s.pc a) := by
  constructor
  · intro h
    cases h
    exact ⟨by grind [Global, Quiet], fun a => by grind [Local, Held, Quiet]⟩
  · intro ⟨g, l⟩
    -- `Local` keeps the clauses of `Inv` about a staged actor or one at a named program counter under `s.lock = some a`
    -- (`Held`): `grind` is told that these program counters are inside the critical section, and which ones `Staged` is
    have := holdsLock_of_cs_pc; have := staged_iff
    obtain ⟨_, _, _, _, _, _, _, _, _, _⟩ := g
    constructor <;> first | assumption | grind [Local, Held, Quiet]

theorem inv_move {s s' : St} {a : Actor} {p : Pc} (h : Inv s) (hpc : s'.pc = upd s.pc a p)
    (hs : Global s → Local s a (s.pc a) →
      Global s' ∧ Local s' a p ∧ ∀ b, b ≠ a → Local s b (s.pc b) → Local s' b (s.pc b)) : Inv s' :=
  inv_of_move inv_iff h hpc hs

theorem inv_setPc {s : St} {a : Actor} {p : Pc} (v : Actor → Val) (r : Actor → Nat) (h : Inv s)
    (hr : ∀ b, b ≠ a → r b = s.relEpoch b)
    (hl : Global s → Local s a (s.pc a) → Local { s with relEpoch := r } a p) :
    Inv (setPc { s with arg := v, relEpoch := r } a p) :=
  inv_move h rfl fun g l => ⟨g, hl g l, fun b hb lb => by rw [Local, ← hr b hb] at lb; exact lb⟩

/-- apart from the lock, `Local` says nothing at `p` that it does not say at `p₀` -/
def Weaker (p₀ p : Pc) : Prop :=
  (InQ p₀ ↔ InQ p) ∧ (InWait p → InWait p₀) ∧ (NeedsComp p → NeedsComp p₀) ∧ (SawReady p → SawReady p₀) ∧
  (p = .reW ∨ p = .reR → p₀ = .reW ∨ p₀ = .reR ∨ p₀ = .waiting ∨ p₀ = .woken)

/-- program counters inside the critical section at which `Held` asks only that no set be under way and no waiter be
left behind a full counter -/
def Plain (p : Pc) : Prop := ¬ Staged p ∧ p ≠ .waitCS ∧ p ≠ .setBcCS ∧ p ≠ .setRelCS

/-- a move that leaves the lock word alone -/
def Goto (p₀ p : Pc) : Prop :=
  (HoldsLock p₀ ↔ HoldsLock p) ∧ Weaker p₀ p ∧ p ≠ .reW ∧ p ≠ .reR ∧ (HoldsLock p → Plain p₀ ∧ Plain p)

def Enter (p₀ p : Pc) : Prop := HoldsLock p ∧ Plain p ∧ Weaker p₀ p

def Leave (p₀ p : Pc) : Prop :=
  HoldsLock p₀ ∧ ¬ Staged p₀ ∧ ¬ HoldsLock p ∧ Weaker p₀ p ∧ p ≠ .reW ∧ p ≠ .reR

theorem inv_goto {s : St} {a : Actor} {p₀ p : Pc} (v : Actor → Val) (h : Inv s) (hp : s.pc a = p₀) (hc : Goto p₀ p) :
    Inv (setPc { s with arg := v } a p) :=
  inv_setPc v s.relEpoch h (fun _ _ => rfl) fun _ l => show Local s a p by
    rw [hp] at l
    grind [Local, Held, Goto, Weaker, Plain, staged_iff]

/-- `hk`: an actor that takes the lock again after its wait is no ULT -/
theorem inv_enter {s : St} {a : Actor} {p₀ p : Pc} (h : Inv s) (hf : s.lock = none) (hp : s.pc a = p₀) (hc : Enter p₀ p)
    (hk : p₀ = .waiting ∨ p₀ = .woken → s.kind a ≠ .ult) : Inv (lockAs s a p) :=
  inv_move h rfl fun g l => by
    rw [hp] at l
    refine ⟨?_, ?_, fun b hb lb => ?_⟩
    · simp only [Global, lockAs, setPc] at g ⊢; grind
    · simp only [Global, Local, Held, Quiet, lockAs, setPc] at g l ⊢; grind [Enter, Weaker, Plain, staged_iff]
    · simp only [Local, lockAs, setPc] at lb ⊢; grind

/-- `hq`: after a broadcast the list is empty -/
theorem inv_leave {s : St} {a : Actor} {p₀ p : Pc} (h : Inv s) (hp : s.pc a = p₀) (hc : Leave p₀ p)
    (hq : p₀ = .setBcCS → s.q = []) : Inv (unlockAs s a p) :=
  inv_move h rfl fun g l => by
    rw [hp] at l
    have l' := l
    simp only [Local, Held] at l'
    refine ⟨?_, ?_, fun b hb lb => ?_⟩
    · simp only [Global, Quiet, unlockAs, setPc] at g l' ⊢; grind [Leave]
    · simp only [Local, unlockAs, setPc]; grind [Leave, Weaker]
    · simp only [Local, unlockAs, setPc] at lb ⊢; grind [Leave]

/-! In the step lemmas `simp` evaluates `Local` (and `Held`) at the two program counters of the acting actor and
`grind` finishes. -/

theorem inv_stepCall (s s' : St) (a : Actor) (op : Op) (v : Val) (h : Inv s) (hs : stepCall s a op v = some s') : Inv s' := by
  unfold stepCall at hs
  split at hs
  · cases hs
  · rename_i h0
    have h0 : s.pc a = .idle := by simpa using h0
    cases op with
    | wait =>
      cases hs
      split
      · exact inv_goto _ h h0 (by simp [Goto, Weaker, Plain])
      · -- `taskPc`: the caller is no tasklet
        refine inv_setPc _ s.relEpoch h (fun _ _ => rfl) fun g l => ?_
        simpa [*, Local, Held, Quiet] using l
    | _ =>
      cases hs
      exact inv_goto _ h h0 (by simp [Goto, Weaker, Plain])

theorem inv_stepRet (s s' : St) (a : Actor) (op : Op) (rc : Rc) (r : Bool) (h : Inv s)
    (hs : stepRet s a op rc r = some s') : Inv s' := by
  unfold stepRet at hs
  split at hs <;> (try split at hs) <;> cases hs <;> exact inv_goto _ h ‹_› (by simp [Goto, Weaker, Plain])

theorem acq_f_free (s s' : St) (a : Actor) (hs : stepAcq s a false = some s') : s.lock = none := by
  unfold stepAcq at hs
  split at hs
  · cases hs
  · cases hl : s.lock <;> simp_all

theorem inv_stepAcq (s s' : St) (a : Actor) (old : Bool) (h : Inv s) (hs : stepAcq s a old = some s') : Inv s' := by
  cases old
  · have hl := acq_f_free s s' a hs
    unfold stepAcq at hs
    simp only [Bool.false_eq_true, if_false] at hs
    split at hs
    · cases hs
    · split at hs <;> (try split at hs) <;> cases hs <;> exact inv_enter h hl ‹_› (by simp [Enter, Weaker, Plain]) (by simp [*])
  · unfold stepAcq at hs
    simp only [if_true] at hs
    (repeat' (split at hs)) <;> first | (cases hs; done) | (cases hs; exact h)

theorem ldCnt_cases (s s' : St) (a : Actor) (v : Nat) (hs : stepLdCnt s a v = some s') :
    v = s.counter ∧
    (s.pc a = .setCS ∧ s' = (if s.n ≤ s.counter then setPc s a .setErrCS else store s a) ∨
     s.pc a = .waitLdCS ∧ s' = (if s.counter < s.n then setPc s a .waitCS
                                else setPc { s with relEpoch := upd s.relEpoch a s.epoch } a .passCS)) := by
  unfold stepLdCnt at hs
  split at hs
  · cases hs
  · rename_i hv
    refine ⟨by simpa using hv, ?_⟩
    split at hs <;> simp_all

/-- ABT_future_set found a free compartment: the compartment store and the local increment -/
theorem inv_store (s : St) (a : Actor) (h : Inv s) (hp : s.pc a = .setCS) (hc : ¬ s.n ≤ s.counter) : Inv (store s a) := by
  refine inv_move h rfl fun g l => ?_
  simp only [Global, Quiet] at g
  simp [hp, Local, Held, Quiet] at l
  refine ⟨?_, ?_, fun b hb lb => ?_⟩
  · simp only [Global, Quiet, store, setPc]; grind
  · split <;> simp [Local, Held, Quiet, store, setPc] <;> grind
  · simp only [Local, store, setPc] at lb ⊢; grind

theorem inv_stepLdCnt (s s' : St) (a : Actor) (v : Nat) (h : Inv s) (hs : stepLdCnt s a v = some s') : Inv s' := by
  rcases (ldCnt_cases s s' a v hs).2 with ⟨hp, rfl⟩ | ⟨hp, rfl⟩ <;> clear hs <;> split
  · refine inv_setPc s.arg s.relEpoch h (fun _ _ => rfl) fun g l => ?_
    simp [hp, Local, Held, Quiet] at l ⊢ <;> grind
  · exact inv_store s a h hp ‹_›
  · refine inv_setPc s.arg s.relEpoch h (fun _ _ => rfl) fun g l => ?_
    simp [hp, Local, Held, Quiet] at l ⊢ <;> grind
  · refine inv_setPc s.arg _ h (fun b hb => by simp [upd, hb]) fun g l => ?_
    simp only [Global, Quiet] at g
    simp [hp, Local, Held, Quiet] at l ⊢ <;> grind

theorem inv_stepCbBegin (s s' : St) (a : Actor) (h : Inv s) (hs : stepCbBegin s a = some s') : Inv s' := by
  unfold stepCbBegin at hs
  split at hs <;> cases hs
  rename_i hp
  refine inv_move h rfl fun g l => ?_
  simp only [Global, Quiet] at g
  simp [hp, Local, Held, Quiet] at l
  refine ⟨?_, ?_, fun b hb lb => ?_⟩
  · simp only [Global, Quiet, setPc]; grind [upd]
  · simp [Local, Held, Quiet, setPc]; grind [upd]
  · simp only [Local, setPc] at lb ⊢; grind [upd]

theorem inv_stepCb (s s' : St) (a : Actor) (vs : List Val) (h : Inv s) (hs : stepCb s a vs = some s') : Inv s' := by
  unfold stepCb at hs
  split at hs <;> cases hs
  rename_i hp
  refine inv_move h rfl fun g l => ?_
  simp only [Global, Quiet] at g
  simp [hp.1, Local, Held, Quiet] at l
  refine ⟨?_, ?_, fun b hb lb => ?_⟩
  · simp only [Global, Quiet, setPc]; grind [upd]
  · simp [Local, Held, Quiet, setPc]; grind [upd]
  · simp only [Local, setPc] at lb ⊢; grind [upd]

theorem inv_stepStCnt (s s' : St) (a : Actor) (v : Nat) (h : Inv s) (hs : stepStCnt s a v = some s') : Inv s' := by
  unfold stepStCnt at hs
  split at hs <;> (try split at hs) <;> cases hs <;> rename_i hp hv <;> subst hv <;>
    refine inv_move h rfl fun g l => ?_ <;> simp only [Global, Quiet] at g <;> simp [hp, Local, Held, Quiet] at l
  · -- the set, which goes on to the broadcast if the counter is full now and to the release if not
    refine ⟨?_, ?_, fun b hb lb => ?_⟩
    · simp only [Global, Quiet, setPc]; grind [upd]
    · split <;> simp [Local, Held, Quiet, setPc] <;> grind [upd]
    · simp only [Local, setPc] at lb ⊢; grind [upd]
  · -- the reset
    refine ⟨?_, ?_, fun b hb lb => ?_⟩
    · simp only [Global, Quiet, setPc]; grind [upd]
    · simp [Local, Held, Quiet, setPc]; grind [upd]
    · simp only [Local, setPc] at lb ⊢; grind [upd]

theorem inv_stepEnq (s s' : St) (a : Actor) (h : Inv s) (hs : stepEnq s a = some s') : Inv s' := by
  rw [inv_iff] at h ⊢
  unfold stepEnq at hs
  split at hs <;> close_tac h hs

theorem wake_cases (s s' : St) (a n : Actor) (hs : stepWake s a n = some s') :
    s.pc a = .setBcCS ∧ ∃ t, s.q = n :: t ∧ s' = setPc { s with q := t, relEpoch := upd s.relEpoch n s.epoch } n .woken := by
  unfold stepWake at hs
  split at hs
  · rename_i hd tl hpc hq
    split at hs
    · rename_i hn; subst hn; cases hs; exact ⟨hpc, tl, hq, rfl⟩
    · cases hs
  · cases hs

/-- the step moves the woken waiter `n`, not the broadcasting setter `a`, which is one of the other actors -/
theorem inv_stepWake (s s' : St) (a n : Actor) (h : Inv s) (hs : stepWake s a n = some s') : Inv s' := by
  obtain ⟨hpc, t, hq, rfl⟩ := wake_cases s s' a n hs
  have la := ((inv_iff s).mp h).2 a
  simp [hpc, Local, Held, Quiet] at la
  refine inv_move h rfl fun g l => ?_
  have hn := inQ_needs (s.pc n); have hw := inQ_inWait (s.pc n)
  refine ⟨?_, ?_, fun b hb lb => ?_⟩
  · simp only [Global, Quiet, setPc] at g ⊢; grind
  · simp only [Local, Global, setPc] at g l ⊢; simp; grind [upd]
  · simp only [Local, Held, Quiet, Global, setPc] at g lb ⊢; grind [upd]

theorem chk_some (s s' : St) (c n : Nat) (e : Bool) (hs : chk s c n e = some s') :
    s' = s ∧ c = s.counter ∧ n = s.n ∧ e = s.q.isEmpty := by
  unfold chk at hs
  split at hs
  · cases hs; simp_all
  · cases hs

theorem inv_stepRel (s s' : St) (a : Actor) (c n : Nat) (e : Bool) (h : Inv s) (hs : stepRel s a c n e = some s') : Inv s' := by
  unfold stepRel at hs
  split at hs <;> (try split at hs) <;> first
    | (cases hs; done)
    | (obtain ⟨rfl, -⟩ := chk_some _ _ _ _ _ hs
       exact inv_leave h ‹_› (by simp [Leave, Weaker]) (by simp [*]))

theorem tload_cases (s s' : St) (a : Actor) (v : Nat) (hs : stepTload s a v = some s') :
    v = s.counter ∧ s'.pc a = (if v = s.n then .testDone1 else .testDone0) := by
  unfold stepTload at hs
  split at hs
  · rename_i hc; cases hs; exact ⟨hc.2, by simp [setPc]⟩
  · cases hs

theorem inv_stepTload (s s' : St) (a : Actor) (v : Nat) (h : Inv s) (hs : stepTload s a v = some s') : Inv s' := by
  unfold stepTload at hs
  split at hs
  · rename_i hc
    obtain ⟨hp, rfl⟩ := hc
    cases hs
    refine inv_setPc s.arg _ h (fun b hb => by simp [upd, hb]) fun g l => ?_
    simp only [Global, Quiet] at g
    split <;> simp [hp, Local, Held, Quiet] at l ⊢ <;> grind
  · cases hs

/-! The ghost list `vals` (values of this epoch's successful sets, in order) is what the array holds. -/

def Fill (s : St) : Prop := ∀ i, i < s.vals.length → s.vals[i]? = some (s.arr i)

theorem fill_init (k : Actor → Kind) (n : Nat) (c : Bool) : Fill (init k n c) := by
  intro i hi; simp [init] at hi

theorem fill_same (s s' : St) (hv : s'.vals = s.vals) (ha : s'.arr = s.arr) (h : Fill s) : Fill s' := by
  intro i hi; rw [hv] at hi ⊢; rw [ha]; exact h i hi

theorem fill_store (s : St) (a : Actor) (h : Fill s) (hl : s.vals.length = s.counter) : Fill (store s a) := by
  intro i hi
  simp only [store, setPc, List.length_append, List.length_singleton] at hi ⊢
  by_cases hc : i < s.vals.length
  · rw [List.getElem?_append_left hc, h i hc]
    have : i ≠ s.counter := by omega
    simp [upd, this]
  · have hi' : i = s.vals.length := by omega
    subst hi'
    simp [upd, hl]

theorem fill_ldCnt (s s' : St) (a : Actor) (v : Nat) (hi : Inv s) (h : Fill s) (hs : stepLdCnt s a v = some s') : Fill s' := by
  rcases (ldCnt_cases s s' a v hs).2 with ⟨hp, rfl⟩ | ⟨hp, rfl⟩ <;> split
  · exact fill_same _ _ rfl rfl h
  · exact fill_store s a h (hi.valsHeld a (by rw [hp]; trivial) (by rw [hp]; simp [Staged]))
  · exact fill_same _ _ rfl rfl h
  · exact fill_same _ _ rfl rfl h

theorem fill_stCnt (s s' : St) (a : Actor) (v : Nat) (h : Fill s) (hs : stepStCnt s a v = some s') : Fill s' := by
  unfold stepStCnt at hs
  split at hs
  · split at hs
    · cases hs; exact fill_same _ _ rfl rfl h
    · cases hs
  · split at hs
    · cases hs; intro i hi; simp [setPc] at hi
    · cases hs
  · cases hs

/-- only the compartment store (`ldCnt`) and the reset (`stCnt`) touch `vals` or the array -/
theorem fill_step (s s' : St) (e : Ev) (hi : Inv s) (h : Fill s) (hs : step s e = some s') : Fill s' := by
  cases e with
  | ldCnt a v => exact fill_ldCnt s s' a v hi h hs
  | stCnt a v => exact fill_stCnt s s' a v h hs
  | _ =>
    simp only [step, stepCall, stepRet, stepAcq, stepCbBegin, stepCb, stepEnq, stepWake, stepRel, chk, stepTload] at hs
    (repeat' (split at hs)) <;> first | (cases hs; done) | (cases hs; exact fill_same _ _ rfl rfl h)

theorem fill_full (s : St) (h : Fill s) (m : Nat) (hl : s.vals.length = m) : (List.range m).map s.arr = s.vals := by
  apply List.ext_getElem?
  intro i
  by_cases hi : i < m
  · rw [h i (by omega)]
    simp [hi]
  · have h1 : s.vals.length ≤ i := by omega
    simp [List.getElem?_eq_none h1, hi]

/-! what a return step tells about the returning actor -/
theorem ret_wait_ok (s s' : St) (a : Actor) (r : Bool) (hs : stepRet s a .wait .ok r = some s') :
    s.pc a = .woken ∨ s.pc a = .waitDone := by
  unfold stepRet at hs
  split at hs <;> simp_all

theorem ret_test_true (s s' : St) (a : Actor) (hs : stepRet s a .test .ok true = some s') : s.pc a = .testDone1 := by
  unfold stepRet at hs
  split at hs <;> simp_all

end ArgoVerif.Model.Future
