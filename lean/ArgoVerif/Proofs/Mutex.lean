import ArgoVerif.Model.Mutex
/-
Proofs.Mutex — inductive invariant of the mutex model.

As in Proofs.Future, `Inv` is split into the clauses that mention no program counter (`Global`) and what is said of one
actor at its program counter (`Local`), and `inv_move` reduces a step of `a` to three facts about them; one lemma per
kind of write (`inv_setPc`, `inv_acquire`, `inv_takeW`, `inv_dropW`) gives the third fact once.  Where the two program
counters agree on every test `Local` makes (`SameClass`, `SameTests`), `Local` is not evaluated at all.
-/
namespace ArgoVerif.Model.Mutex
open ArgoVerif

def Holding : Pc → Prop
  | .cs | .lDone | .lGotRelW | .tOk | .tTryHeld | .tFailHeld | .rNest | .rUnnest | .uAcqW | .uRelLock => True
  | _ => False

/-- program counters at which the actor holds the waiter lock `W` -/
def HasW : Pc → Prop
  | .lRetry | .lGotRelW | .lEnq | .lSusp | .lRelW | .xCheck | .xSleepRelW | .xReadyRelW
  | .uRelLock | .uBcast | .uStore | .uRelW => True
  | _ => False

/-- program counters of an enqueued waiter -/
def Waiting : Pc → Prop
  | .lSusp | .lRelW | .lWait | .xCheck | .xSleepRelW | .xSleep | .xReacqW | .xReadyRelW => True
  | _ => False

/-- the owner `o` of the waiter lock is an unlocker inside its broadcast loop (`uBcast`: about to take the next waiter off
the list or to leave; `uStore`: about to mark the one it took ready) -/
def Bcasting (o : Option Actor) (pc : Actor → Pc) : Prop :=
  o ≠ none ∧ ∀ b, o = some b → (pc b = .uBcast ∨ pc b = .uStore)

structure Inv (s : St) : Prop where
  holderIff : ∀ a, s.holder = some a ↔ Holding (s.pc a)
  lockIff : s.lockW = true ↔ s.holder ≠ none
  wlIff : ∀ a, s.wlOwner = some a ↔ HasW (s.pc a)
  wlBool : s.wl = true ↔ s.wlOwner ≠ none
  inQ : ∀ a, a ∈ s.q → Waiting (s.pc a) ∧ s.ready a = false
  nodup : s.q.Nodup
  noLost : s.q ≠ [] → s.lockW = false → Bcasting s.wlOwner s.pc
  pendIff : ∀ b, s.pc b = .uStore ↔ (s.wlOwner = some b ∧ s.pending ≠ none)
  pendWait : ∀ n, s.pending = some n → Waiting (s.pc n) ∧ n ∉ s.q ∧ s.ready n = false
  ultWait : ∀ a, s.pc a = .lWait → a ∈ s.q ∨ s.pending = some a
  ultPc : ∀ a, s.isUlt a = true → Waiting (s.pc a) → (s.pc a = .lSusp ∨ s.pc a = .lRelW ∨ s.pc a = .lWait)
  relNest : ∀ a, (s.pc a = .uAcqW ∨ s.pc a = .uRelLock) → s.nest = 0
  enqHeld : ∀ a, s.pc a = .lEnq → s.lockW = true
  nonrecNest : s.recursive = false → s.nest = 0
  readyPc : ∀ a, s.pc a = .xReadyRelW → s.ready a = true
  ultOnly : ∀ a, (s.pc a = .lSusp ∨ s.pc a = .lRelW ∨ s.pc a = .lWait) → s.isUlt a = true
  pendOwner : s.pending ≠ none → s.wlOwner ≠ none
  suspInQ : ∀ a, (s.pc a = .lSusp ∨ s.pc a = .lRelW) → a ∈ s.q
  recPc : ∀ a, (s.pc a = .rNest ∨ s.pc a = .rUnnest) → s.recursive = true

theorem inv_init (r : Bool) (u : Actor → Bool) : Inv (init r u) := by
  constructor <;> simp [init, Holding, HasW, Waiting, Bcasting]

theorem Inv.holding_of_locked {s : St} (hi : Inv s) (hl : s.lockW = true) : ∃ b, Holding (s.pc b) := by
  cases hh : s.holder with
  | none => exact absurd hh (hi.lockIff.mp hl)
  | some b => exact ⟨b, (hi.holderIff b).mp hh⟩

theorem Inv.holder_unique {s : St} (hi : Inv s) {a b : Actor} (ha : Holding (s.pc a)) (hb : Holding (s.pc b)) : a = b :=
  Option.some.inj (((hi.holderIff a).mpr ha).symm.trans ((hi.holderIff b).mpr hb))

def Global (s : St) : Prop :=
  (s.lockW = true ↔ s.holder ≠ none) ∧ (s.wl = true ↔ s.wlOwner ≠ none) ∧ s.q.Nodup ∧
  (s.q ≠ [] → s.lockW = false → s.wlOwner ≠ none) ∧ (s.recursive = false → s.nest = 0) ∧
  (s.pending ≠ none → s.wlOwner ≠ none)

def Local (s : St) (a : Actor) (p : Pc) : Prop :=
  (s.holder = some a ↔ Holding p) ∧ (s.wlOwner = some a ↔ HasW p) ∧
  (a ∈ s.q → Waiting p ∧ s.ready a = false) ∧
  (s.q ≠ [] → s.lockW = false → s.wlOwner = some a → p = .uBcast ∨ p = .uStore) ∧
  (p = .uStore ↔ s.wlOwner = some a ∧ s.pending ≠ none) ∧
  (s.pending = some a → Waiting p ∧ a ∉ s.q ∧ s.ready a = false) ∧
  (p = .lWait → a ∈ s.q ∨ s.pending = some a) ∧
  (s.isUlt a = true → Waiting p → p = .lSusp ∨ p = .lRelW ∨ p = .lWait) ∧
  (p = .uAcqW ∨ p = .uRelLock → s.nest = 0) ∧
  (p = .lEnq → s.lockW = true) ∧ (p = .xReadyRelW → s.ready a = true) ∧
  (p = .lSusp ∨ p = .lRelW ∨ p = .lWait → s.isUlt a = true) ∧
  (p = .lSusp ∨ p = .lRelW → a ∈ s.q) ∧ (p = .rNest ∨ p = .rUnnest → s.recursive = true)

macro "inv_tac" h:ident : tactic => `(tactic|
  (cases $h:ident; first | assumption | grind [upd, Bcasting, Global, Local]))

macro "close_tac" h:ident hs:ident : tactic => `(tactic|
  first
  | (cases $hs:ident; done)
  | (cases $hs:ident; constructor <;> inv_tac $h))

theorem inv_iff (s : St) : Inv s ↔ Global s ∧ ∀ a, Local s a (s.pc a) := by
  constructor
  · exact fun h => ⟨by inv_tac h, fun a => by inv_tac h⟩
  · intro ⟨⟨_, _, _, _, _, _⟩, l⟩
    constructor <;> first | assumption | grind [Local, Bcasting]

theorem inv_move {s s' : St} {a : Actor} {p : Pc} (h : Inv s) (hpc : s'.pc = upd s.pc a p)
    (hs : Global s → Local s a (s.pc a) →
      Global s' ∧ Local s' a p ∧ ∀ b, b ≠ a → Local s b (s.pc b) → Local s' b (s.pc b)) : Inv s' :=
  inv_of_move inv_iff h hpc hs

/-- `Inv` says nothing of `owner`; only the holder of a recursive mutex changes `nest` -/
theorem inv_setPc {s : St} {a : Actor} {p₀ p : Pc} {o : Option Actor} {n : Nat} (h : Inv s) (hp : s.pc a = p₀)
    (hl : (s.recursive = false → s.nest = 0) → Local s a p₀ →
      Local { s with nest := n } a p ∧ (n = s.nest ∨ Holding p₀ ∧ s.recursive = true)) :
    Inv (setPc { s with owner := o, nest := n } a p) :=
  inv_move h rfl fun g l => by
    obtain ⟨hl, hn⟩ := hl g.2.2.2.2.1 (hp ▸ l)
    -- `grind` does not unfold `Holding`: for `relNest` of another actor it is told that an actor at these two program counters
    -- would be the holder, which `a` is when it changes `nest`
    have : Holding .uAcqW ∧ Holding .uRelLock := ⟨trivial, trivial⟩
    refine ⟨?_, hl, fun b hb lb => ?_⟩ <;> grind [Global, Local, setPc]

instance : DecidablePred Holding := fun p => by
  unfold Holding
  split <;> infer_instance

instance : DecidablePred HasW := fun p => by
  unfold HasW
  split <;> infer_instance

instance : DecidablePred Waiting := fun p => by
  unfold Waiting
  split <;> infer_instance

/-- `p₀` and `p` agree on every test that `Local` makes of a program counter, the two locks apart -/
def SameTests (p₀ p : Pc) : Prop :=
  (Waiting p₀ ↔ Waiting p) ∧ (p₀ = .uBcast ↔ p = .uBcast) ∧
  (p₀ = .uStore ↔ p = .uStore) ∧ (p₀ = .lWait ↔ p = .lWait) ∧ (p₀ = .lSusp ∨ p₀ = .lRelW ↔ p = .lSusp ∨ p = .lRelW) ∧
  (p₀ = .uAcqW ∨ p₀ = .uRelLock ↔ p = .uAcqW ∨ p = .uRelLock) ∧ (p₀ = .lEnq ↔ p = .lEnq) ∧
  (p₀ = .xReadyRelW ↔ p = .xReadyRelW) ∧ (p₀ = .rNest ∨ p₀ = .rUnnest ↔ p = .rNest ∨ p = .rUnnest)

instance (p₀ p : Pc) : Decidable (SameTests p₀ p) := by
  unfold SameTests
  infer_instance

def SameClass (p₀ p : Pc) : Prop := (Holding p₀ ↔ Holding p) ∧ (HasW p₀ ↔ HasW p) ∧ SameTests p₀ p

instance (p₀ p : Pc) : Decidable (SameClass p₀ p) := by
  unfold SameClass
  infer_instance

theorem inv_acquire {s : St} {a : Actor} {p₀ p : Pc} (h : Inv s) (hp : s.pc a = p₀) (hf : s.lockW = false)
    (hc : Holding p ∧ (HasW p₀ ↔ HasW p) ∧ SameTests p₀ p) : Inv (acquire s a p) :=
  inv_move h rfl fun g l => by
    rw [hp] at l
    refine ⟨?_, ?_, fun b hb lb => ?_⟩
    · grind [Global, acquire, setPc]
    · simp only [Local, acquire, setPc] at l ⊢; grind [SameTests]
    · grind [Global, Local, acquire, setPc]

theorem inv_takeW {s : St} {a : Actor} {p₀ p : Pc} (h : Inv s) (hp : s.pc a = p₀) (hf : s.wl = false)
    (hc : HasW p ∧ (Holding p₀ ↔ Holding p) ∧ SameTests p₀ p) : Inv (takeW s a p) :=
  inv_move h rfl fun g l => by
    rw [hp] at l
    refine ⟨?_, ?_, fun b hb lb => ?_⟩
    · grind [Global, takeW, setPc]
    · simp only [Global, Local, takeW, setPc] at g l ⊢; grind [SameTests]
    · grind [Global, Local, takeW, setPc]

theorem inv_dropW {s : St} {a : Actor} {p₀ p : Pc} (h : Inv s) (hp : s.pc a = p₀)
    (hl : Local s a p₀ →
      Local { s with wl := false, wlOwner := none } a p ∧ HasW p₀ ∧ p₀ ≠ .uBcast ∧ p₀ ≠ .uStore) :
    Inv (dropW s a p) :=
  inv_move h rfl fun g l => by
    obtain ⟨hl, hw, hb1, hb2⟩ := hl (hp ▸ l)
    refine ⟨?_, hl, fun b hb lb => ?_⟩ <;> grind [Global, Local, dropW, setPc]

theorem ite_and {α : Type} (p q : Prop) [Decidable p] [Decidable q] (x y : α) :
    (if p ∧ q then x else y) = if p then if q then x else y else y := by
  by_cases p <;> simp [*]

theorem inv_goto {s : St} {a : Actor} {p₀ p : Pc} {o : Option Actor} (h : Inv s) (hp : s.pc a = p₀)
    (hc : SameClass p₀ p) : Inv (setPc { s with owner := o } a p) :=
  inv_setPc (n := s.nest) h hp fun _ l => ⟨by grind [Local, SameClass, SameTests], .inl rfl⟩

theorem inv_stepCall (s s' : St) (a : Actor) (op : Op) (h : Inv s) (hs : stepCall s a op = some s') : Inv s' := by
  cases op <;> simp only [stepCall, ite_and] at hs <;> (repeat' split at hs) <;> cases hs <;> first
    -- from `idle`, and to `tTryHeld`
    | exact inv_goto h ‹_› (by decide)
    -- to `rNest`, `rUnnest`, `uAcqW`: the guard gives what `recPc` and `relNest` ask
    | exact inv_setPc h ‹_› (by simp_all [Local, Holding, HasW, Waiting])

theorem inv_stepRet (s s' : St) (a : Actor) (op : Op) (ok : Bool) (h : Inv s) (hs : stepRet s a op ok = some s') : Inv s' := by
  unfold stepRet at hs
  split at hs <;> cases hs <;> first
    | exact inv_goto h ‹_› (by decide)
    -- from `rNest`, `rUnnest`, where the mutex is recursive and `a` holds it
    | exact inv_setPc h ‹_› (by simp +contextual [Local, Holding, HasW, Waiting])

theorem tasLock_old (s : St) (a : Actor) (old : Bool) (s' : St) (hs : stepTasLock s a old = some s') : old = s.lockW := by
  unfold stepTasLock at hs
  split at hs
  · cases hs
  · simpa using ‹¬ old ≠ s.lockW›

theorem inv_stepTasLock (s s' : St) (a : Actor) (old : Bool) (h : Inv s) (hs : stepTasLock s a old = some s') : Inv s' := by
  have ho := tasLock_old s a old s' hs
  unfold stepTasLock at hs
  rw [if_neg (by simp [ho])] at hs
  cases old with
  | false =>
    split at hs <;> cases hs <;> exact inv_acquire h ‹_› ho.symm (by decide)
  | true =>
    split at hs <;> cases hs
    case h_2 =>
      -- `lRetry` to `lEnq`; `enqHeld`: the lock word was read as set
      exact inv_setPc h ‹_› (by simp +contextual [Local, Holding, HasW, Waiting, ← ho])
    case h_5 =>
      -- `sTry` spins
      exact h
    all_goals exact inv_goto h ‹_› (by decide)

theorem inv_stepTasW (s s' : St) (a : Actor) (old : Bool) (h : Inv s) (hs : stepTasW s a old = some s') : Inv s' := by
  unfold stepTasW at hs
  split at hs
  · cases hs
  · rename_i ho
    cases old with
    | false =>
      split at hs <;> cases hs <;>
        exact inv_takeW h ‹_› (by simpa using ho) (by decide)
    | true => split at hs <;> cases hs <;> exact h

theorem inv_stepClearLock (s s' : St) (a : Actor) (h : Inv s) (hs : stepClearLock s a = some s') : Inv s' := by
  unfold stepClearLock at hs
  split at hs <;> cases hs
  rename_i hp
  refine inv_move h rfl fun g l => ?_
  simp [hp, Local, Holding, HasW, Waiting] at l
  refine ⟨?_, ?_, fun b hb lb => ?_⟩
  · grind [Global, setPc]
  · simp_all [Global, Local, Holding, HasW, Waiting, setPc]
  · -- `enqHeld` of another actor: at `lEnq` it would own the waiter lock, which `a` does
    have : HasW .lEnq := trivial
    grind [Global, Local, setPc]

theorem inv_stepClearW (s s' : St) (a : Actor) (h : Inv s) (hs : stepClearW s a = some s') : Inv s' := by
  unfold stepClearW at hs
  split at hs <;> cases hs <;>
    exact inv_dropW h (by assumption) (by simp +contextual [Local, Holding, HasW, Waiting] <;> grind)

theorem inv_stepStoreBlocked (s s' : St) (a : Actor) (h : Inv s) (hs : stepStoreBlocked s a = some s') : Inv s' := by
  unfold stepStoreBlocked at hs
  split at hs <;> cases hs
  exact inv_goto h ‹_› (by decide)

theorem inv_stepLoadState (s s' : St) (a : Actor) (r : Bool) (h : Inv s) (hs : stepLoadState s a r = some s') : Inv s' := by
  unfold stepLoadState at hs
  cases r <;> (repeat' (split at hs)) <;> cases hs <;> first
    | exact inv_goto h ‹_› (by decide)
    -- `xCheck` to `xReadyRelW` (`readyPc`: the state read is `READY`), `xSleep` to `lTry` (no longer waiting)
    | exact inv_setPc h ‹_› (by simp_all [Local, Holding, HasW, Waiting])

theorem inv_bcastDone (s s' : St) (a : Actor) (h : Inv s) (hs : bcastDone s a = some s') : Inv s' := by
  simp only [bcastDone, ite_and] at hs
  (repeat' split at hs) <;> cases hs
  exact inv_setPc h (by assumption) (by simp_all [Local, Holding, HasW, Waiting])

theorem inv_stepEnq (s s' : St) (a : Actor) (h : Inv s) (hs : stepEnq s a = some s') : Inv s' := by
  unfold stepEnq at hs
  split at hs <;> cases hs
  rename_i hp
  refine inv_move h rfl fun g l => ?_
  simp [hp, Local, Holding, HasW, Waiting] at l
  refine ⟨?_, ?_, fun b hb lb => ?_⟩
  · grind [Global, setPc]
  · cases hu : s.isUlt a <;> simp_all [Local, Holding, HasW, Waiting, setPc, upd]
  · simp only [Local, setPc] at lb ⊢
    grind [upd]

theorem inv_stepDeq (s s' : St) (a n : Actor) (h : Inv s) (hs : stepDeq s a n = some s') : Inv s' := by
  unfold stepDeq at hs
  (repeat' (split at hs)) <;> cases hs
  refine inv_move h rfl fun g l => ?_
  have la := l
  simp [‹s.pc a = _›, Local, Holding, HasW, Waiting] at la
  refine ⟨?_, ?_, fun b hb lb => ?_⟩
  · grind [Global, setPc]
  · simp_all [Local, Holding, HasW, Waiting, setPc] <;> grind
  · grind [Global, Local, setPc, HasW]

/-- two actors move: the broadcaster `a`, and the woken `n` if it is a ULT (it is suspended, at `lWait`) -/
theorem inv_stepStoreReady (s s' : St) (a n : Actor) (h : Inv s) (hs : stepStoreReady s a n = some s') : Inv s' := by
  unfold stepStoreReady at hs
  split at hs <;> cases hs
  rename_i hg
  rw [inv_iff] at h ⊢
  have la := h.2 a
  have ln := h.2 n
  simp [hg, Local, Holding, HasW, Waiting] at la
  have hn : s.isUlt n = true → s.pc n = .lWait := by simp only [Local] at ln; grind
  refine ⟨by grind [Global, setPc], fun b => ?_⟩
  have lb := h.2 b
  clear h
  by_cases hba : b = a
  · subst hba
    cases s.isUlt n <;> simp_all [Local, Holding, HasW, Waiting, setPc, upd]
  · cases hu : s.isUlt n
    · simp only [Local, setPc] at lb ⊢
      grind [upd]
    · by_cases hbn : b = n
      · subst hbn
        simp_all [Local, Holding, HasW, Waiting, setPc, upd]
      · simp only [Local, setPc] at lb ⊢
        grind [upd]

end ArgoVerif.Model.Mutex
