import ArgoVerif.Model.UnitMap
/-
Proofs.UnitMapConc — inductive invariant of the interleaving model of map / unmap / lock-free
get (Model.UnitMap part 2) and its preservation by every transition.

A transition of caller `t` changes the ghost state of the one unit `t` works on, the head and the
cells of the bucket whose lock `t` holds, and cells that were not allocated before (`Within`).
What the other callers must find at their program points (`PcOK`) reads none of these
(`pcok_within`), so each transition is left with the heap shape (`GInv`) and with what `t` itself
must find next.
-/
namespace ArgoVerif.Model.UnitMap
open ArgoVerif

/-- bucket whose lock a caller holds -/
def holds (h : Nat → Nat) : Pc → Option Nat
  | .mHead u _ | .mScan u _ _ | .mNext u _ _ | .mSetUnit u _ _ | .mSetThr u _ _ | .mAlloc u _
  | .mPub u _ _ | .mRel u _ _ | .uHead u | .uScan u _ | .uNext u _ | .uClear u _ | .uRel u => some (h u)
  | _ => none

structure GInv (h : Nat → Nat) (s : CSt) : Prop where
  nid : 1 ≤ s.nextId
  pub_lt : ∀ e, s.pub e = true → 1 ≤ e ∧ e < s.nextId
  head_pub : ∀ b, s.head b ≠ 0 → s.pub (s.head b) = true ∧ s.bkt (s.head b) = b
  head_max : ∀ e, s.pub e = true → e ≤ s.head (s.bkt e)
  next_pub : ∀ e, s.pub e = true → (s.cell e).next ≠ 0 →
    s.pub (s.cell e).next = true ∧ s.bkt (s.cell e).next = s.bkt e ∧ (s.cell e).next < e
  next_max : ∀ e e', s.pub e = true → s.pub e' = true → s.bkt e' = s.bkt e → e' < e → e' ≤ (s.cell e).next
  wh_ok : ∀ u, s.wh u ≠ 0 → s.pub (s.wh u) = true ∧ (s.cell (s.wh u)).unit = u ∧ s.bkt (s.wh u) = h u ∧ u ≠ 0
  uniq : ∀ e, s.pub e = true → (s.cell e).unit ≠ 0 → s.wh (s.cell e).unit = e
  abs_ok : ∀ u th, s.abs u = some th → s.wh u ≠ 0 ∧ (s.cell (s.wh u)).thr = th ∧ s.busy u = false
  free_ok : ∀ u, s.abs u = none → s.busy u = false → s.wh u = 0

def PcOK (h : Nat → Nat) (s : CSt) : Pc → Prop
  | .idle => True
  | .mAcq u _ => u ≠ 0 ∧ s.busy u = true ∧ s.abs u = none ∧ s.wh u = 0
  | .mHead u _ => u ≠ 0 ∧ s.busy u = true ∧ s.abs u = none ∧ s.wh u = 0
  | .mScan u _ cur => u ≠ 0 ∧ s.busy u = true ∧ s.abs u = none ∧ s.wh u = 0 ∧
      (cur ≠ 0 → s.pub cur = true ∧ s.bkt cur = h u)
  | .mNext u _ cur => u ≠ 0 ∧ s.busy u = true ∧ s.abs u = none ∧ s.wh u = 0 ∧ s.pub cur = true ∧ s.bkt cur = h u
  | .mSetUnit u _ cur => u ≠ 0 ∧ s.busy u = true ∧ s.abs u = none ∧ s.wh u = 0 ∧ s.pub cur = true ∧ s.bkt cur = h u ∧
      (s.cell cur).unit = 0
  | .mSetThr u _ cur => s.busy u = true ∧ s.abs u = none ∧ s.wh u = cur ∧ cur ≠ 0
  | .mAlloc u _ => u ≠ 0 ∧ s.busy u = true ∧ s.abs u = none ∧ s.wh u = 0
  | .mPub u th new => u ≠ 0 ∧ s.busy u = true ∧ s.abs u = none ∧ s.wh u = 0 ∧ s.pub new = false ∧ 1 ≤ new ∧
      new < s.nextId ∧ s.cell new = ⟨u, th, s.head (h u)⟩ ∧ s.bkt new = h u ∧
      (∀ e, s.pub e = true → s.bkt e = h u → e < new)
  | .mRel u th true => s.busy u = true ∧ s.abs u = none ∧ s.wh u ≠ 0 ∧ (s.cell (s.wh u)).thr = th
  | .mRel u _ false => s.busy u = true ∧ s.abs u = none ∧ s.wh u = 0
  | .uAcq u => s.busy u = true ∧ s.abs u = none ∧ s.wh u ≠ 0
  | .uHead u => s.busy u = true ∧ s.abs u = none ∧ s.wh u ≠ 0
  | .uScan u cur => s.busy u = true ∧ s.abs u = none ∧ s.wh u ≠ 0 ∧ s.wh u ≤ cur ∧
      (cur ≠ 0 → s.pub cur = true ∧ s.bkt cur = h u)
  | .uNext u cur => s.busy u = true ∧ s.abs u = none ∧ s.wh u ≠ 0 ∧ s.wh u < cur ∧ s.pub cur = true ∧
      s.bkt cur = h u
  | .uClear u cur => s.busy u = true ∧ s.abs u = none ∧ s.wh u ≠ 0 ∧ s.wh u = cur
  | .uRel u => s.busy u = true ∧ s.abs u = none ∧ s.wh u = 0
  | .gHead u th => s.abs u = some th
  | .gScan u th cur => s.abs u = some th ∧ s.wh u ≤ cur ∧ s.pub cur = true ∧ s.bkt cur = h u
  | .gNext u th cur => s.abs u = some th ∧ s.wh u < cur ∧ s.pub cur = true ∧ s.bkt cur = h u
  | .gThr u th cur => s.abs u = some th ∧ s.wh u = cur
  | .gDone _ th r => r = th

structure Inv (h : Nat → Nat) (s : CSt) : Prop where
  g : GInv h s
  pcs : ∀ t, PcOK h s (s.pc t)
  busy2 : ∀ t t' u, opUnit (s.pc t) = some u → opUnit (s.pc t') = some u → t = t'
  lock1 : ∀ t b, holds h (s.pc t) = some b → s.lock b = some t
  lock2 : ∀ t b, s.lock b = some t → holds h (s.pc t) = some b

theorem inv_init (h : Nat → Nat) : Inv h CSt.init := by
  constructor
  · constructor <;> simp [CSt.init]
  · intro t; simp [CSt.init, PcOK]
  · intro t t' u; simp [CSt.init, opUnit]
  · intro t b; simp [CSt.init, holds]
  · intro t b; simp [CSt.init]

variable {h : Nat → Nat} {s s' : CSt} {t u : Nat} {pc pc' : Pc}

theorem pcok_busy (hp : PcOK h s pc) (ho : opUnit pc = some u) : s.busy u = true ∧ s.abs u = none := by
  cases pc with
  | mAcq | mHead | mScan | mNext | mSetUnit | mAlloc | mPub => cases ho; exact ⟨hp.2.1, hp.2.2.1⟩
  | mRel _ _ ok => cases ho; cases ok <;> exact ⟨hp.1, hp.2.1⟩
  | mSetThr | uAcq | uHead | uScan | uNext | uClear | uRel => cases ho; exact ⟨hp.1, hp.2.1⟩
  | _ => cases ho

theorem Inv.lock_iff (hi : Inv h s) (t b : Nat) : s.lock b = some t ↔ holds h (s.pc t) = some b :=
  ⟨hi.lock2 t b, hi.lock1 t b⟩

theorem Inv.op_ne (hi : Inv h s) (ho : opUnit (s.pc t) = some u) {t' : Nat} (ht : t' ≠ t) :
    opUnit (s.pc t') ≠ some u :=
  fun h' => ht (hi.busy2 t' t u h' ho)

/-! ### assembling `Inv` after a step of caller `t` -/

/-- the other callers keep their program counters, so `busy2`, `lock1`, `lock2` need an argument
only where they speak of `t` -/
theorem inv_upd (hi : Inv h s) (hpc : s'.pc = upd s.pc t pc') (hg : GInv h s') (hok : PcOK h s' pc')
    (hoth : ∀ t', t' ≠ t → PcOK h s' (s.pc t'))
    (hop : ∀ u, opUnit pc' = some u → ∀ t', t' ≠ t → opUnit (s.pc t') ≠ some u)
    (hlt : ∀ b, s'.lock b = some t ↔ holds h pc' = some b)
    (hlo : ∀ b t', t' ≠ t → (s'.lock b = some t' ↔ s.lock b = some t')) : Inv h s' := by
  refine ⟨hg, fun t' => ?_, fun t1 t2 u => ?_, fun t1 b => ?_, fun t1 b => ?_⟩ <;> rw [hpc] <;> simp only [upd]
  · split
    · exact hok
    · exact hoth t' ‹_›
  · have := hi.busy2 t1 t2 u; have := hop u; grind
  · have := hi.lock1 t1 b; have := hlt b; have := hlo b t1; grind
  · have := hi.lock2 t1 b; have := hlt b; have := hlo b t1; grind

theorem inv_upd_pc (hi : Inv h s) (hpc : s'.pc = upd s.pc t pc') (hlock : s'.lock = s.lock)
    (hh : holds h pc' = holds h (s.pc t)) (hg : GInv h s') (hok : PcOK h s' pc')
    (hoth : ∀ t', t' ≠ t → PcOK h s' (s.pc t'))
    (hop : ∀ u, opUnit pc' = some u → ∀ t', t' ≠ t → opUnit (s.pc t') ≠ some u) : Inv h s' :=
  inv_upd hi hpc hg hok hoth hop (fun b => by rw [hlock, hi.lock_iff, hh]) (fun b t' _ => by rw [hlock])

theorem Inv.op_keep (hi : Inv h s) (hop : opUnit pc' = opUnit (s.pc t)) :
    ∀ u, opUnit pc' = some u → ∀ t', t' ≠ t → opUnit (s.pc t') ≠ some u :=
  fun _ hu _ ht => hi.op_ne (hop ▸ hu) ht

/-- `GInv` reads neither the program counters nor the lock table (nor does `PcOK`, by unfolding) -/
theorem GInv.pc_lock (hg : GInv h s) (pc : Nat → Pc) (lock : Nat → Option Nat) :
    GInv h { s with pc := pc, lock := lock } := { hg with }

theorem inv_frame (hi : Inv h s) (hpc : s.pc t = pc) (hop : opUnit pc' = opUnit pc) (hh : holds h pc' = holds h pc)
    (hok : PcOK h s pc → PcOK h s pc') : Inv h { s with pc := upd s.pc t pc' } := by
  subst hpc
  exact inv_upd_pc hi rfl rfl hh (hi.g.pc_lock _ _) (hok (hi.pcs t)) (fun t' _ => hi.pcs t') (hi.op_keep hop)

/-! ### scanning a chain

A scan cursor of a caller working on `u` is `0` or a linked cell of bucket `h u`; while `u` sits in
a cell (`wh u ≠ 0`) the cursor of an unmap or a lookup has not passed that cell. -/

theorem scan_head (hg : GInv h s) (u : Nat) :
    (s.head (h u) ≠ 0 → s.pub (s.head (h u)) = true ∧ s.bkt (s.head (h u)) = h u) ∧
    (s.wh u ≠ 0 → s.wh u ≤ s.head (h u)) := by
  have := hg.head_pub (h u); have := hg.wh_ok u; have := hg.head_max (s.wh u); grind

theorem scan_next (hg : GInv h s) (u cur : Nat) (hp : s.pub cur = true) (hb : s.bkt cur = h u) :
    ((s.cell cur).next ≠ 0 → s.pub (s.cell cur).next = true ∧ s.bkt (s.cell cur).next = h u) ∧
    (s.wh u ≠ 0 → s.wh u < cur → s.wh u ≤ (s.cell cur).next) := by
  have := hg.next_pub cur; have := hg.wh_ok u; have := hg.next_max cur (s.wh u); grind

theorem scan_hit (hg : GInv h s) (u cur : Nat) (hw : s.wh u ≠ 0) (hp : s.pub cur = true)
    (hu : (s.cell cur).unit = u) : s.wh u = cur := by
  have := hg.uniq cur; have := hg.wh_ok u; grind

theorem scan_miss (hg : GInv h s) (u cur : Nat) (hw : s.wh u ≠ 0) (hle : s.wh u ≤ cur)
    (hu : (s.cell cur).unit ≠ u) : s.wh u < cur ∧ cur ≠ 0 := by
  have := hg.wh_ok u; grind

/-! ### what a step of one caller leaves alone -/

structure Within (u : Nat) (b : Option Nat) (s s' : CSt) : Prop where
  unit : ∀ u', u' ≠ u → s'.busy u' = s.busy u' ∧ s'.abs u' = s.abs u' ∧ s'.wh u' = s.wh u'
  nid : s.nextId ≤ s'.nextId
  bkt : ∀ e, e < s.nextId → s'.bkt e = s.bkt e
  head : ∀ b', b ≠ some b' → s'.head b' = s.head b'
  cell : ∀ e, e < s.nextId → b ≠ some (s.bkt e) → s'.cell e = s.cell e
  pub : ∀ e, s.pub e = true → s'.pub e = true
  pub_new : ∀ e, s'.pub e = true → s.pub e = true ∨ b = some (s'.bkt e)

theorem pcok_within {b : Option Nat} (hg : GInv h s) (hw : Within u b s s') (hp : PcOK h s pc)
    (hop : opUnit pc ≠ some u) (hget : ∀ th, s.abs u = some th → getUnit pc ≠ some u)
    (hb : ∀ b', holds h pc = some b' → b ≠ some b') : PcOK h s' pc := by
  obtain ⟨hu, hn, hbk, hhd, hc, hpb, hnew⟩ := hw
  have hlt := hg.pub_lt
  cases pc with
  | idle => trivial
  | gDone => exact hp
  | mPub u' th new =>
    -- the cell `new` is allocated but not linked: the step leaves it and the head of its bucket alone, and
    -- links no cell of that bucket
    simp only [PcOK, opUnit, holds, Option.some.injEq, forall_eq'] at *
    grind
  | mRel u' th ok =>
    have := hg.wh_ok u'; have := hu u'; have := hc (s.wh u')
    cases ok <;> simp only [PcOK, opUnit, holds, Option.some.injEq, forall_eq'] at * <;> grind
  | _ =>
    -- the cursor of a scan is a linked cell: allocated before the step
    have hbk' : ∀ e, s.pub e = true → s'.bkt e = s.bkt e := fun e he => hbk e (hlt e he).2
    have hc' : ∀ e, s.pub e = true → b ≠ some (s.bkt e) → s'.cell e = s.cell e := fun e he => hc e (hlt e he).2
    clear hlt hbk hc hn hnew
    simp only [PcOK, opUnit, getUnit, holds, Option.some.injEq, forall_eq'] at * <;> grind

theorem Inv.others (hi : Inv h s) (hw : Within u (holds h (s.pc t)) s s')
    (hop : ∀ t', t' ≠ t → opUnit (s.pc t') ≠ some u)
    (hget : ∀ th, s.abs u = some th → ∀ t', getUnit (s.pc t') ≠ some u) :
    ∀ t', t' ≠ t → PcOK h s' (s.pc t') :=
  fun t' ht => pcok_within hi.g hw (hi.pcs t') (hop t' ht) (fun th ha => hget th ha t')
    -- a bucket lock has one holder
    (fun b h1 h2 => ht (Option.some.inj ((hi.lock1 t' b h1).symm.trans (hi.lock1 t b h2))))

/-! ### the transitions that change the heap, the ghost map or the locks -/

theorem inv_within (hi : Inv h s) (hpc : s.pc t = pc) (hpc' : s'.pc = upd s.pc t pc') (hlock : s'.lock = s.lock)
    (ho : opUnit pc = some u) (hop : opUnit pc' = some u) (hh : holds h pc' = holds h pc)
    (hg : GInv h s') (hok : PcOK h s' pc') (hw : Within u (holds h pc) s s') : Inv h s' := by
  subst hpc
  exact inv_upd_pc hi hpc' hlock hh hg hok
    (hi.others hw (fun _ => hi.op_ne ho) (by simp [(pcok_busy (hi.pcs t) ho).2])) (hi.op_keep (hop.trans ho.symm))

/-- `mSetUnit`, `mSetThr`, `uClear`: a store into a field other than `next` of the linked cell `cur`, which is
a tombstone or the cell of `u`; `wh u` follows what the cell then says -/
theorem step_store {cur : Nat} {c : Cell} {wh' : Nat → Nat} (hi : Inv h s) (hpc : s.pc t = pc)
    (ho : opUnit pc = some u) (hop : opUnit pc' = some u) (hh : holds h pc = some (h u)) (hh' : holds h pc' = some (h u))
    (hpub : s.pub cur = true) (hbkt : s.bkt cur = h u) (hnext : c.next = (s.cell cur).next)
    (hold : (s.cell cur).unit = 0 ∧ s.wh u = 0 ∨ s.wh u = cur)
    (hnew : wh' u = cur ∧ c.unit = u ∧ u ≠ 0 ∨ wh' u = 0 ∧ c.unit = 0) (hwh : ∀ u', u' ≠ u → wh' u' = s.wh u')
    (hok : PcOK h { s with cell := upd s.cell cur c, wh := wh' } pc') :
    Inv h { s with cell := upd s.cell cur c, wh := wh', pc := upd s.pc t pc' } := by
  obtain ⟨hbusy, habs⟩ := pcok_busy (hpc ▸ hi.pcs t) ho
  have hcur := hi.g.pub_lt cur hpub
  have hwu := hi.g.wh_ok u
  refine inv_within hi hpc rfl rfl ho hop (hh'.trans hh.symm)
    { hi.g with next_pub := ?_, next_max := ?_, wh_ok := ?_, uniq := ?_, abs_ok := ?_, free_ok := ?_ } hok ?_
  · intro e; have := hi.g.next_pub e; grind [upd]
  · intro e e'; have := hi.g.next_max e e'; grind [upd]
  · intro u'; have := hi.g.wh_ok u'; have := hwh u'; grind [upd]
  · intro e; have := hi.g.uniq e; have := hi.g.pub_lt e; have := hwh (s.cell e).unit; grind [upd]
  · intro u' th'; have := hi.g.abs_ok u' th'; have := hi.g.wh_ok u'; have := hwh u'; grind [upd]
  · intro u'; have := hi.g.free_ok u'; have := hwh u'; grind [upd]
  · rw [hh]; constructor <;> grind [upd]

theorem step_mAllocOk (th : Nat) (hi : Inv h s) (hpc : s.pc t = .mAlloc u th) :
    Inv h { s with cell := upd s.cell s.nextId ⟨u, th, s.head (h u)⟩, bkt := upd s.bkt s.nextId (h u),
                   nextId := s.nextId + 1, pc := upd s.pc t (.mPub u th s.nextId) } := by
  have hp := hi.pcs t; rw [hpc] at hp
  obtain ⟨hu0, hbusy, habs, hwh⟩ := hp
  have hnid := hi.g.nid
  have hlt := hi.g.pub_lt
  refine inv_within hi hpc rfl rfl rfl rfl rfl ⟨?_, ?_, ?_, ?_, ?_, ?_, ?_, ?_, ?_, ?_⟩ ?_ ?_
  · show 1 ≤ s.nextId + 1; omega
  · intro e he; have := hlt e he; show 1 ≤ e ∧ e < s.nextId + 1; omega
  · intro b; have := hi.g.head_pub b; grind [upd]
  · intro e; have := hi.g.head_max e; grind [upd]
  · intro e; have := hi.g.next_pub e; grind [upd]
  · intro e e'; have := hi.g.next_max e e'; grind [upd]
  · intro u'; have := hi.g.wh_ok u'; grind [upd]
  · intro e; have := hi.g.uniq e; grind [upd]
  · intro u' th'; have := hi.g.abs_ok u' th'; have := hi.g.wh_ok u'; grind [upd]
  · intro u'; have := hi.g.free_ok u'; grind [upd]
  · have := hlt s.nextId; simp only [PcOK]; grind [upd]
  · constructor <;> grind [upd, holds]

theorem step_mPub (th new : Nat) (hi : Inv h s) (hpc : s.pc t = .mPub u th new) :
    Inv h { s with head := upd s.head (h u) new, pub := upd s.pub new true, wh := upd s.wh u new,
                   pc := upd s.pc t (.mRel u th true) } := by
  have hp := hi.pcs t; rw [hpc] at hp
  obtain ⟨hu0, hbusy, habs, hwh, hnp, hn1, hnlt, hcell, hbkt, hall⟩ := hp
  have hhp := hi.g.head_pub (h u)
  refine inv_within hi hpc rfl rfl rfl rfl rfl ⟨hi.g.nid, ?_, ?_, ?_, ?_, ?_, ?_, ?_, ?_, ?_⟩ ?_ ?_
  · intro e; have := hi.g.pub_lt e; grind [upd]
  · intro b; have := hi.g.head_pub b; grind [upd]
  · intro e; have := hi.g.head_max e; have := hall e; grind [upd]
  · intro e; have := hi.g.next_pub e; have := hall (s.head (h u)); grind [upd]
  · intro e e'; have := hi.g.next_max e e'; have := hi.g.head_max e'; have := hall e; grind [upd]
  · intro u'; have := hi.g.wh_ok u'; grind [upd]
  · intro e; have := hi.g.uniq e; have := hi.g.pub_lt e; grind [upd]
  · intro u' th'; have := hi.g.abs_ok u' th'; have := hi.g.wh_ok u'; grind [upd]
  · intro u'; have := hi.g.free_ok u'; grind [upd]
  · simp only [PcOK]; grind [upd]
  · constructor <;> grind [upd, holds]

theorem Inv.idle_unit (hi : Inv h s) (hb : s.busy u = false) (t' : Nat) : opUnit (s.pc t') ≠ some u := by
  intro ho
  have := (pcok_busy (hi.pcs t') ho).1
  rw [hb] at this; cases this

/-- `startMap`, `startUnmap`; `abs'` is the abstract map during the call -/
theorem step_start (abs' : Nat → Option Nat) (hi : Inv h s) (hpc : s.pc t = .idle) (hb : s.busy u = false)
    (hop : opUnit pc' = some u) (hh : holds h pc' = none) (habs : ∀ u', u' ≠ u → abs' u' = s.abs u') (hnone : abs' u = none)
    (hng : ∀ th, s.abs u = some th → ∀ t', getUnit (s.pc t') ≠ some u)
    (hok : PcOK h { s with abs := abs', busy := upd s.busy u true } pc') :
    Inv h { s with abs := abs', busy := upd s.busy u true, pc := upd s.pc t pc' } := by
  refine inv_upd_pc hi rfl rfl (by rw [hpc]; exact hh) { hi.g with abs_ok := ?_, free_ok := ?_ } hok
    (hi.others ?_ (fun t' _ => hi.idle_unit hb t') hng) ?_
  · intro u' th'; have := hi.g.abs_ok u' th'; have := habs u'; grind [upd]
  · intro u'; have := hi.g.free_ok u'; have := habs u'; grind [upd]
  · constructor <;> grind [upd]
  · intro u' hu' t' _; cases hop.symm.trans hu'; exact hi.idle_unit hb t'

/-- `mAcq`, `uAcq` -/
theorem step_acq (hi : Inv h s) (hpc : s.pc t = pc) (hlk : s.lock (h u) = none) (hop : opUnit pc' = opUnit pc)
    (hh0 : holds h pc = none) (hh : holds h pc' = some (h u)) (hok : PcOK h s pc → PcOK h s pc') :
    Inv h { s with lock := upd s.lock (h u) (some t), pc := upd s.pc t pc' } := by
  subst hpc
  refine inv_upd hi rfl (hi.g.pc_lock _ _) (hok (hi.pcs t)) (fun t' _ => hi.pcs t') (hi.op_keep hop) (fun b => ?_) (fun b t' ht => ?_)
  · have := hi.lock_iff t b; grind [upd]
  · grind [upd]

/-- `mRel`, `uRel`: `abs'` is the abstract map after the call -/
theorem step_rel (abs' : Nat → Option Nat) (hi : Inv h s) (hpc : s.pc t = pc) (ho : opUnit pc = some u)
    (hh : holds h pc = some (h u)) (habs : ∀ u', u' ≠ u → abs' u' = s.abs u')
    (hnew : ∀ th, abs' u = some th → s.wh u ≠ 0 ∧ (s.cell (s.wh u)).thr = th)
    (hnone : abs' u = none → s.wh u = 0) :
    Inv h { s with lock := upd s.lock (h u) none, busy := upd s.busy u false, abs := abs',
                   pc := upd s.pc t .idle } := by
  subst hpc
  have hb := pcok_busy (hi.pcs t) ho
  refine inv_upd hi rfl { hi.g with abs_ok := ?_, free_ok := ?_ } trivial
    (hi.others ?_ (fun _ => hi.op_ne ho) (by simp [hb.2])) (fun _ hu => by cases hu) (fun b => ?_) (fun b t' ht => ?_)
  · intro u' th'; have := hi.g.abs_ok u' th'; have := hnew th'; have := habs u'; grind [upd]
  · intro u'; have := hi.g.free_ok u'; have := habs u'; grind [upd]
  · constructor <;> grind [upd]
  · have := hi.lock_iff t b; grind [upd, holds]
  · have := hi.lock_iff t (h u); grind [upd]

theorem inv_step (h : Nat → Nat) (s : CSt) (e : Nat × Act) (s' : CSt) (hi : Inv h s) (hs : Step h s e s') :
    Inv h s' := by
  have hg := hi.g
  cases hs with
  | @startMap _ u _ hpc hu ha hb =>
    exact step_start s.abs hi hpc hb rfl rfl (fun _ _ => rfl) ha (by simp [ha]) ⟨hu, upd_same .., ha, hi.g.free_ok u ha hb⟩
  | @startUnmap _ u th hpc ha hb hng =>
    exact step_start (upd s.abs u none) hi hpc hb rfl rfl (fun _ hne => upd_other _ _ _ _ hne) (upd_same ..)
      (fun _ _ => hng) ⟨upd_same .., upd_same .., (hi.g.abs_ok u th ha).1⟩
  | mAcq hpc hlk | uAcq hpc hlk => exact step_acq hi hpc hlk rfl rfl rfl id
  | mAllocOk hpc => exact step_mAllocOk _ hi hpc
  | mPub hpc => exact step_mPub _ _ hi hpc
  | @mSetUnit t u th cur hpc =>
    obtain ⟨hu0, hb, ha, hwh, hpub, hbkt, hunit⟩ : PcOK h s (.mSetUnit u th cur) := hpc ▸ hi.pcs t
    exact step_store hi hpc rfl rfl rfl rfl hpub hbkt rfl (.inl ⟨hunit, hwh⟩) (.inl ⟨upd_same .., rfl, hu0⟩)
      (fun _ hne => upd_other _ _ _ _ hne) ⟨hb, ha, upd_same .., Nat.ne_of_gt (hg.pub_lt cur hpub).1⟩
  | @mSetThr t u th cur hpc =>
    obtain ⟨hb, ha, hwh, hc0⟩ : PcOK h s (.mSetThr u th cur) := hpc ▸ hi.pcs t
    obtain ⟨hpub, hunit, hbkt, hu0⟩ := hwh ▸ hg.wh_ok u (hwh ▸ hc0)
    exact step_store hi hpc rfl rfl rfl rfl hpub hbkt rfl (.inr hwh) (.inl ⟨hwh, hunit, hu0⟩) (fun _ _ => rfl)
      ⟨hb, ha, hwh ▸ hc0, by simp [hwh]⟩
  | @uClear t u cur hpc =>
    obtain ⟨hb, ha, hw0, hwh⟩ : PcOK h s (.uClear u cur) := hpc ▸ hi.pcs t
    obtain ⟨hpub, -, hbkt, -⟩ := hwh ▸ hg.wh_ok u hw0
    exact step_store hi hpc rfl rfl rfl rfl hpub hbkt rfl (.inr hwh) (.inr ⟨upd_same .., rfl⟩)
      (fun _ hne => upd_other _ _ _ _ hne) ⟨hb, ha, upd_same ..⟩
  | @mRel t u th ok hpc =>
    have hp := hi.pcs t; rw [hpc] at hp
    cases ok with
    | true =>
      exact step_rel (upd s.abs u (some th)) hi hpc rfl rfl (fun _ hne => upd_other _ _ _ _ hne)
        (fun th' hx => by simp only [upd_same, Option.some.injEq] at hx; subst hx; exact hp.2.2)
        (fun hx => by simp at hx)
    | false =>
      exact step_rel s.abs hi hpc rfl rfl (fun _ _ => rfl) (fun th' hx => by rw [hp.2.1] at hx; cases hx) fun _ => hp.2.2
  | @uRel t u hpc =>
    have hp := hi.pcs t; rw [hpc] at hp
    exact step_rel s.abs hi hpc rfl rfl (fun _ _ => rfl) (fun th' hx => by rw [hp.2.1] at hx; cases hx) fun _ => hp.2.2
  -- the other transitions move one caller along its scan
  | startGet hpc ha => exact inv_frame hi hpc rfl rfl fun _ => ha
  | gRet hpc => exact inv_frame hi hpc rfl rfl fun _ => trivial
  | mScanEnd hpc => exact inv_frame hi hpc rfl rfl fun hp => ⟨hp.1, hp.2.1, hp.2.2.1, hp.2.2.2.1⟩
  | mAllocFail hpc => exact inv_frame hi hpc rfl rfl fun hp => ⟨hp.2.1, hp.2.2.1, hp.2.2.2⟩
  | mScanTomb hpc _ _ | mScanUsed hpc _ _ => exact inv_frame hi hpc rfl rfl fun hp => by simp only [PcOK] at hp ⊢; grind
  | @gThr _ u th _ hpc =>
    exact inv_frame hi hpc rfl rfl fun hp => by have := hg.abs_ok u th; simp only [PcOK] at hp ⊢; grind
  | @mHead _ u _ hpc | @uHead _ u hpc | @gHead _ u _ hpc =>
    refine inv_frame hi hpc rfl rfl fun hp => ?_
    have := scan_head hg u; have := hg.abs_ok u; simp only [PcOK] at hp ⊢; grind
  | @mNext _ u _ cur hpc | @uNext _ u cur hpc | @gNext _ u _ cur hpc =>
    refine inv_frame hi hpc rfl rfl fun hp => ?_
    have := scan_next hg u cur; have := hg.abs_ok u; simp only [PcOK] at hp ⊢; grind
  | @uScanHit _ u cur hpc hc hu | @gScanHit _ u _ cur hpc hc hu =>
    refine inv_frame hi hpc rfl rfl fun hp => ?_
    have := scan_hit hg u cur; have := hg.abs_ok u; simp only [PcOK] at hp ⊢; grind
  | @uScanMiss _ u cur hpc hc hu | @gScanMiss _ u _ cur hpc hc hu =>
    refine inv_frame hi hpc rfl rfl fun hp => ?_
    have := scan_miss hg u cur; have := hg.abs_ok u; simp only [PcOK] at hp ⊢; grind

theorem inv_reachable {h : Nat → Nat} {tr : List (Nat × Act)} {s : CSt} (hr : Star (Step h) CSt.init tr s) :
    Inv h s :=
  Star.invariant (Inv h) (inv_step h) hr (inv_init h)

end ArgoVerif.Model.UnitMap
