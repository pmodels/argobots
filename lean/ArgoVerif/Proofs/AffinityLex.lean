import ArgoVerif.Model.Affinity
import ArgoVerif.Proofs.Atoi
/-
Proofs.AffinityLex — the character-level functions of the affinity parser
(`consume_int`, `consume_pint`, `consume_symbol`): exact characterisation, relation
to the token relation `Lex`, no signed overflow, no read outside the object, no
dependence on the bytes behind the NUL.
-/
-- `ext` lives in a namespace of its own because the statement of `aff_reads_in_bounds` (Props/C20) names it
-- `AffinityBounds.ext`
namespace ArgoVerif.Proofs.AffinityBounds
open ArgoVerif.Model.Affinity

/-- the same outcome on a longer object: only the unread remainder grows -/
def ext {α : Type} (post : List Byte) : R α → R α
  | .ok v rest => .ok v (rest ++ post)
  | .fail => .fail
  | .oob => .oob
  | .ub => .ub
  | .fuel => .fuel

/-- `ext` through a sequential composition; the continuation is only compared on what the
first part can return -/
theorem ext_bind {α β : Type} {post : List Byte} {r' r : R α} {f : α → List Byte → R β} (hr : r' = ext post r)
    (hf : ∀ v s, r = .ok v s → f v (s ++ post) = ext post (f v s)) : r'.bind f = ext post (r.bind f) := by
  subst hr
  cases r with
  | ok v s => exact hf v s rfl
  | _ => rfl

end ArgoVerif.Proofs.AffinityBounds

namespace ArgoVerif.Proofs.AffinityLex
open ArgoVerif.Model.Affinity
open ArgoVerif.Gen.EnvTable
open ArgoVerif.Props.C20Spec (isWs isSign decVal negative intVal symTok Tok Lex)
open ArgoVerif.Proofs.Atoi (sign_cases digit_range digit_ne takeWhile_all hstep foldl_hstep_mono runs3 negative_cons
  skip_run)
open ArgoVerif.Proofs.AffinityBounds (ext)

abbrev SisDigit := ArgoVerif.Props.C20Spec.isDigit

/-- On NUL-terminated memory a consume_/parse_ function succeeds with a result satisfying `P`
or fails; it neither faults nor overflows nor runs out of fuel. -/
def Post {α : Type} (r : R α) (P : α → List Byte → Prop) : Prop :=
  match r with
  | .ok v s => P v s
  | .fail => True
  | _ => False

theorem Post.bind {α β : Type} {r : R α} {f : α → List Byte → R β} {P : α → List Byte → Prop}
    {Q : β → List Byte → Prop} (h : Post r P) (hf : ∀ v s, P v s → Post (f v s) Q) : Post (r.bind f) Q := by
  cases r with
  | ok v s => exact hf v s h
  | fail => trivial
  | _ => exact h.elim

theorem Post.mono {α : Type} {r : R α} {P Q : α → List Byte → Prop} (h : Post r P)
    (hpq : ∀ v s, P v s → Q v s) : Post r Q := by
  cases r with
  | ok v s => exact hpq v s h
  | _ => exact h

theorem Post.cases {α : Type} {r : R α} {P : α → List Byte → Prop} (h : Post r P) :
    r = .fail ∨ ∃ v s, r = .ok v s ∧ P v s := by
  cases r with
  | ok v s => exact .inr ⟨v, s, rfl, h⟩
  | fail => exact .inl rfl
  | _ => exact h.elim

theorem Post.of_eq {α : Type} {r : R α} {P : α → List Byte → Prop} (h : Post r P) {v : α} {s : List Byte}
    (e : r = .ok v s) : P v s := by
  rw [e] at h; exact h

theorem Post.ne_oob {α : Type} {r : R α} {P : α → List Byte → Prop} (h : Post r P) : r ≠ .oob := by
  rintro rfl; exact h

theorem Post.ne_ub {α : Type} {r : R α} {P : α → List Byte → Prop} (h : Post r P) : r ≠ .ub := by
  rintro rfl; exact h

/-! ### character classes -/

theorem isWhitespace_eq (c : Byte) : isWhitespace c = isWs c := rfl

theorem isDigit_eq (c : Byte) : isDigit c = SisDigit c := Atoi.isDigit_eq c

theorem ws_cases {c : Byte} (h : isWs c = true) : c = 32 ∨ c = 9 ∨ c = 13 ∨ c = 10 := by
  simpa [isWs, or_assoc] using h

theorem symTok_cases {c : Byte} {t : Tok} (h : symTok c = some t) :
    (c = 123 ∧ t = .lbrace) ∨ (c = 125 ∧ t = .rbrace) ∨ (c = 58 ∧ t = .colon) ∨ (c = 44 ∧ t = .comma) := by
  unfold symTok at h
  repeat' split at h
  all_goals simp_all

theorem symTok_inj {c c' : Byte} {t : Tok} (h : symTok c = some t) (h' : symTok c' = some t) : c = c' := by
  rcases symTok_cases h with ⟨rfl, rfl⟩ | ⟨rfl, rfl⟩ | ⟨rfl, rfl⟩ | ⟨rfl, rfl⟩ <;>
    rcases symTok_cases h' with ⟨rfl, h2⟩ | ⟨rfl, h2⟩ | ⟨rfl, h2⟩ | ⟨rfl, h2⟩ <;> first | rfl | cases h2

theorem symTok_not_int (c : Byte) (v : Int) : symTok c ≠ some (.int v) := by
  intro h; rcases symTok_cases h with ⟨_, h⟩ | ⟨_, h⟩ | ⟨_, h⟩ | ⟨_, h⟩ <;> cases h

theorem sym_facts {c : Byte} {t : Tok} (h : symTok c = some t) :
    isWs c = false ∧ isSign c = false ∧ SisDigit c = false ∧ c ≠ 0 := by
  rcases symTok_cases h with ⟨rfl, _⟩ | ⟨rfl, _⟩ | ⟨rfl, _⟩ | ⟨rfl, _⟩ <;> decide

theorem ws_facts {c : Byte} (h : isWs c = true) :
    isSign c = false ∧ SisDigit c = false ∧ c ≠ 0 ∧ symTok c = none := by
  rcases ws_cases h with rfl | rfl | rfl | rfl <;> decide

theorem sign_facts {c : Byte} (h : isSign c = true) :
    isWs c = false ∧ SisDigit c = false ∧ c ≠ 0 ∧ symTok c = none := by
  rcases sign_cases h with rfl | rfl <;> decide

theorem digit_facts {c : Byte} (h : SisDigit c = true) :
    isWs c = false ∧ isSign c = false ∧ c ≠ 0 ∧ symTok c = none := by
  have ne := digit_ne h
  refine ⟨?_, ?_, ?_, ?_⟩
  · simp [isWs, ne]
  · simp [isSign, ne]
  · rintro rfl; revert h; decide
  · simp [symTok, ne]

/-! ### consume_symbol -/

theorem consumeSymbol_ws (sym : Byte) (hs : isWs sym = false) (w rest : List Byte)
    (hw : ∀ c ∈ w, isWs c = true) : consumeSymbol sym (w ++ rest) = consumeSymbol sym rest := by
  refine skip_run (F := consumeSymbol sym) (fun c rest hc => ?_) w rest hw
  have hne : c ≠ sym := by rintro rfl; rw [hc] at hs; cases hs
  simp only [consumeSymbol, beq_iff_eq, hne, if_false, isWhitespace_eq, hc, if_true]

theorem consumeSymbol_hit (sym : Byte) (rest : List Byte) : consumeSymbol sym (sym :: rest) = .ok () rest := by
  simp [consumeSymbol]

theorem consumeSymbol_miss (sym c : Byte) (rest : List Byte) (h1 : c ≠ sym) (h2 : isWs c = false) :
    consumeSymbol sym (c :: rest) = .fail := by
  simp [consumeSymbol, h1, isWhitespace_eq, h2]

theorem consumeSymbol_spec (sym : Byte) (b : List Byte) (h0 : (0 : Byte) ∈ b) :
    Post (consumeSymbol sym b) (fun _ b' => ∃ w, (∀ c ∈ w, isWs c = true) ∧ b = w ++ sym :: b') ∧
    ∀ post, consumeSymbol sym (b ++ post) = ext post (consumeSymbol sym b) := by
  induction b with
  | nil => cases h0
  | cons c b ih =>
    simp only [List.cons_append, consumeSymbol]
    split
    · rename_i h; exact ⟨⟨[], by simp, by rw [eq_of_beq h]; rfl⟩, fun _ => rfl⟩
    · split
      · rename_i hw
        obtain ⟨ih1, ih2⟩ := ih ((List.mem_cons.mp h0).resolve_left fun h => (ws_facts hw).2.2.1 h.symm)
        exact ⟨ih1.mono fun _ b' ⟨w, hw', e⟩ => ⟨c :: w, List.forall_mem_cons.mpr ⟨hw, hw'⟩, by rw [e]; rfl⟩, ih2⟩
      · exact ⟨trivial, fun _ => rfl⟩

theorem sym_ext (c : Byte) (b post : List Byte) (h0 : (0 : Byte) ∈ b) :
    consumeSymbol c (b ++ post) = ext post (consumeSymbol c b) :=
  (consumeSymbol_spec c b h0).2 post

/-! ### consume_int: one iteration, by the class of the character and the flag -/

theorem inInt_iff (x : Int) : inInt x = true ↔ -2147483648 ≤ x ∧ x ≤ 2147483647 := by
  unfold inInt
  rw [Bool.and_eq_true, decide_eq_true_eq, decide_eq_true_eq]
  exact Iff.rfl

theorem intLoop_sign {c : Byte} (h : isSign c = true) (rest : List Byte) (val s : Int) (f : Flag) (hf : f ≠ .v)
    (hs : s = 1 ∨ s = -1) :
    consumeIntLoop (c :: rest) val s f = consumeIntLoop rest val (if c == 45 then -s else s) .s := by
  have hfv : (f != Flag.v) = true := by cases f <;> simp at hf ⊢
  have hin : inInt (-s) = true := by rw [inInt_iff]; omega
  rcases sign_cases h with rfl | rfl <;> simp [consumeIntLoop, hfv, hin]

theorem intLoop_ws {c : Byte} (h : isWs c = true) (rest : List Byte) (val s : Int) :
    consumeIntLoop (c :: rest) val s .n = consumeIntLoop rest val s .n := by
  rcases ws_cases h with rfl | rfl | rfl | rfl <;> simp [consumeIntLoop, isWhitespace]

theorem intLoop_digit {c : Byte} (h : SisDigit c = true) (rest : List Byte) (val : Nat) (hval : val ≤ 2147483647)
    (s : Int) (f : Flag) :
    consumeIntLoop (c :: rest) val s f =
      if hstep val c ≤ 2147483647 then consumeIntLoop rest (hstep val c : Nat) s .v else .fail := by
  have hd := digit_range h
  have hg : ((val : Int) > (cIntMax - ((c.toNat - 48 : Nat) : Int)) / 10) ↔ 2147483647 < hstep val c := by
    unfold cIntMax hstep; omega
  have e : (val : Int) * 10 + ((c.toNat - 48 : Nat) : Int) = ((hstep val c : Nat) : Int) := by
    unfold hstep; omega
  simp only [consumeIntLoop, digit_ne h, isWhitespace, isDigit_eq, h, hg, e, Bool.and_false, Bool.or_self,
    Bool.false_eq_true, if_false, if_true, UInt8.reduceToNat, Nat.reduceLT, true_or]
  by_cases hov : hstep val c ≤ 2147483647
  · rw [if_pos hov, if_neg (by omega), (inInt_iff _).mpr (by omega), (inInt_iff _).mpr (by omega)]
    rfl
  · rw [if_neg hov, if_pos (by omega)]

theorem intLoop_end {c : Byte} (h : SisDigit c = false) (rest : List Byte) (val : Nat) (hval : val ≤ 2147483647)
    (s : Int) (hs : s = 1 ∨ s = -1) :
    consumeIntLoop (c :: rest) val s .v = .ok (val * s) (c :: rest) := by
  have hin : inInt ((val : Int) * s) = true := by rw [inInt_iff]; rcases hs with rfl | rfl <;> omega
  simp [consumeIntLoop, isDigit_eq, h, hin]

theorem intLoop_stop {c : Byte} (r : List Byte) (val s : Int) (f : Flag) (hf : f ≠ .v)
    (hs : isSign c = false) (hd : SisDigit c = false) (hw : f = .n → isWs c = false) :
    consumeIntLoop (c :: r) val s f = .fail := by
  have h2 : (c == 43) = false ∧ (c == 45) = false := by simpa [isSign] using hs
  have h3 : (f == Flag.n && isWhitespace c) = false := by
    cases f
    · simp [isWhitespace_eq, hw rfl]
    · rfl
    · exact absurd rfl hf
  have h4 : (f == Flag.v) = false := by cases f <;> simp at hf ⊢
  simp [consumeIntLoop, h2, h3, isDigit_eq, hd, h4]

/-- one iteration from a state `consume_int` can be in (accumulator in `[0, INT_MAX]`, sign `±1`) -/
theorem intLoop_step (c : Byte) (val : Nat) (hval : val ≤ 2147483647) (s : Int) (hs : s = 1 ∨ s = -1) (f : Flag) :
    (c ≠ 0 ∧ ∃ (val' : Nat) (s' : Int) (f' : Flag), val' ≤ 2147483647 ∧ (s' = 1 ∨ s' = -1) ∧
      ∀ rest, consumeIntLoop (c :: rest) val s f = consumeIntLoop rest val' s' f') ∨
    (∀ rest, consumeIntLoop (c :: rest) val s f = .fail) ∨
    (∃ v, ∀ rest, consumeIntLoop (c :: rest) val s f = .ok v (c :: rest)) := by
  by_cases hd : SisDigit c = true
  · by_cases hov : hstep val c ≤ 2147483647
    · exact .inl ⟨(digit_facts hd).2.2.1, _, s, .v, hov, hs, fun rest => by rw [intLoop_digit hd rest val hval, if_pos hov]⟩
    · exact .inr (.inl fun rest => by rw [intLoop_digit hd rest val hval, if_neg hov])
  have hd : SisDigit c = false := by simpa using hd
  by_cases hf : f = .v
  · subst hf; exact .inr (.inr ⟨_, fun rest => intLoop_end hd rest val hval s hs⟩)
  by_cases hsg : isSign c = true
  · exact .inl ⟨(sign_facts hsg).2.2.1, val, _, .s, hval, by split <;> omega,
      fun rest => intLoop_sign hsg rest val s f hf hs⟩
  have hsg : isSign c = false := by simpa using hsg
  by_cases hw : f = .n ∧ isWs c = true
  · obtain ⟨rfl, hw⟩ := hw
    exact .inl ⟨(ws_facts hw).2.2.1, val, s, .n, hval, hs, fun rest => intLoop_ws hw rest val s⟩
  · exact .inr (.inl fun rest => intLoop_stop rest val s f hf hsg hd fun hn => by simpa [hn] using hw)

/-- the repaired guard: on *every* input (NUL-terminated or not) every `int`
operation of `consume_int` stays inside `[INT_MIN, INT_MAX]` -/
theorem intLoop_no_ub (b : List Byte) (val : Nat) (hval : val ≤ 2147483647) (s : Int) (hs : s = 1 ∨ s = -1)
    (f : Flag) : consumeIntLoop b val s f ≠ .ub := by
  induction b generalizing val s f with
  | nil => simp [consumeIntLoop]
  | cons c b ih =>
    rcases intLoop_step c val hval s hs f with ⟨_, val', s', f', hv', hs', h⟩ | h | ⟨v, h⟩ <;> rw [h]
    · exact ih val' hv' s' hs' f'
    · simp
    · simp

theorem consumeInt_no_ub (b : List Byte) : consumeInt b ≠ .ub :=
  intLoop_no_ub b 0 (by omega) 1 (Or.inl rfl) .n

theorem consumePint_no_ub (b : List Byte) : consumePint b ≠ .ub := by
  unfold consumePint R.bind
  cases hc : consumeInt b with
  | ub => exact absurd hc (consumeInt_no_ub b)
  | ok v r => simp only; split <;> simp
  | _ => simp

theorem intLoop_ext (b post : List Byte) (h0 : (0 : Byte) ∈ b) (val : Nat) (hval : val ≤ 2147483647) (s : Int)
    (hs : s = 1 ∨ s = -1) (f : Flag) :
    consumeIntLoop (b ++ post) val s f = ext post (consumeIntLoop b val s f) := by
  induction b generalizing val s f with
  | nil => cases h0
  | cons c b ih =>
    rw [List.cons_append]
    rcases intLoop_step c val hval s hs f with ⟨hc, val', s', f', hv', hs', h⟩ | h | ⟨v, h⟩ <;> rw [h, h]
    · rcases List.mem_cons.mp h0 with h | h
      · exact absurd h.symm hc
      · exact ih h val' hv' s' hs' f'
    · rfl
    · rfl

theorem int_ext (b post : List Byte) (h0 : (0 : Byte) ∈ b) :
    consumeInt (b ++ post) = ext post (consumeInt b) :=
  intLoop_ext b post h0 0 (by omega) 1 (Or.inl rfl) .n

/-! ### consume_int: the three phases -/

theorem loop_ws (w l : List Byte) (hw : ∀ c ∈ w, isWs c = true) (val sg : Int) :
    consumeIntLoop (w ++ l) val sg .n = consumeIntLoop l val sg .n :=
  skip_run (F := fun l => consumeIntLoop l val sg .n) (fun _ rest h => intLoop_ws h rest val sg) w l hw

theorem intLoop_signs (sgs l : List Byte) (hs : ∀ c ∈ sgs, isSign c = true) (val s : Int) (f : Flag)
    (hf : f ≠ .v) (hs1 : s = 1 ∨ s = -1) :
    consumeIntLoop (sgs ++ l) val s f =
      consumeIntLoop l val (if negative sgs then -s else s) (if sgs = [] then f else .s) := by
  induction sgs generalizing s f with
  | nil => simp [negative]
  | cons c sgs ih =>
    rw [List.cons_append, intLoop_sign (hs c (by simp)) _ _ _ _ hf hs1,
      ih (fun c hc => hs c (by simp [hc])) _ .s (by simp) (by split <;> omega), negative_cons]
    cases c == 45 <;> cases negative sgs <;> simp

theorem intLoop_digits (ds : List Byte) (hds : ∀ c ∈ ds, SisDigit c = true) (c0 : Byte) (r : List Byte)
    (hc0 : SisDigit c0 = false) (val : Nat) (hval : val ≤ 2147483647) (s : Int) (hs1 : s = 1 ∨ s = -1)
    (f : Flag) (hnil : ds = [] → f = .v) :
    consumeIntLoop (ds ++ c0 :: r) val s f =
      if ds.foldl hstep val ≤ 2147483647 then .ok ((ds.foldl hstep val : Nat) * s) (c0 :: r) else .fail := by
  induction ds generalizing val f with
  | nil =>
    obtain rfl := hnil rfl
    rw [List.nil_append, intLoop_end hc0 r val hval s hs1, List.foldl_nil, if_pos hval]
  | cons d ds ih =>
    rw [List.cons_append, intLoop_digit (hds d (by simp)) _ val hval, List.foldl_cons]
    split
    · rename_i hle
      exact ih (fun c hc => hds c (by simp [hc])) _ hle .v (fun _ => rfl)
    · have := foldl_hstep_mono ds (hstep val d)
      rw [if_neg (by omega)]

/-- `consume_int` on `white* sign* digit* c …`, the runs maximal -/
theorem consumeInt_phases (w sg ds : List Byte) (c0 : Byte) (r : List Byte)
    (hw : ∀ c ∈ w, isWs c = true) (hsg : ∀ c ∈ sg, isSign c = true) (hds : ∀ c ∈ ds, SisDigit c = true)
    (hc0 : SisDigit c0 = false)
    (hmax : ds = [] → isSign c0 = false ∧ (sg = [] → isWs c0 = false)) :
    consumeInt (w ++ (sg ++ (ds ++ c0 :: r))) =
      if ds = [] then .fail
      else if decVal ds ≤ 2147483647 then .ok (intVal sg ds) (c0 :: r) else .fail := by
  unfold consumeInt
  rw [loop_ws w _ hw, intLoop_signs sg _ hsg 0 1 .n (by simp) (Or.inl rfl)]
  by_cases hd : ds = []
  · subst hd
    obtain ⟨hns, hnw⟩ := hmax rfl
    rw [if_pos rfl]
    refine intLoop_stop r _ _ _ (by split <;> simp) hns hc0 fun h => ?_
    split at h
    · rename_i hsg'; exact hnw hsg'
    · cases h
  · have hs : (if negative sg = true then (-1 : Int) else 1) = 1 ∨ (if negative sg = true then (-1 : Int) else 1) = -1 := by
      split <;> simp
    rw [if_neg hd]
    show consumeIntLoop (ds ++ c0 :: r) ((0 : Nat) : Int) _ _ = _
    rw [intLoop_digits ds hds c0 r hc0 0 (by omega) _ hs _ (fun h => absurd h hd)]
    unfold intVal
    cases negative sg <;> simp <;> rfl

theorem consumeInt_nul (b : List Byte) (h0 : (0 : Byte) ∈ b) :
    ∃ w sg ds c0 r, b = w ++ (sg ++ (ds ++ c0 :: r)) ∧ (∀ c ∈ w, isWs c = true) ∧ (∀ c ∈ sg, isSign c = true) ∧
      (∀ c ∈ ds, SisDigit c = true) ∧ SisDigit c0 = false ∧ (0 : Byte) ∈ c0 :: r ∧
      consumeInt b = if ds = [] then .fail
        else if decVal ds ≤ 2147483647 then .ok (intVal sg ds) (c0 :: r) else .fail := by
  obtain ⟨c0, r, e, h0', hc0, hmax⟩ :=
    runs3 (p := isWs) (q := isSign) (r := SisDigit) (by decide) (by decide) (by decide) b h0
  refine ⟨_, _, _, c0, r, e, takeWhile_all _, takeWhile_all _, takeWhile_all _, hc0, h0', ?_⟩
  conv => lhs; rw [e]
  exact consumeInt_phases _ _ _ c0 r (takeWhile_all _) (takeWhile_all _) (takeWhile_all _) hc0 hmax

/-! ### the consume functions against the token relation `Lex` -/

theorem lex_has_nul {b : List Byte} {ts : List Tok} (h : Lex b ts) : (0 : Byte) ∈ b := by
  induction h with
  | eos w post _ => simp
  | sym w c t rest ts _ _ _ ih => simp [ih]
  | int w sg ds rest ts _ _ _ _ _ _ ih => simp [ih]

theorem intOk_iff (sg ds : List Byte) :
    (-2147483647 ≤ intVal sg ds ∧ intVal sg ds ≤ 2147483647) ↔ decVal ds ≤ 2147483647 := by
  unfold intVal; split <;> omega

/-- an integer token is next: `consume_int` takes exactly it (or rejects it when its
magnitude exceeds INT_MAX) -/
theorem int_hit (b : List Byte) (ts : List Tok) (v : Int) (h : Lex b (.int v :: ts)) :
    ∃ b', consumeInt b = (if -2147483647 ≤ v ∧ v ≤ 2147483647 then .ok v b' else .fail) ∧ Lex b' ts ∧
      b'.length < b.length := by
  cases h with
  | sym w c _ rest _ _ hc _ => exact absurd hc (symTok_not_int c v)
  | int w sg ds rest _ hw hsg hne hds hmax hrest =>
    have h0 := lex_has_nul hrest
    cases rest with
    | nil => cases h0
    | cons c0 r =>
      refine ⟨c0 :: r, ?_, hrest, ?_⟩
      · rw [List.append_assoc, List.append_assoc,
          consumeInt_phases w sg ds c0 r hw hsg hds (hmax c0 r rfl) (fun h => absurd h hne), if_neg hne]
        simp only [intOk_iff]
      · have : 0 < ds.length := List.length_pos_iff.mpr hne
        simp only [List.length_append, List.length_cons]; omega

theorem int_miss (b : List Byte) (ts : List Tok) (h : Lex b ts) (hne : ∀ v ts', ts ≠ .int v :: ts') :
    consumeInt b = .fail := by
  have key (w : List Byte) (c : Byte) (rest : List Byte) (hw : ∀ c ∈ w, isWs c = true)
      (hc : isWs c = false ∧ isSign c = false ∧ SisDigit c = false) : consumeInt (w ++ c :: rest) = .fail := by
    simpa using consumeInt_phases w [] [] c rest hw (by simp) (by simp) hc.2.2 (fun _ => ⟨hc.2.1, fun _ => hc.1⟩)
  cases h with
  | eos w post hw => exact key w 0 post hw (by decide)
  | sym w c t rest ts' hw hc _ => exact key w c rest hw ⟨(sym_facts hc).1, (sym_facts hc).2.1, (sym_facts hc).2.2.1⟩
  | int w sg ds rest ts' _ _ _ _ _ _ => exact absurd rfl (hne _ _)

theorem sym_hit (b : List Byte) (ts : List Tok) (c : Byte) (t : Tok) (hc : symTok c = some t)
    (h : Lex b (t :: ts)) :
    ∃ b', consumeSymbol c b = .ok () b' ∧ Lex b' ts ∧ b'.length < b.length := by
  cases h with
  | sym w c' _ rest _ hw hc' hrest =>
    obtain rfl := symTok_inj hc hc'
    refine ⟨rest, ?_, hrest, by simp only [List.length_append, List.length_cons]; omega⟩
    rw [consumeSymbol_ws c (sym_facts hc).1 w _ hw, consumeSymbol_hit]
  | int w sg ds rest _ _ _ _ _ _ _ => exact absurd hc (symTok_not_int c _)

/-- first character of `sign* digit+` -/
theorem head_sign_digit (sg ds rest : List Byte) (hsg : ∀ c ∈ sg, isSign c = true) (hne : ds ≠ [])
    (hds : ∀ c ∈ ds, SisDigit c = true) :
    ∃ x l, sg ++ ds ++ rest = x :: l ∧ isWs x = false ∧ x ≠ 0 ∧ symTok x = none := by
  cases sg with
  | cons x sg' =>
    obtain ⟨h1, _, h2, h3⟩ := sign_facts (hsg x (by simp))
    exact ⟨x, _, rfl, h1, h2, h3⟩
  | nil =>
    cases ds with
    | nil => exact absurd rfl hne
    | cons x ds' =>
      obtain ⟨h1, _, h2, h3⟩ := digit_facts (hds x (by simp))
      exact ⟨x, _, rfl, h1, h2, h3⟩

/-- the next token (or the end of the string) starts, after white space, with a character
other than `sym`: `consume_symbol(sym)` fails -/
theorem sym_miss_of (sym : Byte) (hs : isWs sym = false) (b : List Byte) (ts : List Tok) (h : Lex b ts)
    (h0 : ts = [] → sym ≠ 0) (hsym : ∀ c t ts', ts = t :: ts' → symTok c = some t → sym ≠ c)
    (hint : symTok sym ≠ none ∨ sym = 0) : consumeSymbol sym b = .fail := by
  cases h with
  | eos w post hw =>
    rw [consumeSymbol_ws sym hs w _ hw]
    exact consumeSymbol_miss sym 0 post (fun h => h0 rfl h.symm) (by decide)
  | sym w c' t' rest ts' hw hc' _ =>
    rw [consumeSymbol_ws sym hs w _ hw]
    exact consumeSymbol_miss sym c' rest (fun h => hsym c' t' ts' rfl hc' h.symm) (sym_facts hc').1
  | int w sg ds rest ts' hw hsg hds0 hds _ _ =>
    obtain ⟨x, l, e, h1, h2, h3⟩ := head_sign_digit sg ds rest hsg hds0 hds
    rw [List.append_assoc, List.append_assoc, consumeSymbol_ws sym hs w _ hw, ← List.append_assoc, e]
    refine consumeSymbol_miss sym x l ?_ h1
    rintro rfl
    rcases hint with h | h
    · exact h h3
    · exact h2 h

theorem sym_miss (b : List Byte) (ts : List Tok) (c : Byte) (t : Tok) (hc : symTok c = some t)
    (h : Lex b ts) (hne : ∀ ts', ts ≠ t :: ts') : consumeSymbol c b = .fail := by
  refine sym_miss_of c (sym_facts hc).1 b ts h (fun _ => (sym_facts hc).2.2.2) ?_ (.inl (by simp [hc]))
  rintro c' t' ts' rfl hc' rfl
  rw [hc] at hc'; injection hc' with e
  exact hne ts' (by rw [e])

theorem eos_hit (b : List Byte) (h : Lex b []) : ∃ b', consumeSymbol 0 b = .ok () b' := by
  cases h with
  | eos w post hw => exact ⟨post, by rw [consumeSymbol_ws 0 (by decide) w _ hw, consumeSymbol_hit]⟩

theorem eos_miss (b : List Byte) (t : Tok) (ts : List Tok) (h : Lex b (t :: ts)) :
    consumeSymbol 0 b = .fail :=
  sym_miss_of 0 (by decide) b _ h (fun h => by cases h) (fun c _ _ _ hc h => (sym_facts hc).2.2.2 h.symm) (.inr rfl)

/-! soundness direction: what was consumed is a token -/

theorem int_sound (b : List Byte) (h0 : (0 : Byte) ∈ b) :
    Post (consumeInt b) fun v b' => (∀ ts, Lex b' ts → Lex b (.int v :: ts)) ∧
      (-2147483647 ≤ v ∧ v ≤ 2147483647) ∧ b'.length < b.length ∧ (0 : Byte) ∈ b' := by
  obtain ⟨w, sg, ds, c0, r, e, hw, hsg, hds, hc0, h0', h⟩ := consumeInt_nul b h0
  rw [h]
  split
  · trivial
  · rename_i hne
    split
    · rename_i hle
      refine ⟨fun ts hts => ?_, (intOk_iff sg ds).mpr hle, ?_, h0'⟩
      · rw [e, ← List.append_assoc, ← List.append_assoc]
        exact Lex.int w sg ds _ ts hw hsg hne hds (fun c r' hcr => by injection hcr with hc _; rw [← hc]; exact hc0) hts
      · have : 0 < ds.length := List.length_pos_iff.mpr hne
        rw [e]; simp only [List.length_append]; omega
    · trivial

theorem sym_sound (b : List Byte) (c : Byte) (t : Tok) (hc : symTok c = some t) (h0 : (0 : Byte) ∈ b) :
    Post (consumeSymbol c b) fun _ b' =>
      (∀ ts, Lex b' ts → Lex b (t :: ts)) ∧ b'.length < b.length ∧ (0 : Byte) ∈ b' := by
  refine (consumeSymbol_spec c b h0).1.mono fun _ b' ⟨w, hw, e⟩ => ?_
  refine ⟨fun ts hts => by rw [e]; exact Lex.sym w c t b' ts hw hc hts,
    by rw [e]; simp only [List.length_append, List.length_cons]; omega, ?_⟩
  rw [e] at h0
  rcases List.mem_append.mp h0 with h | h
  · exact absurd (hw 0 h) (by decide)
  · rcases List.mem_cons.mp h with h | h
    · exact absurd h.symm (sym_facts hc).2.2.2
    · exact h

theorem eos_sound (b : List Byte) (h0 : (0 : Byte) ∈ b) : Post (consumeSymbol 0 b) fun _ _ => Lex b [] :=
  (consumeSymbol_spec 0 b h0).1.mono fun _ b' ⟨w, hw, e⟩ => by rw [e]; exact Lex.eos w b' hw

end ArgoVerif.Proofs.AffinityLex
