import ArgoVerif.Model.KTable
/-
Proofs.KTable — sequential key table: refinement of a total map `key id → Val`
(default `0` = NULL), destructor calls, block ledger; and what the two interleaving models
(Proofs.KTableRace, Proofs.KTableConc) share about chains: walks, value stores, tail appends.
-/
namespace ArgoVerif.Model.KTable

/-! ### chain lemmas -/

theorem chainHas_iff (k : Nat) (c : List Elem) : chainHas k c = true ↔ k ∈ c.map (·.keyId) := by
  simp [chainHas]

theorem chainGet_absent (k : Nat) (c : List Elem) (h : k ∉ c.map (·.keyId)) : chainGet k c = 0 := by
  induction c with
  | nil => rfl
  | cons e r ih => grind [chainGet]

theorem chainGet_mem (k : Nat) (c : List Elem) (h : k ∈ c.map (·.keyId)) :
    ∃ e ∈ c, e.keyId = k ∧ chainGet k c = e.val := by
  induction c with
  | nil => simp at h
  | cons a r ih => grind [chainGet]

theorem chainUpd_keys (k : Nat) (v : Val) (c : List Elem) :
    (chainUpd k v c).map (·.keyId) = c.map (·.keyId) := by
  induction c with
  | nil => simp [chainUpd]
  | cons e r ih =>
    by_cases h : e.keyId = k
    · simp [chainUpd, h]
    · simp [chainUpd, h, ih]

theorem chainUpd_get (k : Nat) (v : Val) (c : List Elem) (hk : k ∈ c.map (·.keyId)) (k' : Nat) :
    chainGet k' (chainUpd k v c) = if k' = k then v else chainGet k' c := by
  induction c with
  | nil => simp at hk
  | cons e r ih => grind [chainUpd, chainGet]

theorem chainUpd_mem (k : Nat) (v : Val) (c : List Elem) (e : Elem) (h : e ∈ chainUpd k v c) :
    ∃ e0 ∈ c, e.keyId = e0.keyId ∧ e.dtor = e0.dtor ∧ e.blk = e0.blk := by
  induction c with
  | nil => simp [chainUpd] at h
  | cons a r ih => grind [chainUpd]

theorem chainGet_append (k' : Nat) (c : List Elem) (e : Elem) :
    chainGet k' (c ++ [e]) =
      if k' ∈ c.map (·.keyId) then chainGet k' c else if e.keyId = k' then e.val else 0 := by
  induction c with
  | nil => simp [chainGet]
  | cons a r ih => grind [chainGet]

theorem nodup_keys_append {c : List Elem} {e : Elem} (hn : (c.map (·.keyId)).Nodup)
    (hk : e.keyId ∉ c.map (·.keyId)) : ((c ++ [e]).map (·.keyId)).Nodup := by
  rw [List.map_append, List.nodup_append]
  refine ⟨hn, by simp, fun a ha b hb hab => hk ?_⟩
  rw [List.map_singleton, List.mem_singleton] at hb
  exact (hab.trans hb) ▸ ha

/-! ### well-formedness -/

/-- `kd k`: destructor of the key with id `k` -/
structure WF (kd : Nat → Nat) (t : Table) : Prop where
  size_pos : 0 < t.size
  idx_ok : ∀ i e, e ∈ t.b i → idx t.size e.keyId = i
  nodup : ∀ i, ((t.b i).map (·.keyId)).Nodup
  dtor_ok : ∀ i e, e ∈ t.b i → e.dtor = kd e.keyId

theorem idx_lt (size k : Nat) (h : 0 < size) : idx size k < size := by
  have : k &&& (size - 1) ≤ size - 1 := Nat.and_le_right
  simp only [idx]; omega

theorem createOk_size (g : Geom) (n : Nat) : (createOk g n).size = n := by
  simp only [createOk]; split <;> rfl

theorem createOk_b (g : Geom) (n : Nat) (i : Nat) : (createOk g n).b i = [] := by
  simp only [createOk]; split <;> rfl

theorem createOk_wf (kd : Nat → Nat) (g : Geom) (n : Nat) (hn : 0 < n) : WF kd (createOk g n) := by
  constructor
  · rw [createOk_size]; exact hn
  · intro i e h; rw [createOk_b] at h; simp at h
  · intro i; rw [createOk_b]; simp
  · intro i e h; rw [createOk_b] at h; simp at h

/-- `used` is the `p_used_mem` list: the blocks obtained, newest first -/
structure BWF (t : Table) : Prop where
  used_eq : t.used = t.ledger.reverse
  ids : t.ledger.map Prod.fst = List.range t.nblk
  extra_in : t.extraBlk < t.nblk
  elems_in : ∀ i e, e ∈ t.b i → e.blk < t.nblk

/-- `ABTI_ktable_alloc_elem` fails only for lack of memory -/
theorem allocElem_cases (g : Geom) (t : Table) (mem : Bool) :
    allocElem g t mem = none ∧ mem = false ∨
    ∃ t' blk, allocElem g t mem = some (t', blk) ∧ t'.b = t.b ∧ t'.size = t.size ∧ (BWF t → BWF t' ∧ blk < t'.nblk) := by
  simp only [allocElem]
  split
  · exact .inr ⟨_, _, rfl, rfl, rfl, fun hb => ⟨⟨hb.used_eq, hb.ids, hb.extra_in, hb.elems_in⟩, hb.extra_in⟩⟩
  · cases mem
    · exact .inl ⟨rfl, rfl⟩
    · -- a new block `nblk`, from the descriptor pool or from `malloc`
      simp only [Bool.not_true, Bool.false_eq_true, if_false]
      split
      · exact .inr ⟨_, _, rfl, rfl, rfl, fun hb => ⟨⟨by simp [hb.used_eq], by simp [hb.ids, List.range_succ],
          Nat.lt_succ_self _, fun i e he => Nat.lt_succ_of_lt (hb.elems_in i e he)⟩, Nat.lt_succ_self _⟩⟩
      · exact .inr ⟨_, _, rfl, rfl, rfl, fun hb => ⟨⟨by simp [hb.used_eq], by simp [hb.ids, List.range_succ],
          Nat.lt_succ_of_lt hb.extra_in, fun i e he => Nat.lt_succ_of_lt (hb.elems_in i e he)⟩, Nat.lt_succ_self _⟩⟩

theorem allocElem_b (g : Geom) (t t' : Table) (mem : Bool) (blk : Nat)
    (h : allocElem g t mem = some (t', blk)) : t'.b = t.b ∧ t'.size = t.size := by
  rcases allocElem_cases g t mem with ⟨h0, -⟩ | ⟨t1, blk1, h1, hb, hs, -⟩
  · rw [h0] at h; cases h
  · cases h1.symm.trans h; exact ⟨hb, hs⟩

/-- overwrite the value in place, fail for lack of memory, or append at the tail -/
theorem setImpl_cases (g : Geom) (t : Table) (k : Key) (v : Val) (mem : Bool) :
    (chainHas k.id (t.b (idx t.size k.id)) = true ∧
      setImpl g t k v mem = ({ t with b := updB t.b (idx t.size k.id) (chainUpd k.id v (t.b (idx t.size k.id))) }, true)) ∨
    (mem = false ∧ setImpl g t k v mem = (t, false)) ∨
    (chainHas k.id (t.b (idx t.size k.id)) = false ∧ ∃ t' blk, t'.b = t.b ∧ t'.size = t.size ∧
      (BWF t → BWF t' ∧ blk < t'.nblk) ∧
      setImpl g t k v mem = ({ t' with b := (updB t.b (idx t.size k.id)
        (t.b (idx t.size k.id) ++ [{ dtor := k.dtor, keyId := k.id, val := v, blk := blk }])) }, true)) := by
  simp only [setImpl]
  cases hh : chainHas k.id (t.b (idx t.size k.id))
  · rcases allocElem_cases g t mem with ⟨h0, hm⟩ | ⟨t', blk, h1, hb, hs, hw⟩
    · exact .inr (.inl ⟨hm, by simp [h0]⟩)
    · exact .inr (.inr ⟨rfl, t', blk, hb, hs, hw, by simp [h1, hb]⟩)
  · exact .inl ⟨rfl, by simp⟩

theorem setImpl_size (g : Geom) (t : Table) (k : Key) (v : Val) (mem : Bool) :
    (setImpl g t k v mem).1.size = t.size := by
  rcases setImpl_cases g t k v mem with ⟨-, he⟩ | ⟨-, he⟩ | ⟨-, t', blk, -, hs, -, he⟩ <;> rw [he]
  exact hs

structure BOk (size : Nat) (b : Nat → List Elem) : Prop where
  home : ∀ i e, e ∈ b i → idx size e.keyId = i
  nodup : ∀ i, ((b i).map (·.keyId)).Nodup

theorem BOk.mem_updB {size : Nat} {b : Nat → List Elem} (hb : BOk size b) {i i' : Nat} {c : List Elem} {x : Elem}
    (hx : x ∈ updB b i c i') : x ∈ c ∧ i' = i ∨ x ∈ b i' ∧ idx size x.keyId ≠ i := by
  simp only [updB] at hx
  split at hx
  · next h => exact Or.inl ⟨hx, h⟩
  · next h => exact Or.inr ⟨hx, fun hk => h ((hb.home _ _ hx).symm.trans hk)⟩

theorem BOk.replace {size : Nat} {b : Nat → List Elem} (hb : BOk size b) {i : Nat} {c : List Elem}
    (hi : ∀ e ∈ c, idx size e.keyId = i) (hn : (c.map (·.keyId)).Nodup) : BOk size (updB b i c) := by
  constructor
  · intro i' e he
    rcases hb.mem_updB he with ⟨h1, h2⟩ | ⟨h1, _⟩
    · rw [h2]; exact hi e h1
    · exact hb.home _ _ h1
  · intro i'; simp only [updB]; split
    · exact hn
    · exact hb.nodup i'

theorem WF.replace {kd : Nat → Nat} {t : Table} (hw : WF kd t) {i : Nat} {c : List Elem}
    (hc : ∀ e ∈ c, idx t.size e.keyId = i ∧ e.dtor = kd e.keyId) (hn : (c.map (·.keyId)).Nodup) :
    WF kd { t with b := updB t.b i c } := by
  have hb : BOk t.size t.b := ⟨hw.idx_ok, hw.nodup⟩
  have hb' := hb.replace (fun e he => (hc e he).1) hn
  refine ⟨hw.size_pos, hb'.home, hb'.nodup, fun i' e he => ?_⟩
  rcases hb.mem_updB he with ⟨h1, _⟩ | ⟨h1, _⟩
  · exact (hc e h1).2
  · exact hw.dtor_ok _ _ h1

theorem WF.congr {kd : Nat → Nat} {t t' : Table} (hw : WF kd t) (hs : t'.size = t.size) (hb : t'.b = t.b) : WF kd t' :=
  ⟨hs ▸ hw.size_pos, by rw [hs, hb]; exact hw.idx_ok, hb ▸ hw.nodup, hb ▸ hw.dtor_ok⟩

theorem setImpl_wf (kd : Nat → Nat) (g : Geom) (t : Table) (k : Key) (v : Val) (mem : Bool)
    (hw : WF kd t) (hk : k.dtor = kd k.id) : WF kd (setImpl g t k v mem).1 := by
  rcases setImpl_cases g t k v mem with ⟨-, he⟩ | ⟨-, he⟩ | ⟨hh, t', blk, hb, hs, -, he⟩ <;> rw [he]
  · refine hw.replace (fun e he => ?_) (by rw [chainUpd_keys]; exact hw.nodup _)
    obtain ⟨e0, h0, hk0, hd0, _⟩ := chainUpd_mem _ _ _ _ he
    rw [hk0, hd0]; exact ⟨hw.idx_ok _ _ h0, hw.dtor_ok _ _ h0⟩
  · exact hw
  · refine (hw.replace (i := idx t.size k.id) (fun e he => ?_) ?_).congr hs rfl
    · rcases List.mem_append.mp he with he | he
      · exact ⟨hw.idx_ok _ _ he, hw.dtor_ok _ _ he⟩
      · rw [List.mem_singleton.mp he]; exact ⟨rfl, hk⟩
    · exact nodup_keys_append (hw.nodup _) fun hx => by simp [(chainHas_iff _ _).mpr hx] at hh

theorem setImpl_get (g : Geom) (t : Table) (k : Key) (v : Val) (mem : Bool) (k' : Nat) :
    tget (setImpl g t k v mem).1 k' =
      if (setImpl g t k v mem).2 = true ∧ k' = k.id then v else tget t k' := by
  -- the chain of `k`'s bucket is replaced by `c`; a key of another bucket is another key
  have hupd : ∀ c, chainGet k' (updB t.b (idx t.size k.id) c (idx t.size k')) =
      if idx t.size k' = idx t.size k.id then chainGet k' c else chainGet k' (t.b (idx t.size k')) := fun c => by
    simp only [updB]; split <;> rfl
  simp only [tget, setImpl_size]
  rcases setImpl_cases g t k v mem with ⟨hh, he⟩ | ⟨-, he⟩ | ⟨hh, t', blk, -, -, -, he⟩ <;>
    simp only [he, hupd, Bool.false_eq_true, false_and, if_false, true_and]
  · rw [chainUpd_get _ _ _ ((chainHas_iff _ _).mp hh)]
    grind
  · have hnot : k.id ∉ (t.b (idx t.size k.id)).map (·.keyId) := fun hx => by simp [(chainHas_iff _ _).mpr hx] at hh
    have := chainGet_absent k.id _ hnot
    rw [chainGet_append]
    grind [chainGet_absent]

/-! ### slot level -/

def SlotWF (kd : Nat → Nat) (size : Nat) : Slot → Prop
  | none => True
  | some t => WF kd t ∧ t.size = size

theorem slotSet_spec (kd : Nat → Nat) (g : Geom) (size : Nat) (hsz : 0 < size) (s : Slot) (k : Key) (v : Val)
    (mT mE : Bool) (hw : SlotWF kd size s) (hk : k.dtor = kd k.id) :
    SlotWF kd size (slotSet g size s k v mT mE).1 ∧
    (∀ k', slotGet (slotSet g size s k v mT mE).1 k' =
        if (slotSet g size s k v mT mE).2 = true ∧ k' = k.id then v else slotGet s k') ∧
    (mT = true → mE = true → (slotSet g size s k v mT mE).2 = true) := by
  -- `t`: the table `setImpl` runs on, the existing one or the one just created; it answers lookups as `s` does
  have H : ∀ t, WF kd t → t.size = size → (∀ k', tget t k' = slotGet s k') →
      SlotWF kd size (some (setImpl g t k v mE).1) ∧
      (∀ k', tget (setImpl g t k v mE).1 k' = if (setImpl g t k v mE).2 = true ∧ k' = k.id then v else slotGet s k') ∧
      (mT = true → mE = true → (setImpl g t k v mE).2 = true) := by
    intro t hw ht hget
    refine ⟨⟨setImpl_wf kd g t k v mE hw hk, by rw [setImpl_size, ht]⟩,
      fun k' => by rw [setImpl_get g t k v mE k', hget], fun _ hE => ?_⟩
    cases hok : (setImpl g t k v mE).2 with
    | true => rfl
    | false => rcases setImpl_cases g t k v mE with ⟨-, he⟩ | ⟨hm, -⟩ | ⟨-, _, _, -, -, -, he⟩ <;> simp_all
  cases s with
  | some t => exact H t hw.1 hw.2 fun _ => rfl
  | none =>
    cases mT with
    | false => simp [slotSet, create, SlotWF, slotGet]
    | true =>
      exact H _ (createOk_wf kd g size hsz) (createOk_size _ _) fun k' => by simp [tget, createOk_b, chainGet, slotGet]

/-! ### destructor calls -/

theorem chainCalls_filter (kd : Nat → Nat) (c : List Elem) (k : Nat)
    (hnd : (c.map (·.keyId)).Nodup) (hd : ∀ e ∈ c, e.dtor = kd e.keyId) :
    (chainCalls c).filter (fun d => d.keyId == k) =
      if chainGet k c ≠ 0 ∧ kd k ≠ 0 ∧ k ∈ c.map (·.keyId)
      then [{ keyId := k, dtor := kd k, val := chainGet k c }] else [] := by
  induction c with
  | nil => simp [chainCalls, chainGet]
  | cons e r ih =>
    simp only [List.map_cons, List.nodup_cons] at hnd
    have ih' := ih hnd.2 (fun x hx => hd x (by simp [hx]))
    have hde : e.dtor = kd e.keyId := hd e (by simp)
    grind [chainCalls, chainGet]

theorem chainCalls_keys (c : List Elem) (d : DCall) (h : d ∈ chainCalls c) : d.keyId ∈ c.map (·.keyId) := by
  induction c with
  | nil => simp [chainCalls] at h
  | cons e r ih => grind [chainCalls]

/-- only the bucket that `k` selects holds calls for `k` -/
theorem callsFrom_filter (kd : Nat → Nat) (t : Table) (hw : WF kd t) (k : Nat) (i n : Nat) :
    (callsFrom t i n).filter (fun d => d.keyId == k) =
      if i ≤ idx t.size k ∧ idx t.size k < i + n
      then (chainCalls (t.b (idx t.size k))).filter (fun d => d.keyId == k) else [] := by
  induction n generalizing i with
  | zero => rw [if_neg (by omega)]; rfl
  | succ n ih =>
    rw [callsFrom, List.filter_append, ih]
    by_cases hi : idx t.size k = i
    · subst hi; rw [if_neg (by omega), if_pos (by omega), List.append_nil]
    · have hnone : (chainCalls (t.b i)).filter (fun d => d.keyId == k) = [] :=
        List.filter_eq_nil_iff.mpr fun d hd hdk => by
          obtain ⟨e, he, hek⟩ := List.mem_map.mp (chainCalls_keys _ _ hd)
          exact hi (by rw [← hw.idx_ok i e he, hek, beq_iff_eq.mp hdk])
      rw [hnone, List.nil_append]
      simp only [show (i + 1 ≤ idx t.size k ∧ idx t.size k < i + 1 + n) ↔ (i ≤ idx t.size k ∧ idx t.size k < i + (n + 1)) by omega]

/-- destructor calls of `ABTI_ktable_free` that concern key id `k` -/
theorem freeCalls_filter (kd : Nat → Nat) (t : Table) (hw : WF kd t) (k : Nat) :
    (freeCalls t).filter (fun d => d.keyId == k) =
      if tget t k ≠ 0 ∧ kd k ≠ 0 then [{ keyId := k, dtor := kd k, val := tget t k }] else [] := by
  have hlt := idx_lt t.size k hw.size_pos
  rw [freeCalls, callsFrom_filter kd t hw k 0 t.size, if_pos (by omega),
    chainCalls_filter kd _ k (hw.nodup _) (fun e he => hw.dtor_ok _ e he)]
  by_cases hm : k ∈ (t.b (idx t.size k)).map (·.keyId)
  · simp only [tget, hm, and_true]; split <;> simp [*]
  · simp [tget, chainGet_absent _ _ hm]

/-- destructor calls of `thread_free` that concern key id `k` -/
theorem slotFree_filter (kd : Nat → Nat) (size : Nat) (s : Slot) (hw : SlotWF kd size s) (k : Nat) :
    (slotFree s).1.filter (fun d => d.keyId == k) =
      if slotGet s k ≠ 0 ∧ kd k ≠ 0 then [{ keyId := k, dtor := kd k, val := slotGet s k }] else [] := by
  cases s with
  | none => simp [slotFree, slotGet]
  | some t => exact freeCalls_filter kd t hw.1 k

/-! ### block ledger -/

theorem createOk_bwf (g : Geom) (n : Nat) : BWF (createOk g n) := by
  simp only [createOk]
  split <;> constructor <;> simp [List.range_succ]

theorem setImpl_bwf (g : Geom) (t : Table) (k : Key) (v : Val) (mem : Bool) (hb : BWF t) :
    BWF (setImpl g t k v mem).1 := by
  rcases setImpl_cases g t k v mem with ⟨-, he⟩ | ⟨-, he⟩ | ⟨-, t', blk, hbt, -, hw, he⟩ <;> rw [he]
  · refine ⟨hb.used_eq, hb.ids, hb.extra_in, fun i e he => ?_⟩
    simp only [updB] at he
    split at he
    · obtain ⟨e0, h0, _, _, hblk⟩ := chainUpd_mem _ _ _ _ he
      rw [hblk]; exact hb.elems_in _ _ h0
    · exact hb.elems_in _ _ he
  · exact hb
  · obtain ⟨hb', hlt⟩ := hw hb
    refine ⟨hb'.used_eq, hb'.ids, hb'.extra_in, fun i e he => ?_⟩
    simp only [updB] at he
    split at he
    · rcases List.mem_append.mp he with he | he
      · exact hb'.elems_in _ _ (hbt ▸ he)
      · rw [List.mem_singleton.mp he]; exact hlt
    · exact hb'.elems_in _ _ (hbt ▸ he)

theorem runOps_bwf (g : Geom) (size : Nat) (ops : List Op) (s : Slot) (hb : ∀ t ∈ s, BWF t) :
    ∀ t ∈ (runOps g size s ops).1, BWF t := by
  induction ops generalizing s with
  | nil => exact hb
  | cons op ops ih =>
    refine ih _ ?_
    cases op with
    | set k v mT mE =>
      cases s with
      | some t => rintro _ ⟨⟩; exact setImpl_bwf g t k v mE (hb t rfl)
      | none =>
        cases mT with
        | false => rintro _ ⟨⟩
        | true => rintro _ ⟨⟩; exact setImpl_bwf g _ k v mE (createOk_bwf g size)
    | get kid | revive => exact hb
    | free => rintro _ ⟨⟩

/-! ### walking a chain, storing into it (shared by the interleaving models) -/

/-- a walk over a chain with key ids `l` has passed links `0 .. j-1` without meeting `k` -/
def Scanned (l : List Nat) (k j : Nat) : Prop := j ≤ l.length ∧ ∀ i, i < j → l[i]? ≠ some k

theorem Scanned.zero (l : List Nat) (k : Nat) : Scanned l k 0 :=
  ⟨Nat.zero_le _, fun _ hi => absurd hi (Nat.not_lt_zero _)⟩

theorem Scanned.next {l : List Nat} {k j k' : Nat} (hs : Scanned l k j) (hj : l[j]? = some k') (hne : k' ≠ k) :
    Scanned l k (j + 1) := by
  refine ⟨(List.getElem?_eq_some_iff.mp hj).1, fun i hi => ?_⟩
  rcases Nat.lt_or_ge i j with h1 | h1
  · exact hs.2 i h1
  · have : i = j := by omega
    subst this; rw [hj]; exact fun hx => hne (Option.some.inj hx)

theorem Scanned.at_end {l : List Nat} {k j : Nat} (hs : Scanned l k j) (hn : l[j]? = none) :
    j = l.length ∧ k ∉ l := by
  have hlen : l.length ≤ j := List.getElem?_eq_none_iff.mp hn
  refine ⟨Nat.le_antisymm hs.1 hlen, fun hm => ?_⟩
  obtain ⟨i, hi⟩ := List.mem_iff_getElem?.mp hm
  exact hs.2 i (Nat.lt_of_lt_of_le (List.getElem?_eq_some_iff.mp hi).1 hlen) hi

theorem Scanned.append {l : List Nat} {k j : Nat} (hs : Scanned l k j) (r : List Nat) : Scanned (l ++ r) k j :=
  ⟨by rw [List.length_append]; exact Nat.le_trans hs.1 (Nat.le_add_right _ _),
   fun i hi => by rw [List.getElem?_append_left (Nat.lt_of_lt_of_le hi hs.1)]; exact hs.2 i hi⟩

theorem getElem?_append_some {α : Type} {l : List α} {j : Nat} {x : α} (h : l[j]? = some x) (r : List α) :
    (l ++ r)[j]? = some x := by
  rw [List.getElem?_append_left (List.getElem?_eq_some_iff.mp h).1]; exact h

theorem keyId_getElem? {c : List Elem} {j : Nat} {e : Elem} (h : c[j]? = some e) :
    (c.map (·.keyId))[j]? = some e.keyId := by
  simp [h]

theorem keyId_getElem?_none {c : List Elem} {j : Nat} (h : c[j]? = none) : (c.map (·.keyId))[j]? = none := by
  simp [h]

theorem set_val_keys {c : List Elem} {j : Nat} {e : Elem} (h : c[j]? = some e) (v : Val) :
    (c.set j { e with val := v }).map (·.keyId) = c.map (·.keyId) := by
  rw [List.map_set]
  exact List.ext_getElem? fun i => by
    rw [List.getElem?_set]; split
    · next hij =>
      obtain ⟨hlt, he⟩ := List.getElem?_eq_some_iff.mp h
      subst hij; simp [hlt, he]
    · rfl

/-- `p_elem->value = v` on element `j` of chain `i` -/
theorem BOk.store {size : Nat} {b : Nat → List Elem} (hb : BOk size b) {i j : Nat} {e : Elem}
    (hj : (b i)[j]? = some e) (v : Val) :
    BOk size (updB b i ((b i).set j { e with val := v })) ∧
    (∀ i', (updB b i ((b i).set j { e with val := v }) i').map (·.keyId) = (b i').map (·.keyId)) ∧
    ∀ i' x, x ∈ updB b i ((b i).set j { e with val := v }) i' →
      x = { e with val := v } ∧ i' = i ∨ x ∈ b i' ∧ x.keyId ≠ e.keyId := by
  have hei : idx size e.keyId = i := hb.home _ _ (List.mem_of_getElem? hj)
  refine ⟨hb.replace (fun x hx => ?_) (by rw [set_val_keys hj]; exact hb.nodup i), fun i' => ?_, fun i' x hx => ?_⟩
  · rcases List.mem_or_eq_of_mem_set hx with h | h
    · exact hb.home _ _ h
    · rw [h]; exact hei
  · simp only [updB]
    split
    · next h => rw [h, set_val_keys hj]
    · rfl
  · rcases hb.mem_updB hx with ⟨h1, h2⟩ | ⟨h1, h2⟩
    · obtain ⟨n, hn⟩ := List.mem_iff_getElem?.mp h1
      rw [List.getElem?_set] at hn
      split at hn
      · split at hn
        · exact Or.inl ⟨(Option.some.inj hn).symm, h2⟩
        · cases hn
      · next hne =>
        refine Or.inr ⟨h2 ▸ List.mem_of_getElem? hn, fun hk => hne ?_⟩
        have h3 := keyId_getElem? hn
        rw [hk, ← keyId_getElem? hj] at h3
        exact ((List.getElem?_inj (by simpa using (List.getElem?_eq_some_iff.mp hj).1) (hb.nodup i)).mp h3.symm)
    · exact Or.inr ⟨h1, fun hk => h2 (hk ▸ hei)⟩

/-- linking `e` at the tail of the chain its key id selects, which does not hold that id yet -/
theorem BOk.publish {size : Nat} {b : Nat → List Elem} (hb : BOk size b) {e : Elem}
    (hn : e.keyId ∉ (b (idx size e.keyId)).map (·.keyId)) :
    BOk size (updB b (idx size e.keyId) (b (idx size e.keyId) ++ [e])) ∧
    (∀ i', (updB b (idx size e.keyId) (b (idx size e.keyId) ++ [e]) i').map (·.keyId) =
      (b i').map (·.keyId) ++ if i' = idx size e.keyId then [e.keyId] else []) ∧
    ∀ i' x, x ∈ updB b (idx size e.keyId) (b (idx size e.keyId) ++ [e]) i' →
      x = e ∧ i' = idx size e.keyId ∨ x ∈ b i' ∧ x.keyId ≠ e.keyId := by
  refine ⟨hb.replace (fun x hx => ?_) ?_, fun i' => ?_, fun i' x hx => ?_⟩
  · rcases List.mem_append.mp hx with h | h
    · exact hb.home _ _ h
    · rw [List.mem_singleton.mp h]
  · exact nodup_keys_append (hb.nodup _) hn
  · simp only [updB]
    split
    · next h => rw [h, List.map_append, List.map_singleton]
    · rw [List.append_nil]
  · rcases hb.mem_updB hx with ⟨h1, h2⟩ | ⟨h1, h2⟩
    · rcases List.mem_append.mp h1 with h | h
      · subst h2; exact Or.inr ⟨h, fun hk => hn (List.mem_map.mpr ⟨x, h, hk⟩)⟩
      · exact Or.inl ⟨List.mem_singleton.mp h, h2⟩
    · exact Or.inr ⟨h1, fun hk => h2 (hk ▸ rfl)⟩

end ArgoVerif.Model.KTable
