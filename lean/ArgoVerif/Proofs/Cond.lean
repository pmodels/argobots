import ArgoVerif.Model.Cond
import ArgoVerif.Proofs.WaitList
/- Proofs.Cond — invariant of the condition-variable model (on top of the wait-list invariant). -/
namespace ArgoVerif.Model.Cond
open ArgoVerif

def UntimedWaiting : WaitList.Pc → Prop
  | .uSusp | .uRelL | .uWait | .xCheck | .xRelL | .xSleep | .xReacq | .xReadyRel => True
  | _ => False

def TimedStates : WaitList.Pc → Prop
  | .tuRel | .tuPoll | .tuTime | .tuAcq | .txTop | .txState | .txRel | .txSleep | .txReacq | .txReadyRel
  | .tmo | .tmoRm | .tmoRel => True
  | _ => False

structure CInv (s : St) : Prop where
  wlInv : WaitList.Inv s.wl
  idleLink : ∀ a, (s.cpc a = .idle ∨ s.cpc a = .wBegin ∨ s.cpc a = .wRelock ∨ s.cpc a = .wDone ∨ s.cpc a = .wBad
      ∨ s.cpc a = .sBegin ∨ s.cpc a = .sDone) → s.wl.pc a = .idle
  acqLink : ∀ a, (s.cpc a = .wAcq ∨ s.cpc a = .sAcq) → s.wl.pc a = .acq
  csLink : ∀ a, (s.cpc a = .wUnlock ∨ s.cpc a = .wEnq ∨ s.cpc a = .wBadRel) → s.wl.pc a = .inCs
  sigLink : ∀ a, s.cpc a = .sCs → (s.wl.pc a = .inCs ∨ s.wl.pc a = .wkStore)
  waitLink : ∀ a, s.cpc a = .wWaiting → (WaitList.Waiting (s.wl.pc a) ∨ s.wl.pc a = .tmoRel)
  untimedLink : ∀ a, s.cpc a = .wWaiting → isTimed (s.op a) = false → UntimedWaiting (s.wl.pc a)
  timedLink : ∀ a, s.cpc a = .wWaiting → isTimed (s.op a) = true → TimedStates (s.wl.pc a)
  holdM : ∀ a, (s.cpc a = .wBegin ∨ s.cpc a = .wAcq ∨ s.cpc a = .wUnlock ∨ s.cpc a = .wBadRel ∨ s.cpc a = .wBad
      ∨ s.cpc a = .wDone) → s.mholder (opMutex (s.op a)) = some a
  wokenReady : ∀ a, (s.cpc a = .wRelock ∨ s.cpc a = .wDone) →
      (s.wl.timedOut a = false ∨ isTimed (s.op a) = false) → s.wl.ready a = true
  timedOutNotReady : ∀ a, (s.cpc a = .wRelock ∨ s.cpc a = .wDone) → isTimed (s.op a) = true →
      s.wl.timedOut a = true → s.wl.ready a = false

theorem cinv_init (u : Actor → Bool) : CInv (init u) := by
  constructor
  · exact WaitList.inv_init u
  all_goals simp [init, WaitList.init]

def Link (s : St) (a : Actor) : Prop :=
  ((s.cpc a = .idle ∨ s.cpc a = .wBegin ∨ s.cpc a = .wRelock ∨ s.cpc a = .wDone ∨ s.cpc a = .wBad
      ∨ s.cpc a = .sBegin ∨ s.cpc a = .sDone) → s.wl.pc a = .idle) ∧
  ((s.cpc a = .wAcq ∨ s.cpc a = .sAcq) → s.wl.pc a = .acq) ∧
  ((s.cpc a = .wUnlock ∨ s.cpc a = .wEnq ∨ s.cpc a = .wBadRel) → s.wl.pc a = .inCs) ∧
  (s.cpc a = .sCs → (s.wl.pc a = .inCs ∨ s.wl.pc a = .wkStore)) ∧
  (s.cpc a = .wWaiting → (WaitList.Waiting (s.wl.pc a) ∨ s.wl.pc a = .tmoRel)) ∧
  (s.cpc a = .wWaiting → isTimed (s.op a) = false → UntimedWaiting (s.wl.pc a)) ∧
  (s.cpc a = .wWaiting → isTimed (s.op a) = true → TimedStates (s.wl.pc a)) ∧
  ((s.cpc a = .wBegin ∨ s.cpc a = .wAcq ∨ s.cpc a = .wUnlock ∨ s.cpc a = .wBadRel ∨ s.cpc a = .wBad
      ∨ s.cpc a = .wDone) → s.mholder (opMutex (s.op a)) = some a) ∧
  ((s.cpc a = .wRelock ∨ s.cpc a = .wDone) →
      (s.wl.timedOut a = false ∨ isTimed (s.op a) = false) → s.wl.ready a = true) ∧
  ((s.cpc a = .wRelock ∨ s.cpc a = .wDone) → isTimed (s.op a) = true →
      s.wl.timedOut a = true → s.wl.ready a = false)

theorem CInv.link {s : St} (h : CInv s) (a : Actor) : Link s a :=
  ⟨h.idleLink a, h.acqLink a, h.csLink a, h.sigLink a, h.waitLink a, h.untimedLink a, h.timedLink a, h.holdM a,
    h.wokenReady a, h.timedOutNotReady a⟩

theorem cinv_of_links {s : St} (hw : WaitList.Inv s.wl) (hl : ∀ a, Link s a) : CInv s := by
  constructor <;> first | assumption | (intro a; obtain ⟨_, _, _, _, _, _, _, _, _, _⟩ := hl a; assumption)

theorem finishWait_wl (s : St) (w : WaitList.St) (n : Actor) : (finishWait s w n).wl = w := rfl
theorem finishWait_op (s : St) (w : WaitList.St) (n : Actor) : (finishWait s w n).op = s.op := rfl
theorem finishWait_mholder (s : St) (w : WaitList.St) (n : Actor) : (finishWait s w n).mholder = s.mholder := rfl

theorem finishWait_cpc_other (s : St) (w : WaitList.St) {n b : Actor} (hb : b ≠ n) :
    (finishWait s w n).cpc b = s.cpc b := by
  simp only [finishWait]; split <;> simp [upd_other _ _ _ _ hb]

theorem finishWait_cpc_same (s : St) (w : WaitList.St) (n : Actor) :
    (finishWait s w n).cpc n = if s.cpc n = .wWaiting ∧ w.pc n = .idle then .wRelock else s.cpc n := by
  simp only [finishWait]; split <;> simp

theorem Link.frame {s s' : St} {b : Actor} (hl : Link s b) (hc : s'.cpc b = s.cpc b) (ho : s'.op b = s.op b)
    (hm : s'.mholder = s.mholder) (hp : s'.wl.pc b = s.wl.pc b) (hr : s'.wl.ready b = s.wl.ready b)
    (ht : s'.wl.timedOut b = s.wl.timedOut b) : Link s' b := by
  simp only [Link, hc, ho, hm, hp, hr, ht]
  exact hl

/-- for a step that touches `a` and `n` only, in the cond fields and in the private wait-list fields, and no mutex -/
theorem cinv_touch {s s' : St} (h : CInv s) (a n : Actor) (hw : WaitList.Inv s'.wl) (hm : s'.mholder = s.mholder)
    (hf : ∀ b, b ≠ a → b ≠ n → s'.cpc b = s.cpc b ∧ s'.op b = s.op b ∧ s'.wl.pc b = s.wl.pc b ∧
      s'.wl.ready b = s.wl.ready b ∧ s'.wl.timedOut b = s.wl.timedOut b)
    (ha : Link s' a) (hn : n ≠ a → Link s' n) : CInv s' := by
  refine cinv_of_links hw fun b => ?_
  by_cases hba : b = a
  · exact hba ▸ ha
  by_cases hbn : b = n
  · exact hbn ▸ hn (hbn ▸ hba)
  obtain ⟨h1, h2, h3, h4, h5⟩ := hf b hba hbn
  exact (h.link b).frame h1 h2 hm h3 h4 h5

theorem cinv_stepCall (s s' : St) (a : Actor) (op : Op) (h : CInv s) (hs : stepCall s a op = some s') : CInv s' := by
  have hla := h.link a
  cases op <;> simp only [stepCall] at hs <;> (repeat' (split at hs)) <;> (try (cases hs; done)) <;> cases hs
  all_goals
    refine cinv_touch h a a h.wlInv rfl (fun b hb _ => by simp [setC, hb]) ?_ (absurd rfl)
    simp only [Link, setC, upd_same, opMutex, isTimed] at hla ⊢
    simp_all

theorem cinv_stepRet (s s' : St) (a : Actor) (rc : Rc) (h : CInv s) (hs : stepRet s a rc = some s') : CInv s' := by
  have hla := h.link a
  unfold stepRet at hs
  (repeat' (split at hs)) <;> (try (cases hs; done)) <;> cases hs
  all_goals
    refine cinv_touch h a a h.wlInv rfl (fun b hb _ => by simp [setC, hb]) ?_ (absurd rfl)
    simp only [Link, setC, upd_same] at hla ⊢
    simp_all

/-- the user mutex `m` changes hands: `holdM` of the others is not about `m` when its holder `a` releases it or `a`
acquires it free -/
theorem cinv_stepMutex (s s' : St) (a : Actor) (m : MutexId) (h : CInv s)
    (hs : stepMutexUnlock s a m = some s' ∨ stepMutexLock s a m = some s') : CInv s' := by
  have hla := h.link a
  simp only [stepMutexUnlock, stepMutexLock] at hs
  rcases hs with hs | hs <;> (repeat' (split at hs)) <;> (try (cases hs; done)) <;> cases hs
  all_goals
    refine cinv_of_links h.wlInv fun b => ?_
    have hlb := h.link b
    by_cases hb : b = a
    · subst hb
      simp only [Link, setC, upd_same] at hla ⊢
      simp_all [upd]
    · simp only [Link, setC, upd_other _ _ _ _ hb] at hlb ⊢
      grind [upd]

/-- a wait-list event `hs : stepWl s _ = some s'` of actor `a` keeps `CInv`.  By where `a` is in its cond operation:
`cinv_touch` leaves the links of `a`; what `Link s a` says at that place prunes the wait-list step; then case by case
through it, evaluating the class predicates at the two program counters -/
macro "wl_tac" h:ident hs:ident s:ident a:ident : tactic => `(tactic|
  (have hla := ($h).link $a
   have hr := ($h).wlInv.readyPc $a
   have ht := ($h).wlInv.tmoRelInv $a
   cases hc : St.cpc $s $a <;> simp only [stepWl, hc, reduceCtorEq, ↓reduceIte, true_and, false_and] at $hs:ident
   all_goals
     (try split at $hs:ident) <;> (try (cases $hs:ident; done))
     obtain ⟨w, hw, hs'⟩ := Option.map_eq_some_iff.mp $hs
     subst hs'
     clear $hs
     refine cinv_touch $h $a $a (WaitList.inv_step _ _ _ ($h).wlInv hw) rfl (fun b hb _ =>
       ⟨by simp [setC, afterAcquire, finishWait_cpc_other, hb], rfl, (WaitList.step_frame _ _ _ hw b).resolve_right hb⟩)
       ?_ (absurd rfl)
     clear $h
     simp [Link, hc] at hla
     simp only [WaitList.step, WaitList.stepBegin, WaitList.stepClearL, WaitList.stepStoreBlocked, WaitList.stepRm,
       WaitList.stepTasL, WaitList.stepEnq, WaitList.stepLoadState, WaitList.stepTimeCheck, WaitList.stepDeq] at hw
     try simp only [hla] at hw
     (repeat' (split at hw)) <;> (try (cases hw; done)) <;> cases hw
     all_goals
       simp only [Link, setC, afterAcquire, finishWait_wl, finishWait_op, finishWait_mholder, finishWait_cpc_same,
         WaitList.setPc, WaitList.takeL, WaitList.dropL, upd_same]
       simp_all [UntimedWaiting, TimedStates, WaitList.Waiting] <;> grind))

/-- the READY store touches two actors, the waker `a` and the woken `n` -/
theorem cinv_wl_storeReady (s s' : St) (a n : Actor) (h : CInv s) (hs : stepWl s (.storeReady a n) = some s') : CInv s' := by
  have hla := h.link a
  have hln := h.link n
  have hwn := h.wlInv.pendWait n
  simp only [stepWl] at hs
  split at hs <;> (try (cases hs; done))
  obtain ⟨w, hw, rfl⟩ := Option.map_eq_some_iff.mp hs
  clear hs
  refine cinv_touch h a n (WaitList.inv_step _ _ _ h.wlInv hw) rfl (fun b hba hbn =>
    ⟨finishWait_cpc_other _ _ hbn, rfl, (WaitList.step_frame _ _ _ hw b).resolve_right (not_or.2 ⟨hba, hbn⟩)⟩)
    ?_ fun hna => ?_
  all_goals
    simp only [WaitList.step, WaitList.stepStoreReady] at hw
    split at hw <;> (try (cases hw; done))
    rename_i hc hp
    replace hwn := hwn hp.2
  · have hna := h.wlInv.pending_ne hp.1 hp.2
    split at hw <;> cases hw <;>
      simp only [Link, finishWait_wl, finishWait_op, finishWait_mholder, finishWait_cpc_other _ _ hna.symm,
        WaitList.setPc, upd_same, upd_other _ _ _ _ hna.symm] at hla ⊢ <;> simp_all
  · have hni : s.wl.pc n ≠ .idle := fun hi => by simp [hi, WaitList.Waiting] at hwn
    split at hw <;> cases hw <;>
      simp only [Link, finishWait_wl, finishWait_op, finishWait_mholder, finishWait_cpc_same,
        WaitList.setPc, upd_same, upd_other _ _ _ _ hna] at hln ⊢ <;>
      by_cases hcn : s.cpc n = .wWaiting <;> simp_all [UntimedWaiting, TimedStates, WaitList.Waiting]

theorem cinv_stepWl (s s' : St) (e : WaitList.Ev) (h : CInv s) (hs : stepWl s e = some s') : CInv s' := by
  cases e with
  | obsL v =>
    simp only [stepWl, WaitList.step] at hs
    split at hs <;> cases hs
    exact h
  | storeReady a n => exact cinv_wl_storeReady s s' a n h hs
  | tasL a old =>
    cases old
    · wl_tac h hs s a
    · -- a failed test-and-set changes nothing
      simp only [stepWl, reduceCtorEq, ↓reduceIte] at hs
      (repeat' (split at hs)) <;> (try (cases hs; done)) <;>
        (obtain ⟨w, hw, rfl⟩ := Option.map_eq_some_iff.mp hs; cases WaitList.stepTasL_true hw; exact h)
  | begin a | clearL a | enq a t | storeBlocked a | loadState a r | deq a n | timeCheck a x | rm a => wl_tac h hs s a

end ArgoVerif.Model.Cond
