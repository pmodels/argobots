import ArgoVerif.Model.Sched
/- Proofs.Sched — inductive invariant of the work-unit life-cycle model and its preservation by every step; `Effect`,
what one step may do to one unit, which the property files quote; the guards of `run` and `free`. -/
namespace ArgoVerif.Model.Sched
open ArgoVerif

/-- number of outstanding increments charged to pool p -/
def cntP : List (UnitId × PoolId) → PoolId → Nat
  | [], _ => 0
  | (_, q) :: l, p => cntP l p + (if q = p then 1 else 0)

/-- number of outstanding increments made on behalf of unit u -/
def cntU : List (UnitId × PoolId) → UnitId → Nat
  | [], _ => 0
  | (v, _) :: l, u => cntU l u + (if v = u then 1 else 0)

theorem countP_erase_add {α : Type} [BEq α] [LawfulBEq α] (q : α → Bool) {l : List α} {a : α} (h : a ∈ l) :
    (l.erase a).countP q + (if q a = true then 1 else 0) = l.countP q := by
  induction l with
  | nil => cases h
  | cons x r ih =>
    by_cases hx : x = a
    · subst hx; simp [List.countP_cons]
    · have hm : a ∈ r := (List.mem_cons.mp h).resolve_left (Ne.symm hx)
      rw [List.erase_cons_tail (by simpa using hx), List.countP_cons, List.countP_cons, ← ih hm]
      omega

theorem cntP_eq_countP (l : List (UnitId × PoolId)) (p : PoolId) : cntP l p = l.countP (fun x => decide (x.2 = p)) := by
  induction l with
  | nil => rfl
  | cons x r ih => simp [cntP, List.countP_cons, ih]
theorem cntU_eq_countP (l : List (UnitId × PoolId)) (u : UnitId) : cntU l u = l.countP (fun x => decide (x.1 = u)) := by
  induction l with
  | nil => rfl
  | cons x r ih => simp [cntU, List.countP_cons, ih]
theorem cntUP_eq_countP (l : List (UnitId × PoolId)) (u : UnitId) (p : PoolId) :
    cntUP l u p = l.countP (fun x => decide (x.1 = u ∧ x.2 = p)) := by
  induction l with
  | nil => rfl
  | cons x r ih => simp [cntUP, List.countP_cons, ih]

theorem cntP_erase (l : List (UnitId × PoolId)) (u : UnitId) (q p : PoolId) (h : (u, q) ∈ l) :
    cntP (l.erase (u, q)) p + (if q = p then 1 else 0) = cntP l p := by
  simpa [cntP_eq_countP] using countP_erase_add (fun x => decide (x.2 = p)) h

theorem cntU_erase (l : List (UnitId × PoolId)) (u : UnitId) (q : PoolId) (v : UnitId) (h : (u, q) ∈ l) :
    cntU (l.erase (u, q)) v + (if u = v then 1 else 0) = cntU l v := by
  simpa [cntU_eq_countP] using countP_erase_add (fun x => decide (x.1 = v)) h

theorem cntUP_erase (l : List (UnitId × PoolId)) (u : UnitId) (q : PoolId) (v : UnitId) (p : PoolId) (h : (u, q) ∈ l) :
    cntUP (l.erase (u, q)) v p + (if u = v ∧ q = p then 1 else 0) = cntUP l v p := by
  simpa [cntUP_eq_countP] using countP_erase_add (fun x => decide (x.1 = v ∧ x.2 = p)) h

theorem cntUP_pos_iff (l : List (UnitId × PoolId)) (u : UnitId) (p : PoolId) : 0 < cntUP l u p ↔ (u, p) ∈ l := by
  simp [cntUP_eq_countP, List.countP_pos_iff]

theorem cntU_pos_of_mem (l : List (UnitId × PoolId)) (u : UnitId) (p : PoolId) (h : (u, p) ∈ l) : 0 < cntU l u := by
  have := cntU_erase l u p u h; simp at this; omega

structure Inv (s : St) : Prop where
  nbCount : ∀ p, s.nb p = (cntP s.owedL p : Int)
  unitCount : ∀ u, cntU s.owedL u = s.lag u + (if s.charged u = true then 1 else 0)
  chargedMem : ∀ u, s.charged u = true → (u, s.chargedPool u) ∈ s.owedL
  blockedCharged : ∀ u, s.loc u = .blocked → s.resumed u = false → (s.charged u = true ∧ s.chargedPool u = s.pool u)
  stBlockedLoc : ∀ u, s.st u = .blocked → s.loc u = .blocked
  runningSt : ∀ u e, s.loc u = .running e → s.st u = .running
  termLoc : ∀ u, s.st u = .terminated ↔ (s.loc u = .done ∨ s.loc u = .freed)
  startsLe : ∀ u, s.starts u ≤ 1 ∧ s.ends u ≤ s.starts u
  termRan : ∀ u, s.terminating u = true → (s.cancelled u = true ∨ s.starts u = 1)
  doneTerm : ∀ u, (s.loc u = .done ∨ s.loc u = .freed) → s.terminating u = true
  resumedBlocked : ∀ u, s.resumed u = true → s.loc u = .blocked
  cancTerm : ∀ u, s.cancelled u = true → s.terminating u = true

theorem inv_init : Inv init := by
  constructor <;> simp [init, cntP, cntU]

/-! `Inv` is a ledger (the three clauses about `owedL`) plus nine clauses that speak of one unit's own fields.
An event touches those fields of its own unit only (`frame`).  For that unit one case analysis of `step` (`acting_step`)
shows that its clauses are kept and what the event may do to it (`Effect`).  The ledger is kept by `ledger_step`. -/

structure UView where
  loc : Loc
  st : USt
  pool : PoolId
  charged : Bool
  chargedPool : PoolId
  resumed : Bool
  starts : Nat
  ends : Nat
  cancelled : Bool
  terminating : Bool

def St.view (s : St) (u : UnitId) : UView :=
  { loc := s.loc u, st := s.st u, pool := s.pool u, charged := s.charged u, chargedPool := s.chargedPool u,
    resumed := s.resumed u, starts := s.starts u, ends := s.ends u, cancelled := s.cancelled u,
    terminating := s.terminating u }

structure Local (s : St) (u : UnitId) : Prop where
  blockedCharged : s.loc u = .blocked → s.resumed u = false → (s.charged u = true ∧ s.chargedPool u = s.pool u)
  stBlockedLoc : s.st u = .blocked → s.loc u = .blocked
  runningSt : ∀ e, s.loc u = .running e → s.st u = .running
  termLoc : s.st u = .terminated ↔ (s.loc u = .done ∨ s.loc u = .freed)
  startsLe : s.starts u ≤ 1 ∧ s.ends u ≤ s.starts u
  termRan : s.terminating u = true → (s.cancelled u = true ∨ s.starts u = 1)
  doneTerm : (s.loc u = .done ∨ s.loc u = .freed) → s.terminating u = true
  resumedBlocked : s.resumed u = true → s.loc u = .blocked
  cancTerm : s.cancelled u = true → s.terminating u = true

theorem Local.congr {s s' : St} {u : UnitId} (h : Local s u) (e : s'.view u = s.view u) : Local s' u := by
  simp only [St.view, UView.mk.injEq] at e
  obtain ⟨e1, e2, e3, e4, e5, e6, e7, e8, e9, e10⟩ := e
  cases h; constructor <;> simp only [e1, e2, e3, e4, e5, e6, e7, e8, e9, e10] <;> assumption

structure Ledger (s : St) : Prop where
  nbCount : ∀ p, s.nb p = (cntP s.owedL p : Int)
  unitCount : ∀ u, cntU s.owedL u = s.lag u + (if s.charged u = true then 1 else 0)
  chargedMem : ∀ u, s.charged u = true → (u, s.chargedPool u) ∈ s.owedL

theorem Inv.local {s : St} (h : Inv s) (u : UnitId) : Local s u :=
  ⟨h.blockedCharged u, h.stBlockedLoc u, h.runningSt u, h.termLoc u, h.startsLe u, h.termRan u, h.doneTerm u,
    h.resumedBlocked u, h.cancTerm u⟩

theorem Inv.ledger {s : St} (h : Inv s) : Ledger s := ⟨h.nbCount, h.unitCount, h.chargedMem⟩

theorem Inv.of_parts {s : St} (hl : Ledger s) (hu : ∀ u, Local s u) : Inv s :=
  ⟨hl.nbCount, hl.unitCount, hl.chargedMem, fun u => (hu u).blockedCharged, fun u => (hu u).stBlockedLoc,
    fun u => (hu u).runningSt, fun u => (hu u).termLoc, fun u => (hu u).startsLe, fun u => (hu u).termRan,
    fun u => (hu u).doneTerm, fun u => (hu u).resumedBlocked, fun u => (hu u).cancTerm⟩

/-- the unit whose fields in `UView` an event may change -/
def Ev.unit : Ev → UnitId
  | .create u _ | .push _ u | .pop _ _ u | .setSt u _ | .run _ u | .userStart u | .userEnd u | .cb _ u _
  | .incB u _ | .decB u _ | .resume u | .finish _ u | .terminate u | .free u | .reqSet u _ | .reqClr u _
  | .migrate u _ | .joinRet _ u => u
  | .xferB _ t => t

macro "inv_tac" h:ident : tactic => `(tactic| (cases $h:ident; grind [upd, cntP, cntU, pushable]))

macro "close_tac" h:ident hs:ident : tactic => `(tactic|
  first
  | (cases $hs:ident; done)
  | (cases $hs:ident; constructor <;> inv_tac $h))

theorem ite_some_eq_some {α : Type} {c : Prop} [Decidable c] {a b : α} {x : Option α} :
    (if c then some a else x) = some b ↔ c ∧ some a = some b ∨ ¬ c ∧ x = some b := by
  split <;> simp [*]

theorem frame (s s' : St) (e : Ev) (hs : step s e = some s') (v : UnitId) (hv : v ≠ e.unit) :
    s'.view v = s.view v := by
  cases e <;> simp only [Ev.unit] at hv <;>
    simp only [step, stepCreate, stepPush, stepPop, stepSetSt, stepRun, stepUserStart, stepUserEnd, stepCb, stepIncB,
      stepDecB, stepResume, stepFinish, stepTerminate, stepFree, stepReqSet, stepReqClr, stepMigrate, stepJoinRet, stepXferB] at hs <;>
    (repeat' (split at hs)) <;> (try cases hs) <;> simp_all [St.view, setLoc, upd]

/-- what a single step may do to one unit: the facts about one transition that the property files state
(C11 suspension, C12 revival and freezing after termination, C13 migration) -/
structure Effect (s s' : St) (e : Ev) (u : UnitId) : Prop where
  leaveBlocked : s.loc u = .blocked → s'.loc u ≠ .blocked → s.resumed u = true ∧ s'.resumed u = false
  reviving : s.loc u = .reviving → s'.loc u = .reviving ∨ ∃ p, e = .create u p
  pool : s'.pool u ≠ s.pool u → (∃ p, e = .migrate u p ∧ s'.pool u = p) ∨ ∃ p, e = .create u p
  frozen : (s.loc u = .done ∨ s.loc u = .freed) → s.st u = .terminated → e ≠ .setSt u .ready →
    (∀ p, e ≠ .create u p) → s'.st u = .terminated

theorem acting_step (s s' : St) (e : Ev) (hs : step s e = some s') :
    (Local s e.unit → Local s' e.unit) ∧ Effect s s' e e.unit := by
  cases e <;> simp only [Ev.unit] at * <;> simp only [step] at hs
  case create | push | pop | run | cb | incB | resume | finish | free | migrate | joinRet | xferB =>
    -- one guard: keep it as a hypothesis, whatever `match` it contains
    simp only [stepCreate, stepPush, stepPop, stepRun, stepCb, stepIncB, stepResume, stepFinish, stepFree, stepMigrate,
      stepJoinRet, stepXferB, setLoc, Option.ite_none_right_eq_some] at hs
    obtain ⟨hg, hs⟩ := hs
    cases hs
    exact ⟨fun h => by cases h; grind [Local.mk, upd, pushable], by constructor <;> simp_all [upd, pushable] <;> grind⟩
  case setSt u v =>
    cases v <;> simp only [stepSetSt, Option.ite_none_right_eq_some] at hs
    case ready =>
      rw [ite_some_eq_some, Option.ite_none_right_eq_some] at hs
      rcases hs with ⟨hg, hs⟩ | ⟨_, hg, hs⟩ <;> cases hs <;>
        exact ⟨fun h => by cases h; grind [Local.mk, upd], by constructor <;> simp_all [upd] <;> grind⟩
    all_goals
      obtain ⟨hg, hs⟩ := hs
      cases hs
      exact ⟨fun h => by cases h; grind [Local.mk, upd], by constructor <;> simp_all [upd] <;> grind⟩
  case userStart | userEnd | decB | terminate | reqSet | reqClr =>
    simp only [stepUserStart, stepUserEnd, stepDecB, stepTerminate, stepReqSet, stepReqClr] at hs
    (repeat' (split at hs)) <;> first
      | (cases hs; done)
      | (cases hs
         exact ⟨fun h => by cases h; grind [Local.mk, upd], by constructor <;> simp_all <;> grind⟩)

theorem effect (s s' : St) (e : Ev) (hs : step s e = some s') (u : UnitId) : Effect s s' e u := by
  by_cases hu : u = e.unit
  · exact hu ▸ (acting_step s s' e hs).2
  · have f := frame s s' e hs u hu
    simp only [St.view, UView.mk.injEq] at f
    constructor <;> simp_all

theorem ledger_step (s s' : St) (e : Ev) (h : Ledger s) (hs : step s e = some s') : Ledger s' := by
  cases e with
  | push p u => simp only [step, stepPush] at hs; split at hs <;> close_tac h hs
  | run e u =>
    simp only [step, stepRun, Option.ite_none_right_eq_some] at hs
    obtain ⟨hg, hs⟩ := hs
    close_tac h hs
  | incB u p =>
    simp only [step, stepIncB, Option.ite_none_right_eq_some] at hs
    obtain ⟨hg, hs⟩ := hs
    close_tac h hs
  | decB u p =>
    simp only [step, stepDecB] at hs
    split at hs
    · rename_i hg
      have e1 := cntP_erase s.owedL u p
      have e2 := cntU_erase s.owedL u p
      have e3 := cntU_pos_of_mem s.owedL u p hg
      have e4 : ∀ v q, (v, q) ∈ s.owedL.erase (u, p) → (v, q) ∈ s.owedL := fun v q hm => List.mem_of_mem_erase hm
      have e5 : ∀ v q, (v, q) ∈ s.owedL → (v, q) ≠ (u, p) → (v, q) ∈ s.owedL.erase (u, p) :=
        fun v q hm hne => (List.mem_erase_of_ne hne).mpr hm
      have e6 := cntUP_erase s.owedL u p u p hg
      have e7 := cntUP_pos_iff (s.owedL.erase (u, p)) u p
      (repeat' (split at hs)) <;> close_tac h hs
    · cases hs
  | xferB f t =>
    simp only [step, stepXferB, Option.ite_none_right_eq_some] at hs
    obtain ⟨hg, hs⟩ := hs
    have e1 := cntP_erase s.owedL f (s.pool t)
    have e2 := cntU_erase s.owedL f (s.pool t)
    have e3 := cntU_pos_of_mem s.owedL f (s.pool t) hg.2.2.2.2.1
    have e4 : ∀ v q, (v, q) ∈ s.owedL.erase (f, s.pool t) → (v, q) ∈ s.owedL := fun v q hm => List.mem_of_mem_erase hm
    have e5 : ∀ v q, (v, q) ∈ s.owedL → (v, q) ≠ (f, s.pool t) → (v, q) ∈ s.owedL.erase (f, s.pool t) :=
      fun v q hm hne => (List.mem_erase_of_ne hne).mpr hm
    close_tac h hs
  | _ =>
    simp only [step, stepCreate, stepPop, stepSetSt, stepUserStart, stepUserEnd, stepCb, stepResume, stepFinish,
      stepTerminate, stepFree, stepReqSet, stepReqClr, stepMigrate, stepJoinRet, setLoc] at hs <;>
    (repeat' (split at hs)) <;> first | (cases hs; done) | (cases hs; exact ⟨h.nbCount, h.unitCount, h.chargedMem⟩)

theorem inv_step (s s' : St) (e : Ev) (h : Inv s) (hs : step s e = some s') : Inv s' :=
  Inv.of_parts (ledger_step s s' e h.ledger hs) fun v =>
    if hv : v = e.unit then hv ▸ (acting_step s s' e hs).1 (h.local _) else (h.local v).congr (frame s s' e hs v hv)

theorem inv_reachable (s : St) (h : machine.Reachable s) : Inv s :=
  Machine.invariant_reachable machine Inv inv_init (fun s e s' hi hs => inv_step s s' e hi hs) s h

/-- a run slice starts only for a unit that no pool and no stream has -/
theorem step_run_loc (s s' : St) (e : EsId) (u : UnitId) (hs : step s (.run e u) = some s') :
    (∀ q, s.loc u ≠ .inPool q) ∧ (∀ e', s.loc u ≠ .running e') ∧ (∀ e', s.loc u ≠ .cb e') ∧ s.loc u ≠ .done ∧
    s'.loc u = .running e := by
  simp only [step, stepRun] at hs
  cases hl : s.loc u <;> simp only [hl] at hs <;> (repeat' (split at hs)) <;> (try cases hs) <;> simp_all [upd]

theorem step_free_loc (s s' : St) (u : UnitId) (hs : step s (.free u) = some s') :
    s.loc u = .done ∧ s'.loc u = .freed ∧ step s' (.free u) = none := by
  simp only [step, stepFree] at hs
  split at hs
  · rename_i h; cases hs; simp [h, step, stepFree, setLoc, upd]
  · cases hs

end ArgoVerif.Model.Sched
