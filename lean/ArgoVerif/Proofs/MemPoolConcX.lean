import ArgoVerif.Proofs.MemPoolConc
/-
Proofs.MemPoolConcX — the executable step of Model.MemPoolConc is sound for the relational one (`exec_sound`); the
combined invariant along runs of the machine (`run_star`).  Then the vocabulary of the partition statements, read off
the real state without the ghost labels: `Carved` (monotone along steps: `carved_mono`), the places of a header
`CPlace`/`CAt` and of a page `GPlace`/`PgAt`, and the partition theorems `cat_partition`, `pgat_partition`, both
instances of `partition_of_labels`.
-/
namespace ArgoVerif.Model.MemPoolConc
open ArgoVerif

theorem getLast_split {α : Type} (l : List α) (b : α) (h : l.getLast? = some b) : l = l.dropLast ++ [b] := by
  obtain ⟨ys, rfl⟩ := List.getLast?_eq_some_iff.mp h
  simp

theorem all_of_known {s : St} (h : DInv s) (h1 : s.known.all (fun a => decide (s.pc a = .idle)) = true)
    (h2 : s.known.all (fun a => decide (s.loc a = none)) = true) : (∀ a, s.pc a = .idle) ∧ (∀ a, s.loc a = none) := by
  simp only [List.all_eq_true, decide_eq_true_eq] at h1 h2
  constructor <;> intro a <;> by_cases hk : a ∈ s.known
  · exact h1 a hk
  · exact (h.known a hk).1
  · exact h2 a hk
  · exact (h.known a hk).2

/-- Every branch of `exec` is `none`, which `cases h` refutes, or `some` of the state a rule of `Step` leads to, which
`cases h` puts in the place of `s'`; the guards on the way are the premises of that rule. -/
theorem exec_sound (P : Params) (s : St) (e : Ev) (s' : St) (hd : DInv s) (h : exec P s e = some s') : Step P s e s' := by
  cases e <;> simp only [exec] at h
  case callInit a =>
    split at h <;> cases h
    next hc => exact .callInit hc.1 hc.2.1 hc.2.2
  case retInit a ok =>
    split at h
    · next b hpc =>
      split at h <;> cases h
      next hl => exact .retInitOk hpc hl
    · next hpc => cases h; exact .retInitFail hpc
    · cases h
  case callAlloc a =>
    split at h
    · next hc =>
      split at h
      · next f x x2 c hl => cases h; exact .callAllocPop hc.1 hc.2 hl
      · next f x hl =>
        split at h <;> cases h
        · next b hb => exact .callAllocPrev hc.1 hc.2 (by rw [hl, ← getLast_split f b hb])
        · next hb => exact .callAllocTake hc.1 hc.2 (by rw [hl, List.getLast?_eq_none_iff.mp hb])
      · cases h
    · cases h
  case retAlloc a r =>
    split at h
    · next b hpc =>
      split at h
      · next x hl =>
        split at h <;> cases h
        next hr => subst hr; exact .retAllocTake hpc hl
      · cases h
    · next hpc =>
      split at h <;> cases h
      next hr => subst hr; exact .retAllocFail hpc
    · next x hpc =>
      split at h <;> cases h
      next hr => subst hr; exact .retAllocDone hpc
    · cases h
  case popBucket a r =>
    split at h
    · next pu hpc =>
      split at h <;> split at h <;> cases h
      · next b rest hl hr => subst hr; exact .popBucketSome hpc hl
      · next hl hr => subst hr; exact .popBucketNone hpc hl
    · cases h
  case popPage a r =>
    split at h
    · next pu acc hpc =>
      split at h <;> split at h <;> cases h
      · next p rest hl hr => subst hr; exact .popPageSome hpc hl
      · next hl hr => subst hr; exact .popPageNone hpc hl
    · cases h
  case allocPage a ok =>
    split at h
    · next pu acc hpc =>
      split at h
      · next hok => cases h; subst hok; exact .allocOk hpc
      · next hok =>
        cases Bool.eq_false_iff.mpr hok
        split at h <;> cases h
        · exact .allocFailEmpty hpc
        · exact .allocFailPart hpc
    · cases h
  case pushPage a p =>
    split at h
    · next pu acc p' hpc =>
      split at h <;> cases h
      next hc => obtain ⟨rfl, h2, h3⟩ := hc; exact .carveLifo hpc h2 h3
    · cases h
  case pushEmpty a p =>
    split at h
    · next pu acc p' hpc =>
      split at h <;> cases h
      next hc => obtain ⟨rfl, h2, h3⟩ := hc; exact .carveEmpty hpc h2 h3
    · cases h
  case lockPart a =>
    split at h
    · next k b hpc =>
      split at h
      · next hl =>
        split at h
        · next hp => cases h; exact .lockPartEmpty hpc hl hp
        · next hp =>
          split at h <;> cases h
          · next hlt => exact .lockPartSmall hpc hl hp hlt
          · next hlt => exact .lockPartFull hpc hl hp hlt
      · cases h
    · cases h
  case unlockPart a =>
    split at h <;> cases h
    next k hpc => exact .unlockPart hpc
  case pushBucket a hd =>
    split at h
    · next k b hpc =>
      split at h <;> cases h
      next hr => subst hr; exact .pushBucketPart hpc
    · next b hpc =>
      split at h <;> cases h
      next hr => subst hr; exact .pushBucketFree hpc
    · next b f c hpc =>
      split at h <;> cases h
      next hr => subst hr; exact .pushBucketDestroy hpc
    · next c hpc =>
      split at h <;> cases h
      next hr => subst hr; exact .pushBucketLast hpc
    · cases h
  case callFree a x =>
    split at h
    · next hc =>
      split at h
      · next f c hl =>
        split at h
        · next hn => cases h; exact .callFreePush hc.1 hc.2.1 hc.2.2 hl hn
        · next hn =>
          have hn' : c.length = P.perBucket := Decidable.not_not.mp hn
          split at h
          · next hm => cases h; exact .callFreeNew hc.1 hc.2.1 hc.2.2 hl hn' hm
          · next hm =>
            split at h <;> cases h
            next b0 rest hb => exact .callFreeRet hc.1 hc.2.1 hc.2.2 hl hn' (Decidable.not_not.mp hm) hb
      · cases h
    · cases h
  case retFree a =>
    split at h <;> cases h
    next hpc => exact .retFree hpc
  case callDestroy a =>
    split at h
    · next hc =>
      split at h <;> cases h
      next f c hl => exact .callDestroy hc.1 hc.2 hl
    · cases h
  case retDestroy a =>
    split at h <;> cases h
    next hpc => exact .retDestroy hpc
  case destroyStart =>
    split at h <;> cases h
    next hc => exact .destroyStart hc.1 (all_of_known hd hc.2.1 hc.2.2).1 (all_of_known hd hc.2.1 hc.2.2).2
  case relLifo p =>
    split at h
    · next p' rest hph hl =>
      split at h <;> cases h
      next hr => subst hr; exact .relLifo hph hl
    · cases h
  case lifoEmpty =>
    split at h <;> cases h
    next hph hl => exact .lifoEmpty hph hl
  case relEmpty p =>
    split at h
    · next p' rest hph hl =>
      split at h <;> cases h
      next hr => subst hr; exact .relEmpty hph hl
    · cases h
  case destroyEnd =>
    split at h <;> cases h
    next hph hl => exact .destroyEnd hph hl

theorem run_star (P : Params) (hP : P.OK) : ∀ (tr : List Ev) (s s' : St), Inv P s →
    (machine P).run s tr = some s' → Star (Step P) s tr s' := by
  intro tr s s' hi h
  have hx := (machine P).run_star (fun s e s' => exec P s e = some s') (fun _ _ _ h => h) tr s s' h
  clear h
  induction hx with
  | refl => exact .refl _
  | cons h1 _ ih =>
    have hs := exec_sound P _ _ _ hi.d h1
    exact .cons hs (ih (inv_step P hP _ _ _ hi hs))

/-- a header counts as carved once its page's `p_mem_extra` has moved past it -/
def Carved (s : St) (h : Hdr) : Prop := h.1 < s.npages ∧ h.2 < s.used h.1

/-- pages are never given back before tear-down ends and `p_mem_extra` only moves forward -/
theorem carved_mono (P : Params) {s : St} {e : Ev} {s' : St} (hs : Step P s e s') (h : Hdr) (hc : Carved s h) :
    Carved s' h := by
  have mono : s.npages ≤ s'.npages → (∀ p, s.used p ≤ s'.used p ∨ s.npages ≤ p) → Carved s' h := fun hn hu =>
    ⟨Nat.lt_of_lt_of_le hc.1 hn, Nat.lt_of_lt_of_le hc.2 ((hu h.1).resolve_right (Nat.not_le.mpr hc.1))⟩
  cases hs with
  | allocOk => exact mono (Nat.le_succ _) fun p => by grind [upd]
  | carveLifo | carveEmpty => exact mono (Nat.le_refl _) fun p => by grind [upd]
  | _ => exact hc

theorem carved_mono_star (P : Params) {s : St} {tr : List Ev} {s' : St} (hs : Star (Step P) s tr s')
    (h : Hdr) (hc : Carved s h) : Carved s' h := by
  induction hs with
  | refl => exact hc
  | cons h1 _ ih => exact ih (carved_mono P h1 h hc)

inductive CPlace
  | lifo                  -- in a bucket on `bucket_lifo`
  | part                  -- in `partial_bucket`
  | loc (a : Actor)       -- in the local pool of actor `a`
  | held (a : Actor)      -- in flight inside a call of actor `a` (bucket being taken, carved, returned)
  | out                   -- handed out (a live descriptor / stack)
deriving DecidableEq

def CAt (s : St) : CPlace → Hdr → Prop
  | .lifo, h => ∃ b, b ∈ s.bucketLifo ∧ h ∈ b
  | .part, h => h ∈ s.part
  | .loc a, h => ∃ l, s.loc a = some l ∧ ((∃ b, b ∈ l.full ∧ h ∈ b) ∨ h ∈ l.cur)
  | .held a, h => h ∈ heldHdrs (s.pc a)
  | .out, h => h ∈ s.out

inductive GPlace
  | lifo | empty | held (a : Actor) | released
deriving DecidableEq

def PgAt (s : St) : GPlace → Nat → Prop
  | .lifo, p => p ∈ s.pageLifo
  | .empty, p => p ∈ s.emptyPages
  | .held a, p => heldPage (s.pc a) = some p
  | .released, p => p ∈ s.released

def CPlace.place : CPlace → Place
  | .lifo => .lifo | .part => .part | .loc a => .loc a | .held a => .held a | .out => .out

def GPlace.place : GPlace → PPlace
  | .lifo => .lifo | .empty => .empty | .held a => .held a | .released => .released

theorem cat_own {s : St} (hi : HInv s) (w : CPlace) (h : Hdr) : CAt s w h ↔ s.own h = w.place := by
  cases w with
  | lifo => simp only [CAt, CPlace.place, ← hi.lifo, List.mem_flatten]
  | part => exact hi.part h
  | loc a =>
    simp only [CAt, CPlace.place, ← hi.loc]
    cases s.loc a <;> simp [locHdrs, List.mem_flatten]
  | held a => exact hi.held a h
  | out => exact hi.out h

theorem pgat_pown {P : Params} {s : St} (hi : PInv P s) (w : GPlace) (p : Nat) : PgAt s w p ↔ s.pown p = w.place := by
  cases w with
  | lifo => exact hi.lifo p
  | empty => exact hi.empty p
  | held a => exact hi.held a p
  | released => exact hi.rel p

/-- A ghost map `own` labels every element with a place or with `u`; `place` names all labels but `u`, one to one; `At`
reads the places back from the real state.  Then the places partition the elements that `C` holds of. -/
theorem partition_of_labels {α L W : Type} {own : α → L} {u : L} {place : W → L} {At : W → α → Prop} {C : α → Prop}
    (hinj : ∀ w w', place w = place w' → w = w') (hsurj : ∀ v, v ≠ u → ∃ w, place w = v) (hu : ∀ w, place w ≠ u)
    (hat : ∀ w x, At w x ↔ own x = place w) (hc : ∀ x, own x = u ↔ ¬ C x) :
    (∀ x, C x ↔ ∃ w, At w x) ∧ ∀ x w w', At w x → At w' x → w = w' := by
  refine ⟨fun x => ⟨fun hx => ?_, fun ⟨w, hw⟩ => ?_⟩, fun x w w' h1 h2 => hinj w w' (((hat w x).mp h1).symm.trans ((hat w' x).mp h2))⟩
  · obtain ⟨w, hw⟩ := hsurj (own x) fun e => (hc x).mp e hx
    exact ⟨w, (hat w x).mpr hw.symm⟩
  · exact Classical.byContradiction fun hn => hu w (((hat w x).mp hw).symm.trans ((hc x).mpr hn))

theorem cat_partition {s : St} (hi : HInv s) :
    (∀ h, Carved s h ↔ ∃ w, CAt s w h) ∧ ∀ h w w', CAt s w h → CAt s w' h → w = w' := by
  refine partition_of_labels (place := CPlace.place) (u := .uncarved) (fun w w' e => ?_) (fun v hv => ?_) (fun w => ?_)
    (cat_own hi) hi.unc
  · cases w <;> cases w' <;> simp_all [CPlace.place]
  · cases v with
    | uncarved => exact absurd rfl hv
    | lifo => exact ⟨.lifo, rfl⟩
    | part => exact ⟨.part, rfl⟩
    | loc a => exact ⟨.loc a, rfl⟩
    | held a => exact ⟨.held a, rfl⟩
    | out => exact ⟨.out, rfl⟩
  · cases w <;> simp [CPlace.place]

theorem pgat_partition {P : Params} {s : St} (hi : PInv P s) :
    (∀ p, p < s.npages ↔ ∃ w, PgAt s w p) ∧ ∀ p w w', PgAt s w p → PgAt s w' p → w = w' := by
  refine partition_of_labels (place := GPlace.place) (u := .unalloc) (fun w w' e => ?_) (fun v hv => ?_) (fun w => ?_)
    (pgat_pown hi) fun p => (hi.unalloc p).trans Nat.not_lt.symm
  · cases w <;> cases w' <;> simp_all [GPlace.place]
  · cases v with
    | unalloc => exact absurd rfl hv
    | lifo => exact ⟨.lifo, rfl⟩
    | empty => exact ⟨.empty, rfl⟩
    | held a => exact ⟨.held a, rfl⟩
    | released => exact ⟨.released, rfl⟩
  · cases w <;> simp [GPlace.place]

end ArgoVerif.Model.MemPoolConc
