import ArgoVerif.Model.MemPoolConc
/-
Proofs.MemPoolConc — the invariants of Model.MemPoolConc and their preservation by every transition:
`HInv` (every header is at exactly one place: the ghost map `own` agrees with the real lists), `PInv` (the same for
pages and `pown`, with the room each page has left), `DInv` (tear-down and lock discipline), `SInv` (bucket sizes),
and their conjunction `Inv`.
-/
namespace ArgoVerif.Model.MemPoolConc
open ArgoVerif

variable {P : Params} {s s' : St}

def locHdrs : Option LPool → List Hdr
  | none => []
  | some l => l.full.flatten ++ l.cur

theorem mem_carved (p u np : Nat) (x : Hdr) : x ∈ carved p u np ↔ x.1 = p ∧ u ≤ x.2 ∧ x.2 < u + np := by
  induction np with
  | zero => simp [carved]
  | succ n ih =>
    simp only [carved, List.mem_cons, ih]
    obtain ⟨a, b⟩ := x
    simp only [Prod.mk.injEq]
    omega

theorem carved_length (p u np : Nat) : (carved p u np).length = np := by
  induction np with
  | zero => rfl
  | succ n ih => simp [carved, ih]

theorem carved_nodup (p u np : Nat) : (carved p u np).Nodup := by
  induction np with
  | zero => simp [carved]
  | succ n ih =>
    simp only [carved, List.nodup_cons, ih, and_true, mem_carved]
    omega

theorem setOwn_apply (own : Hdr → Place) (B : List Hdr) (w : Place) (x : Hdr) :
    setOwn own B w x = if x ∈ B then w else own x := rfl

theorem upd_apply {α β : Type} [DecidableEq α] (f : α → β) (a : α) (v : β) (x : α) :
    upd f a v x = if x = a then v else f x := rfl

/-- a reading `g` of the entries that does not tell the new entry from the old one does not see the update -/
theorem apply_upd_eq {α β γ : Type} [DecidableEq α] (g : β → γ) (f : α → β) {a : α} {v : β} (h : g v = g (f a))
    (x : α) : g (upd f a v x) = g (f x) := by
  rw [upd_apply]; split
  · next e => rw [h, e]
  · rfl

theorem forall_upd {α β : Type} [DecidableEq α] {p : β → Prop} {f : α → β} (h : ∀ x, p (f x)) {a : α} {v : β}
    (hv : p v) (x : α) : p (upd f a v x) := by
  rw [upd_apply]; split
  · exact hv
  · exact h x

theorem perm_snoc {α : Type} (l₁ l₂ : List α) (a : α) : (l₁ ++ (l₂ ++ [a])).Perm (a :: (l₁ ++ l₂)) := by
  rw [← List.append_assoc]; exact List.perm_append_singleton _ _

/-! ### moving elements from one place to another

A ghost map `f` says at which place every element (a header, a page) is, and every place has the list of the elements
that are there.  A step takes the elements `B` from place `u` to place `w` and relabels them: `f'`. -/
section
variable {α β : Type} {f f' : α → β} {B xs xs' : List α} {u v w : β}

/-- what happens to the list at place `v` when the elements `B` go from place `u` to place `w` -/
def Moved (B : List α) (u w v : β) (xs xs' : List α) : Prop :=
  (v = w → xs'.Perm (B ++ xs)) ∧ (v = u → xs.Perm (B ++ xs')) ∧ (v ≠ w → v ≠ u → xs' = xs)

theorem Moved.source (hm : ∀ x, x ∈ xs ↔ f x = u) (hn : xs.Nodup) (m : Moved B u w u xs xs') :
    (∀ x, x ∈ B → f x = u) ∧ B.Nodup :=
  have mu := m.2.1 rfl
  ⟨fun x hx => (hm x).mp (mu.mem_iff.mpr (List.mem_append_left _ hx)), (List.nodup_append.mp (mu.nodup_iff.mp hn)).1⟩

theorem Moved.agrees (hw : ∀ x, x ∈ B → f' x = w) (ho : ∀ x, x ∉ B → f' x = f x) (hB : (∀ x, x ∈ B → f x = u) ∧ B.Nodup)
    (huw : u ≠ w) (hm : ∀ x, x ∈ xs ↔ f x = v) (hn : xs.Nodup) (m : Moved B u w v xs xs') :
    (∀ x, x ∈ xs' ↔ f' x = v) ∧ xs'.Nodup := by
  have nd : ∀ {ys zs : List α}, ys.Perm (B ++ zs) → (ys.Nodup ↔ zs.Nodup ∧ ∀ x, x ∈ B → x ∉ zs) := fun hp => by
    rw [hp.nodup_iff, List.nodup_append]; grind
  have mem : ∀ {ys zs : List α}, ys.Perm (B ++ zs) → ∀ x, x ∈ ys ↔ x ∈ B ∨ x ∈ zs := fun hp x =>
    hp.mem_iff.trans List.mem_append
  by_cases hvw : v = w
  · have mp := m.1 hvw
    refine ⟨fun x => ?_, (nd mp).mpr ⟨hn, fun y hy hz => huw ((hB.1 y hy).symm.trans (((hm y).mp hz).trans hvw))⟩⟩
    rw [mem mp, hm]
    by_cases hx : x ∈ B
    · simp [hx, hw x hx, hvw]
    · simp [hx, ho x hx]
  · by_cases hvu : v = u
    · have mp := m.2.1 hvu
      have hn' := (nd mp).mp hn
      refine ⟨fun x => ?_, hn'.1⟩
      by_cases hx : x ∈ B
      · simp [hw x hx, hn'.2 x hx, Ne.symm hvw]
      · rw [ho x hx, ← hm, mem mp]; simp [hx]
    · rw [m.2.2 hvw hvu]
      refine ⟨fun x => ?_, hn⟩
      rw [hm]
      by_cases hx : x ∈ B
      · simp [hw x hx, hB.1 x hx, Ne.symm hvw, Ne.symm hvu]
      · rw [ho x hx]
end

theorem setOwn_eq (own : Hdr → Place) (B : List Hdr) (w w' : Place) (x : Hdr) :
    setOwn own B w x = w' ↔ (x ∈ B ∧ w = w') ∨ (x ∉ B ∧ own x = w') := by
  simp only [setOwn]; split <;> simp_all

theorem hh_idle  : heldHdrs .idle = [] := rfl
theorem hh_take (pu : Purpose) : heldHdrs (.take pu) = [] := rfl
theorem hh_carving (pu : Purpose) (acc : Bucket) : heldHdrs (.carving pu acc) = acc := rfl
theorem hh_needPage (pu : Purpose) (acc : Bucket) : heldHdrs (.needPage pu acc) = acc := rfl
theorem hh_havePage (pu : Purpose) (acc : Bucket) (p : Nat) : heldHdrs (.havePage pu acc p) = acc := rfl
theorem hh_got (pu : Purpose) (b : Bucket) : heldHdrs (.got pu b) = b := rfl
theorem hh_takeFailed (pu : Purpose) : heldHdrs (.takeFailed pu) = [] := rfl
theorem hh_retPart (k : Cont) (b : Bucket) : heldHdrs (.retPart k b) = b := rfl
theorem hh_partPush (k : Cont) (b : Bucket) : heldHdrs (.partPush k b) = b := rfl
theorem hh_partUnlock (k : Cont) : heldHdrs (.partUnlock k) = [] := rfl
theorem hh_freeRet (b : Bucket) : heldHdrs (.freeRet b) = b := rfl
theorem hh_destroying (f : List Bucket) (c : Bucket) : heldHdrs (.destroying f c) = f.flatten ++ c := rfl
theorem hh_doneAlloc (h : Hdr) : heldHdrs (.doneAlloc h) = [] := rfl
theorem hh_doneFree  : heldHdrs .doneFree = [] := rfl
theorem hh_doneDestroy  : heldHdrs .doneDestroy = [] := rfl
theorem lh_none : locHdrs none = [] := rfl
theorem lh_some (f : List Bucket) (c : Bucket) : locHdrs (some ⟨f, c⟩) = f.flatten ++ c := rfl

attribute [simp] hh_idle hh_take hh_carving hh_needPage hh_havePage hh_got hh_takeFailed hh_retPart hh_partPush
  hh_partUnlock hh_freeRet hh_destroying hh_doneAlloc hh_doneFree hh_doneDestroy lh_none lh_some

/-- normal form of an instantiated invariant clause -/
macro "knorm" "at" h:ident : tactic => `(tactic| try simp only [hh_idle, hh_take, hh_carving, hh_needPage, hh_havePage, hh_got, hh_takeFailed, hh_retPart, hh_partPush, hh_partUnlock, hh_freeRet, hh_destroying, hh_doneAlloc, hh_doneFree, hh_doneDestroy, lh_none, lh_some, List.flatten_append, List.flatten_cons,
  List.flatten_nil, List.append_nil, List.nil_append, List.mem_append, List.mem_cons, List.nodup_append, List.nodup_cons,
  List.not_mem_nil, List.nodup_nil, false_iff, iff_false, false_or, or_false, reduceCtorEq, false_implies, implies_true, and_true,
  true_and, not_false_eq_true, ne_eq, List.mem_singleton, forall_eq'] at $h:ident)

@[simp] theorem heldHdrs_dnext (P : Params) (f : List Bucket) (c : Bucket) :
    heldHdrs (dnext P f c) = f.flatten ++ c := by
  simp only [dnext]; split
  · next h => simp [heldHdrs, h.1]
  · simp [heldHdrs]

@[simp] theorem heldPage_dnext (P : Params) (f : List Bucket) (c : Bucket) : heldPage (dnext P f c) = none := by
  simp only [dnext]; split <;> simp [heldPage]

@[simp] theorem heldHdrs_afterCarve (P : Params) (pu : Purpose) (acc : Bucket) :
    heldHdrs (afterCarve P pu acc) = acc := by
  simp only [afterCarve]; split <;> simp [heldHdrs]

@[simp] theorem heldPage_afterCarve (P : Params) (pu : Purpose) (acc : Bucket) : heldPage (afterCarve P pu acc) = none := by
  simp only [afterCarve]; split <;> simp [heldPage]

@[simp] theorem heldHdrs_contPc (k : Cont) : heldHdrs (contPc k) = [] := by cases k <;> simp [contPc, heldHdrs]
@[simp] theorem heldPage_contPc (k : Cont) : heldPage (contPc k) = none := by cases k <;> simp [contPc, heldPage]

structure HInv (s : St) : Prop where
  lifo : ∀ h, h ∈ s.bucketLifo.flatten ↔ s.own h = .lifo
  lifoNd : s.bucketLifo.flatten.Nodup
  part : ∀ h, h ∈ s.part ↔ s.own h = .part
  partNd : s.part.Nodup
  loc : ∀ a h, h ∈ locHdrs (s.loc a) ↔ s.own h = .loc a
  locNd : ∀ a, (locHdrs (s.loc a)).Nodup
  held : ∀ a h, h ∈ heldHdrs (s.pc a) ↔ s.own h = .held a
  heldNd : ∀ a, (heldHdrs (s.pc a)).Nodup
  out : ∀ h, h ∈ s.out ↔ s.own h = .out
  outNd : s.out.Nodup
  unc : ∀ h, s.own h = .uncarved ↔ ¬ (h.1 < s.npages ∧ h.2 < s.used h.1)

theorem hinv_init : HInv init := by
  constructor <;> simp [init, locHdrs, heldHdrs]

theorem HInv.frame (h : HInv s) (e1 : s'.bucketLifo = s.bucketLifo) (e2 : s'.part = s.part)
    (e3 : s'.loc = s.loc) (e4 : ∀ a, heldHdrs (s'.pc a) = heldHdrs (s.pc a)) (e5 : s'.out = s.out)
    (e6 : s'.own = s.own)
    (e7 : ∀ x : Hdr, (x.1 < s'.npages ∧ x.2 < s'.used x.1) ↔ (x.1 < s.npages ∧ x.2 < s.used x.1)) : HInv s' := by
  cases h; constructor <;> simp only [e1, e2, e3, e4, e5, e6, e7] <;> assumption

/-! ### moving headers from one place to another

Every step of actor `a` that touches headers takes a list `B` of them out of one list (`bucket_lifo`,
`partial_bucket`, `a`'s local pool, the headers in flight in `a`'s call, the blocks handed out, or the slots of a page
not carved yet), puts them into another one, and relabels them in `own`. -/

/-- the headers at a place (`uncarved` is not a list: `npages` and `used` describe it) -/
def hdrsAt (s : St) : Place → List Hdr
  | .lifo => s.bucketLifo.flatten | .part => s.part | .loc a => locHdrs (s.loc a) | .held a => heldHdrs (s.pc a)
  | .out => s.out | .uncarved => []

theorem HInv.at (h : HInv s) :
    ∀ v, v ≠ .uncarved → (∀ x, x ∈ hdrsAt s v ↔ s.own x = v) ∧ (hdrsAt s v).Nodup
  | .lifo, _ => ⟨h.lifo, h.lifoNd⟩ | .part, _ => ⟨h.part, h.partNd⟩ | .loc a, _ => ⟨h.loc a, h.locNd a⟩
  | .held a, _ => ⟨h.held a, h.heldNd a⟩ | .out, _ => ⟨h.out, h.outNd⟩ | .uncarved, hv => absurd rfl hv

/-- keeps the clauses of `HInv` about the lists; the clause about `uncarved` is the caller's -/
theorem HInv.relabel (h : HInv s) (B : List Hdr) (u w : Place) (hown : s'.own = setOwn s.own B w)
    (hB : (∀ x, x ∈ B → s.own x = u) ∧ B.Nodup) (huw : u ≠ w)
    (m : ∀ v, v ≠ .uncarved → Moved B u w v (hdrsAt s v) (hdrsAt s' v))
    (hunc : ∀ x, s'.own x = .uncarved ↔ ¬ (x.1 < s'.npages ∧ x.2 < s'.used x.1)) : HInv s' :=
  have key := fun v hv => Moved.agrees (f' := s'.own) (fun _ hx => hown ▸ if_pos hx) (fun _ hx => hown ▸ if_neg hx) hB huw
    (h.at v hv).1 (h.at v hv).2 (m v hv)
  ⟨(key .lifo nofun).1, (key .lifo nofun).2, (key .part nofun).1, (key .part nofun).2, fun a => (key (.loc a) nofun).1,
    fun a => (key (.loc a) nofun).2, fun a => (key (.held a) nofun).1, fun a => (key (.held a) nofun).2,
    (key .out nofun).1, (key .out nofun).2, hunc⟩

/-- the same when the source is a list, which says that `B` was at `u` and has no duplicates -/
theorem HInv.move (h : HInv s) (B : List Hdr) (u w : Place) (hown : s'.own = setOwn s.own B w)
    (hnp : s'.npages = s.npages) (hused : s'.used = s.used)
    (m : ∀ v, v ≠ .uncarved → Moved B u w v (hdrsAt s v) (hdrsAt s' v))
    (hu : u ≠ .uncarved := by simp) (hw : w ≠ .uncarved := by simp) (huw : u ≠ w := by simp) : HInv s' := by
  have hB := Moved.source (h.at u hu).1 (h.at u hu).2 (m u hu)
  refine h.relabel B u w hown hB huw m fun x => ?_
  have := hB.1 x
  rw [hnp, hused, ← h.unc x, hown, setOwn_eq]; grind

/-- carving: the `np` slots of page `p` after `used p` leave `uncarved` and join the headers in flight in `a`'s call -/
theorem HInv.carve (h : HInv s) {a : Actor} {p : Nat} (hp : p < s.npages) (np : Nat)
    (enp : s'.npages = s.npages) (eu : s'.used = upd s.used p (s.used p + np))
    (eo : s'.own = setOwn s.own (carved p (s.used p) np) (.held a))
    (m : ∀ v, v ≠ .uncarved → Moved (carved p (s.used p) np) .uncarved (.held a) v (hdrsAt s v) (hdrsAt s' v)) :
    HInv s' := by
  refine h.relabel _ .uncarved (.held a) eo ⟨fun x hx => ?_, carved_nodup _ _ _⟩ nofun m fun x => ?_
  · obtain ⟨rfl, h1, _⟩ := (mem_carved ..).mp hx
    rw [h.unc]; omega
  · rw [eo, setOwn_eq, mem_carved, enp, eu, upd_apply, h.unc]
    by_cases e : x.1 = p
    · subst e; simp only [true_and, if_true, reduceCtorEq, and_false, false_or]; omega
    · simp [e]

theorem hinv_step (P : Params) (s : St) (e : Ev) (s' : St) (h : HInv s)
    (hpg : ∀ a p, heldPage (s.pc a) = some p → p < s.npages) (hs : Step P s e s') : HInv s' := by
  cases hs with
  | @retInitOk a b p1 p2 =>
    exact h.move b (.held a) (.loc a) rfl rfl rfl fun v _ => by cases v <;> simp +contextual [Moved, hdrsAt, p1, p2]
  | @callAllocPop a _ x _ _ p1 p2 p3 | @callAllocPrev a _ _ x p1 p2 p3 =>
    have hh := apply_upd_eq heldHdrs s.pc (a := a) (v := .doneAlloc x) (by simp [p2])
    exact h.move [x] (.loc a) .out rfl rfl rfl fun v _ => by
      cases v <;> simp +contextual [Moved, hdrsAt, p3, perm_snoc, hh]
  | @popBucketSome a pu b rest p1 p2 =>
    exact h.move b .lifo (.held a) rfl rfl rfl fun v _ => by cases v <;> simp +contextual [Moved, hdrsAt, p1, p2]
  | @lockPartEmpty a _ b p1 _ p3 | @lockPartSmall a _ b p1 _ p3 =>
    exact h.move b (.held a) .part rfl rfl rfl fun v _ => by
      cases v <;> simp +contextual [Moved, hdrsAt, p1, p3, List.perm_append_comm]
  | @lockPartFull a k b p1 p2 p3 p4 =>
    exact h.move (s.part.take (P.perBucket - b.length)) .part (.held a) rfl rfl rfl fun v _ => by
      cases v <;> simp +contextual [Moved, hdrsAt, p1]
  | @pushBucketPart a _ b p1 | @pushBucketFree a b p1 | @pushBucketDestroy a b _ _ p1 | @pushBucketLast a b p1 =>
    exact h.move b (.held a) .lifo rfl rfl rfl fun v _ => by cases v <;> simp +contextual [Moved, hdrsAt, p1]
  | @callFreePush a x _ _ p1 p2 p3 p4 | @callFreeNew a x _ _ p1 p2 p3 p4 =>
    have hh := apply_upd_eq heldHdrs s.pc (a := a) (v := .doneFree) (by simp [p2])
    exact h.move [x] .out (.loc a) rfl rfl rfl fun v _ => by
      cases v <;> simp +contextual [Moved, hdrsAt, p4, perm_snoc, List.perm_cons_erase p3, hh]
  | @callDestroy a f c p1 p2 p3 =>
    exact h.move (f.flatten ++ c) (.loc a) (.held a) rfl rfl rfl fun v _ => by
      cases v <;> simp +contextual [Moved, hdrsAt, p2, p3]
  | @retAllocTake a b x p1 p2 =>
    have h1 : HInv { s with loc := upd s.loc a (some ⟨[b], [x]⟩), own := setOwn s.own b (.loc a), pc := upd s.pc a .idle } :=
      h.move b (.held a) (.loc a) rfl rfl rfl fun v _ => by cases v <;> simp +contextual [Moved, hdrsAt, p1, p2]
    exact h1.move [x] (.loc a) .out rfl rfl rfl fun v _ => by cases v <;> simp +contextual [Moved, hdrsAt]
  | @callFreeRet a x f c b0 rest p1 p2 p3 p4 p5 p6 p7 =>
    have kk := congrArg List.flatten p7; knorm at kk
    have h1 : HInv { s with loc := upd s.loc a (some ⟨rest, []⟩), own := setOwn s.own b0 (.held a),
                            pc := upd s.pc a (.freeRet b0) } :=
      h.move b0 (.loc a) (.held a) rfl rfl rfl fun v _ => by cases v <;> simp +contextual [Moved, hdrsAt, p2, p4, kk]
    exact h1.move [x] .out (.loc a) rfl rfl rfl fun v _ => by
      cases v <;> simp +contextual [Moved, hdrsAt, List.perm_cons_erase p3]
  | @carveLifo a pu acc p p1 | @carveEmpty a pu acc p p1 =>
    exact h.carve (hpg a p (by rw [p1]; rfl)) _ rfl rfl rfl fun v hv => by
      cases v <;> simp +contextual [Moved, hdrsAt, p1] at hv ⊢
  | allocOk p1 =>
    refine h.frame rfl rfl rfl (apply_upd_eq heldHdrs _ (by rw [p1]; rfl)) rfl rfl fun x => ?_
    simp only [upd_apply]; split <;> omega
  | destroyStart | relLifo | lifoEmpty | relEmpty | destroyEnd =>
    exact h.frame rfl rfl rfl (fun _ => rfl) rfl rfl fun _ => Iff.rfl
  | _ => exact h.frame rfl rfl rfl (apply_upd_eq heldHdrs _ (by simp [*])) rfl rfl fun _ => Iff.rfl

/-! ### pages -/

theorem hp_idle : heldPage .idle = none := rfl
theorem hp_take (pu : Purpose) : heldPage (.take pu) = none := rfl
theorem hp_carving (pu : Purpose) (acc : Bucket) : heldPage (.carving pu acc) = none := rfl
theorem hp_needPage (pu : Purpose) (acc : Bucket) : heldPage (.needPage pu acc) = none := rfl
theorem hp_havePage (pu : Purpose) (acc : Bucket) (p : Nat) : heldPage (.havePage pu acc p) = some p := rfl
theorem hp_got (pu : Purpose) (b : Bucket) : heldPage (.got pu b) = none := rfl
theorem hp_takeFailed (pu : Purpose) : heldPage (.takeFailed pu) = none := rfl
theorem hp_retPart (k : Cont) (b : Bucket) : heldPage (.retPart k b) = none := rfl
theorem hp_partPush (k : Cont) (b : Bucket) : heldPage (.partPush k b) = none := rfl
theorem hp_partUnlock (k : Cont) : heldPage (.partUnlock k) = none := rfl
theorem hp_freeRet (b : Bucket) : heldPage (.freeRet b) = none := rfl
theorem hp_destroying (f : List Bucket) (c : Bucket) : heldPage (.destroying f c) = none := rfl
theorem hp_doneAlloc (h : Hdr) : heldPage (.doneAlloc h) = none := rfl
theorem hp_doneFree : heldPage .doneFree = none := rfl
theorem hp_doneDestroy : heldPage .doneDestroy = none := rfl

attribute [simp] hp_idle hp_take hp_carving hp_needPage hp_havePage hp_got hp_takeFailed hp_retPart hp_partPush
  hp_partUnlock hp_freeRet hp_destroying hp_doneAlloc hp_doneFree hp_doneDestroy

structure PInv (P : Params) (s : St) : Prop where
  lifo : ∀ p, p ∈ s.pageLifo ↔ s.pown p = .lifo
  lifoNd : s.pageLifo.Nodup
  empty : ∀ p, p ∈ s.emptyPages ↔ s.pown p = .empty
  emptyNd : s.emptyPages.Nodup
  held : ∀ a p, heldPage (s.pc a) = some p ↔ s.pown p = .held a
  rel : ∀ p, p ∈ s.released ↔ s.pown p = .released
  relNd : s.released.Nodup
  unalloc : ∀ p, s.pown p = .unalloc ↔ s.npages ≤ p
  lifoRoom : ∀ p, s.pown p = .lifo → s.used p < P.slots
  emptyFull : ∀ p, s.pown p = .empty → s.used p = P.slots
  heldRoom : ∀ a p, s.pown p = .held a → s.used p < P.slots
  usedLe : ∀ p, s.used p ≤ P.slots

theorem pinv_init (P : Params) : PInv P init := by
  constructor <;> simp [init, heldPage]

theorem PInv.frame (h : PInv P s) (e1 : s'.pageLifo = s.pageLifo)
    (e2 : s'.emptyPages = s.emptyPages) (e3 : s'.released = s.released) (e4 : s'.npages = s.npages)
    (e5 : s'.used = s.used) (e6 : s'.pown = s.pown) (e7 : ∀ a, heldPage (s'.pc a) = heldPage (s.pc a)) : PInv P s' := by
  cases h; constructor <;> simp only [e1, e2, e3, e4, e5, e6, e7] <;> assumption

/-! ### moving a page from one place to another

Every step that touches a page takes it from the head of one list (`mem_page_lifo`, the empty pages, the page in the
hand of an actor, or the pages not yet allocated) and puts it at the head of another one, and relabels it in `pown`. -/

/-- the pages at a place (`unalloc` is not a list: `npages` describes it) -/
def pagesAt (s : St) : PPlace → List Nat
  | .lifo => s.pageLifo | .empty => s.emptyPages | .released => s.released
  | .held a => (heldPage (s.pc a)).toList | .unalloc => []

/-- what `PInv` says about the number `n` of carved slots of a page at place `v` -/
def Room (P : Params) : PPlace → Nat → Prop
  | .lifo, n | .held _, n => n < P.slots
  | .empty, n => n = P.slots
  | _, n => n ≤ P.slots

theorem Room.le {P : Params} {v : PPlace} {n : Nat} (r : Room P v n) : n ≤ P.slots := by
  cases v <;> simp only [Room] at r <;> omega

theorem PInv.room (h : PInv P s) (q : Nat) : Room P (s.pown q) (s.used q) := by
  cases e : s.pown q with
  | lifo => exact h.lifoRoom q e
  | empty => exact h.emptyFull q e
  | held a => exact h.heldRoom a q e
  | _ => exact h.usedLe q

theorem nodup_toList {α : Type} (o : Option α) : o.toList.Nodup := by cases o <;> simp

theorem PInv.at (h : PInv P s) :
    ∀ v, v ≠ .unalloc → (∀ q, q ∈ pagesAt s v ↔ s.pown q = v) ∧ (pagesAt s v).Nodup
  | .lifo, _ => ⟨h.lifo, h.lifoNd⟩ | .empty, _ => ⟨h.empty, h.emptyNd⟩ | .released, _ => ⟨h.rel, h.relNd⟩
  | .held a, _ => ⟨fun q => Option.mem_toList.trans (h.held a q), nodup_toList _⟩
  | .unalloc, hv => absurd rfl hv

theorem PInv.move (h : PInv P s) (p : Nat) (u w : PPlace)
    (hpown : s'.pown = upd s.pown p w)
    (hnp : if u = .unalloc then p = s.npages ∧ s'.npages = p + 1 else s'.npages = s.npages)
    (m : ∀ v, v ≠ .unalloc → Moved [p] u w v (pagesAt s v) (pagesAt s' v))
    (hused : ∀ q, q ≠ p → s'.used q = s.used q) (hroom : Room P u (s.used p) → Room P w (s'.used p))
    (huw : u ≠ w := by simp) (hw : w ≠ .unalloc := by simp) : PInv P s' := by
  have hp : s.pown p = u := by
    by_cases hu : u = .unalloc
    · rw [if_pos hu] at hnp; rw [hu, h.unalloc, hnp.1]; exact Nat.le_refl _
    · exact (Moved.source (h.at u hu).1 (h.at u hu).2 (m u hu)).1 p List.mem_cons_self
  have key := fun v hv => Moved.agrees (f' := s'.pown) (B := [p]) (fun q hq => by rw [hpown, List.mem_singleton.mp hq, upd_same])
    (fun q hq => by rw [hpown, upd_other _ _ _ _ (mt List.mem_singleton.mpr hq)]) (by simpa using hp) huw
    (h.at v hv).1 (h.at v hv).2 (m v hv)
  have room : ∀ q, Room P (s'.pown q) (s'.used q) := fun q => by
    rw [hpown, upd_apply]; split
    · next e => subst e; exact hroom (hp ▸ h.room q)
    · next e => rw [hused q e]; exact h.room q
  refine ⟨(key .lifo (by simp)).1, (key .lifo (by simp)).2, (key .empty (by simp)).1, (key .empty (by simp)).2,
    fun a q => Option.mem_toList.symm.trans ((key (.held a) (by simp)).1 q), (key .released (by simp)).1,
    (key .released (by simp)).2, fun q => ?_, fun q e => (e ▸ room q : Room P .lifo _), fun q e => (e ▸ room q : Room P .empty _),
    fun a q e => (e ▸ room q : Room P (.held a) _), fun q => (room q).le⟩
  have hq := h.unalloc q
  have hp' := h.unalloc p
  rw [hp] at hp'
  rw [hpown, upd_apply]
  split at hnp <;> split <;> simp_all <;> omega

theorem pinv_step (P : Params) (hP : P.OK) (s : St) (e : Ev) (s' : St) (h : PInv P s) (hs : Step P s e s') : PInv P s' := by
  cases hs with
  | @popPageSome a pu acc p rest p1 p2 =>
    exact h.move p .lifo (.held a) rfl rfl (fun v _ => by cases v <;> simp +contextual [Moved, pagesAt, p1, p2]) (fun _ _ => rfl) id
  | @relLifo p rest p1 p2 =>
    exact h.move p .lifo .released rfl rfl (fun v _ => by cases v <;> simp +contextual [Moved, pagesAt, p2]) (fun _ _ => rfl) Nat.le_of_lt
  | @relEmpty p rest p1 p2 =>
    exact h.move p .empty .released rfl rfl (fun v _ => by cases v <;> simp +contextual [Moved, pagesAt, p2]) (fun _ _ => rfl) Nat.le_of_eq
  | @allocOk a pu acc p1 =>
    exact h.move s.npages .unalloc (.held a) rfl ⟨rfl, rfl⟩ (fun v hv => by cases v <;> simp +contextual [Moved, pagesAt, p1] at hv ⊢)
      (fun _ => upd_other _ _ _ _) fun _ => by simpa [Room] using hP.slots_pos
  | @carveLifo a pu acc p p1 p2 p3 =>
    exact h.move p (.held a) .lifo rfl rfl (fun v _ => by cases v <;> simp +contextual [Moved, pagesAt, p1])
      (fun _ => upd_other _ _ _ _) fun _ => by simpa [Room] using p3
  | @carveEmpty a pu acc p p1 p2 p3 =>
    exact h.move p (.held a) .empty rfl rfl (fun v _ => by cases v <;> simp +contextual [Moved, pagesAt, p1])
      (fun _ => upd_other _ _ _ _) fun r => by simp only [Room, upd_same, numProvided] at r p3 ⊢; omega
  | destroyStart | lifoEmpty | destroyEnd => exact h.frame rfl rfl rfl rfl rfl rfl fun _ => rfl
  | _ => exact h.frame rfl rfl rfl rfl rfl rfl (apply_upd_eq heldPage _ (by simp [*]))

/-! ### tear-down and the lock of `partial_bucket` -/

theorem cs_idle : inCS .idle = false := rfl
theorem cs_take (pu : Purpose) : inCS (.take pu) = false := rfl
theorem cs_carving (pu : Purpose) (acc : Bucket) : inCS (.carving pu acc) = false := rfl
theorem cs_needPage (pu : Purpose) (acc : Bucket) : inCS (.needPage pu acc) = false := rfl
theorem cs_havePage (pu : Purpose) (acc : Bucket) (p : Nat) : inCS (.havePage pu acc p) = false := rfl
theorem cs_got (pu : Purpose) (b : Bucket) : inCS (.got pu b) = false := rfl
theorem cs_takeFailed (pu : Purpose) : inCS (.takeFailed pu) = false := rfl
theorem cs_retPart (k : Cont) (b : Bucket) : inCS (.retPart k b) = false := rfl
theorem cs_partPush (k : Cont) (b : Bucket) : inCS (.partPush k b) = true := rfl
theorem cs_partUnlock (k : Cont) : inCS (.partUnlock k) = true := rfl
theorem cs_freeRet (b : Bucket) : inCS (.freeRet b) = false := rfl
theorem cs_destroying (f : List Bucket) (c : Bucket) : inCS (.destroying f c) = false := rfl
theorem cs_doneAlloc (h : Hdr) : inCS (.doneAlloc h) = false := rfl
theorem cs_doneFree : inCS .doneFree = false := rfl
theorem cs_doneDestroy : inCS .doneDestroy = false := rfl
theorem cs_dnext (P : Params) (f : List Bucket) (c : Bucket) : inCS (dnext P f c) = false := by
  simp only [dnext]; split <;> rfl
theorem cs_afterCarve (P : Params) (pu : Purpose) (acc : Bucket) : inCS (afterCarve P pu acc) = false := by
  simp only [afterCarve]; split <;> rfl
theorem cs_contPc (k : Cont) : inCS (contPc k) = false := by cases k <;> rfl

attribute [simp] cs_idle cs_take cs_carving cs_needPage cs_havePage cs_got cs_takeFailed cs_retPart cs_partPush
  cs_partUnlock cs_freeRet cs_destroying cs_doneAlloc cs_doneFree cs_doneDestroy cs_dnext cs_afterCarve cs_contPc

structure DInv (s : St) : Prop where
  idle : s.phase ≠ .live → ∀ a, s.pc a = .idle
  noLoc : s.phase ≠ .live → ∀ a, s.loc a = none
  walkLifo : s.phase = .walk ∨ s.phase = .dead → s.pageLifo = []
  deadEmpty : s.phase = .dead → s.emptyPages = []
  relLive : s.phase = .live → s.released = []
  known : ∀ a, a ∉ s.known → s.pc a = .idle ∧ s.loc a = none
  lock : ∀ a, inCS (s.pc a) = true ↔ s.partLock = some a

theorem dinv_init : DInv init := by
  constructor <;> simp [init, inCS]

theorem mem_addKnown {l : List Actor} {a a' : Actor} : a' ∈ addKnown l a ↔ a' = a ∨ a' ∈ l := by
  unfold addKnown; split <;> grind

theorem DInv.busy (h : DInv s) {a : Actor} {pc : Pc} (e : s.pc a = pc) (hp : pc ≠ .idle) :
    s.phase = .live ∧ a ∈ s.known :=
  ⟨Classical.byContradiction fun hn => hp (e ▸ h.idle hn a), Classical.byContradiction fun hn => hp (e ▸ (h.known a hn).1)⟩

/-- a step of actor `a` while the pool is live: `a` joins the known actors, only its own `pc` and local pool change,
and the lock changes hands exactly when `a` enters or leaves the critical section -/
theorem DInv.actor (h : DInv s) (a : Actor) {v : Pc} (hl : s.phase = .live) (e1 : s'.phase = s.phase)
    (e2 : s'.released = s.released) (hk : s'.known = addKnown s.known a)
    (hloc : ∀ a', a' ≠ a → s'.loc a' = s.loc a') (hpc : s'.pc = upd s.pc a v)
    (hlock : match inCS (s.pc a), inCS v with
      | false, true => s.partLock = none ∧ s'.partLock = some a
      | true, false => s'.partLock = none
      | _, _ => s'.partLock = s.partLock) : DInv s' := by
  have hl' : s'.phase = .live := e1.trans hl
  refine ⟨fun hn => absurd hl' hn, fun hn => absurd hl' hn, by simp [hl'], by simp [hl'], fun _ => e2 ▸ h.relLive hl,
    fun a' ha' => ?_, fun a' => ?_⟩
  · rw [hk, mem_addKnown, not_or] at ha'
    rw [hloc a' ha'.1, hpc, upd_other _ _ _ _ ha'.1]
    exact h.known a' ha'.2
  · have ha := h.lock a
    have ha' := h.lock a'
    rw [hpc, upd_apply]
    split <;> split at hlock <;> grind

theorem dinv_step (P : Params) (s : St) (e : Ev) (s' : St) (h : DInv s) (hs : Step P s e s') : DInv s' := by
  cases hs with
  | callInit p1 p2 | callAllocPop p1 p2 | callAllocPrev p1 p2 | callAllocTake p1 p2 | callFreePush p1 p2
  | callFreeNew p1 p2 | callFreeRet p1 p2 | callDestroy p1 p2 =>
    exact h.actor _ p1 rfl rfl rfl (fun _ ha => by simp [ha]) rfl (by simp [p2])
  | lockPartEmpty p1 p2 | lockPartSmall p1 p2 | lockPartFull p1 p2 =>
    have hb := h.busy p1 (by simp)
    -- `a` is known already: `addKnown s.known a` is `s.known` (`if_pos`)
    exact h.actor _ hb.1 rfl rfl (if_pos hb.2).symm (fun _ _ => rfl) rfl (by simp [p1, p2])
  | destroyStart p1 p2 p3 => exact ⟨fun _ => p2, fun _ => p3, by simp, by simp, by simp, fun a _ => ⟨p2 a, p3 a⟩, h.lock⟩
  | relLifo p1 p2 | lifoEmpty p1 p2 | relEmpty p1 p2 | destroyEnd p1 p2 =>
    -- the actors stay idle; the new phase asks for `p2`, or for what the old one had (`walkLifo`), or for nothing
    refine ⟨fun _ => h.idle ?_, fun _ => h.noLoc ?_, ?_, ?_, ?_, h.known, h.lock⟩ <;> simp [p1, p2, h.walkLifo]
  | unlockPart p1 | retInitOk p1 | retInitFail p1 | retAllocTake p1 | retAllocFail p1 | retAllocDone p1 | popBucketSome p1
  | popBucketNone p1 | popPageSome p1 | popPageNone p1 | allocOk p1 | allocFailEmpty p1 | allocFailPart p1
  | carveLifo p1 | carveEmpty p1 | pushBucketPart p1 | pushBucketFree p1 | retFree p1 | pushBucketDestroy p1
  | pushBucketLast p1 | retDestroy p1 =>
    have hb := h.busy p1 (by simp)
    exact h.actor _ hb.1 rfl rfl (if_pos hb.2).symm (fun _ ha => by simp [ha]) rfl (by simp [p1])

/-! ### sizes -/

/-- what the size invariant says about the headers an actor holds -/
def pcSizes (P : Params) : Pc → Prop
  | .idle => True
  | .take _ => True
  | .carving _ acc => acc.length < P.perBucket
  | .needPage _ acc => acc.length < P.perBucket
  | .havePage _ acc _ => acc.length < P.perBucket
  | .got _ b => b.length = P.perBucket
  | .takeFailed _ => True
  | .retPart _ b => 0 < b.length ∧ b.length < P.perBucket
  | .partPush _ b => b.length = P.perBucket
  | .partUnlock _ => True
  | .freeRet b => b.length = P.perBucket
  | .destroying f c => (∀ b, b ∈ f → b.length = P.perBucket) ∧ 0 < c.length ∧ c.length ≤ P.perBucket ∧
      (f = [] → c.length = P.perBucket)
  | .doneAlloc _ => True
  | .doneFree => True
  | .doneDestroy => True

def lpSizes (P : Params) : Option LPool → Prop
  | none => True
  | some l => (∀ b, b ∈ l.full → b.length = P.perBucket) ∧ 0 < l.cur.length ∧ l.cur.length ≤ P.perBucket ∧
      l.full.length < P.maxLocal

/-- the size invariant: buckets on the LIFO and below `bucket_index` are full, the current bucket holds 1 ..
per_bucket headers, the partial bucket fewer than per_bucket, the carving loop has fewer than per_bucket -/
structure SInv (P : Params) (s : St) : Prop where
  lifo : ∀ b, b ∈ s.bucketLifo → b.length = P.perBucket
  part : s.part.length < P.perBucket
  loc : ∀ a, lpSizes P (s.loc a)
  pc : ∀ a, pcSizes P (s.pc a)

theorem sinv_init (P : Params) (hP : P.OK) : SInv P init := by
  have := hP.perBucket_pos
  constructor <;> simp [init, lpSizes, pcSizes, *]

theorem pcSizes_dnext (P : Params) (f : List Bucket) (c : Bucket) :
    pcSizes P (dnext P f c) ↔ (∀ b, b ∈ f → b.length = P.perBucket) ∧ 0 < c.length ∧ c.length ≤ P.perBucket := by
  simp only [dnext]; split
  · next h => simp only [pcSizes, h.1, List.not_mem_nil, false_implies, implies_true, true_and]; omega
  · next h => simp only [pcSizes]; grind

theorem pcSizes_afterCarve (P : Params) (pu : Purpose) (acc : Bucket) :
    pcSizes P (afterCarve P pu acc) ↔ acc.length ≤ P.perBucket := by
  simp only [afterCarve]; split <;> simp only [pcSizes] <;> omega

theorem pcSizes_contPc (P : Params) (k : Cont) : pcSizes P (contPc k) := by cases k <;> trivial

theorem SInv.pcAt (h : SInv P s) {a : Actor} {pc : Pc} (e : s.pc a = pc) : pcSizes P pc := e ▸ h.pc a
theorem SInv.locAt (h : SInv P s) {a : Actor} {l : Option LPool} (e : s.loc a = l) : lpSizes P l :=
  e ▸ h.loc a

theorem sinv_step (P : Params) (hP : P.OK) (s : St) (e : Ev) (s' : St) (h : SInv P s) (hs : Step P s e s') : SInv P s' := by
  have hb := hP.perBucket_pos
  have hm := hP.maxLocal_pos
  cases hs with
  | callInit | retInitFail | callAllocTake | retAllocFail | retAllocDone | allocFailEmpty | retFree | retDestroy =>
    exact ⟨h.lifo, h.part, h.loc, forall_upd h.pc trivial⟩
  | destroyStart | relLifo | lifoEmpty | relEmpty | destroyEnd => exact ⟨h.lifo, h.part, h.loc, h.pc⟩
  | popPageSome p1 | popPageNone p1 | allocOk p1 =>
    have kq := h.pcAt p1
    exact ⟨h.lifo, h.part, h.loc, forall_upd h.pc kq⟩
  | @unlockPart a k p1 => exact ⟨h.lifo, h.part, h.loc, forall_upd h.pc (pcSizes_contPc P k)⟩
  | popBucketNone => exact ⟨h.lifo, h.part, h.loc, forall_upd h.pc hb⟩
  | allocFailPart p1 => exact ⟨h.lifo, h.part, h.loc, forall_upd h.pc ⟨Nat.succ_pos _, h.pcAt p1⟩⟩
  | @popBucketSome a pu b rest p1 p2 =>
    have kf := h.lifo; rw [p2, List.forall_mem_cons] at kf
    exact ⟨kf.2, h.part, h.loc, forall_upd h.pc kf.1⟩
  | @retInitOk a b p1 | @retAllocTake a b _ p1 =>
    have kq : b.length = P.perBucket := h.pcAt p1
    exact ⟨h.lifo, h.part, forall_upd h.loc (by simp [lpSizes]; omega), forall_upd h.pc trivial⟩
  | callAllocPop _ _ p4 | callAllocPrev _ _ p4 | callFreePush _ _ _ p4 | callFreeNew _ _ _ p4 =>
    have kl := h.locAt p4
    exact ⟨h.lifo, h.part, forall_upd h.loc (by simp [lpSizes] at kl ⊢; grind), forall_upd h.pc trivial⟩
  | @carveLifo a pu acc p p1 | @carveEmpty a pu acc p p1 =>
    have kq : acc.length < P.perBucket := h.pcAt p1
    exact ⟨h.lifo, h.part, h.loc, forall_upd h.pc ((pcSizes_afterCarve ..).mpr (by
      simp only [List.length_append, carved_length, numProvided]; omega))⟩
  | @lockPartEmpty a k b p1 p2 p3 =>
    exact ⟨h.lifo, And.right (h.pcAt p1), h.loc, forall_upd h.pc trivial⟩
  | @lockPartSmall a k b p1 p2 p3 p4 =>
    exact ⟨h.lifo, by simpa using p4, h.loc, forall_upd h.pc trivial⟩
  | @lockPartFull a k b p1 p2 p3 p4 =>
    have kq : 0 < b.length ∧ b.length < P.perBucket := h.pcAt p1
    have kp := h.part
    exact ⟨h.lifo, by simp only [List.length_drop]; omega, h.loc,
      forall_upd h.pc (by simp only [pcSizes, List.length_append, List.length_take]; omega)⟩
  | pushBucketPart p1 | pushBucketFree p1 =>
    exact ⟨List.forall_mem_cons.mpr ⟨h.pcAt p1, h.lifo⟩, h.part, h.loc, forall_upd h.pc trivial⟩
  | @pushBucketDestroy a b f c p1 =>
    have kq := h.pcAt p1; simp only [pcSizes, List.forall_mem_cons] at kq
    exact ⟨List.forall_mem_cons.mpr ⟨kq.1.1, h.lifo⟩, h.part, h.loc,
      forall_upd h.pc ((pcSizes_dnext ..).mpr ⟨kq.1.2, kq.2.1, kq.2.2.1⟩)⟩
  | @pushBucketLast a c p1 =>
    have kq := h.pcAt p1; simp only [pcSizes] at kq
    exact ⟨List.forall_mem_cons.mpr ⟨kq.2.2.2 trivial, h.lifo⟩, h.part, h.loc, forall_upd h.pc trivial⟩
  | @callDestroy a f c p1 p2 p3 =>
    have kl := h.locAt p3; simp only [lpSizes] at kl
    exact ⟨h.lifo, h.part, forall_upd h.loc trivial, forall_upd h.pc ((pcSizes_dnext ..).mpr ⟨kl.1, kl.2.1, kl.2.2.1⟩)⟩
  | @callFreeRet a x f c b0 rest p1 p2 p3 p4 p5 p6 p7 =>
    have kl := h.locAt p4; simp only [lpSizes] at kl
    have all : ∀ b, b ∈ f ++ [c] → b.length = P.perBucket := by simpa [or_imp, forall_and] using ⟨kl.1, p5⟩
    rw [p7, List.forall_mem_cons] at all
    have len : rest.length = f.length := by simpa using (congrArg List.length p7).symm
    exact ⟨h.lifo, h.part, forall_upd h.loc ⟨all.2, Nat.one_pos, hb, len ▸ kl.2.2.2⟩, forall_upd h.pc all.1⟩

structure Inv (P : Params) (s : St) : Prop where
  h : HInv s
  p : PInv P s
  d : DInv s
  z : SInv P s

theorem heldPage_lt (hp : PInv P s) : ∀ a p, heldPage (s.pc a) = some p → p < s.npages := by
  intro a p hh
  have h2 := hp.unalloc p
  rw [(hp.held a p).mp hh] at h2
  simpa using h2

theorem inv_init (P : Params) (hP : P.OK) : Inv P init := ⟨hinv_init, pinv_init P, dinv_init, sinv_init P hP⟩

theorem inv_step (P : Params) (hP : P.OK) (s : St) (e : Ev) (s' : St) (h : Inv P s) (hs : Step P s e s') : Inv P s' :=
  ⟨hinv_step P s e s' h.h (heldPage_lt h.p) hs, pinv_step P hP s e s' h.p hs, dinv_step P s e s' h.d hs,
   sinv_step P hP s e s' h.z hs⟩

theorem inv_star (P : Params) (hP : P.OK) {tr : List Ev} {s' : St} (h : Star (Step P) s tr s')
    (hi : Inv P s) : Inv P s' :=
  Star.invariant (Inv P) (inv_step P hP) h hi

end ArgoVerif.Model.MemPoolConc
