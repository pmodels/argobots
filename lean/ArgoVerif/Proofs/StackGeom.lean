import ArgoVerif.Model.StackGeom
/-
Proofs.StackGeom — arithmetic facts about `ABTU_roundup_size` and the initial stack pointer of Model.StackGeom.
-/
namespace ArgoVerif.Model.StackGeom
open ArgoVerif.Gen

theorem CL_eq : CL = 64 := rfl
theorem YT_eq : YT = 128 := rfl
theorem DESC_eq : DESC = 128 := rfl

/-- `roundup(v, 64)`: the least multiple of 64 that is `≥ v` -/
theorem roundup64 (v : Int) : v ≤ roundup v CL ∧ roundup v CL < v + 64 ∧ roundup v CL % 64 = 0 := by
  simp only [roundup, CL_eq]; omega

theorem roundup64_of_mult (v : Int) (h : v % 64 = 0) : roundup v CL = v := by
  simp only [roundup, CL_eq]; omega

theorem roundup64_fix_iff (v : Int) : roundup v CL = v ↔ v % 64 = 0 := by
  simp only [roundup, CL_eq]; constructor <;> intro h <;> omega

/-- rounding up to 64 clears the remainder of `v + 63`: `v + 63 - (v + 63) % 64`, the number the C code's
`(v + 63) & ~63` denotes -/
theorem roundup64_mask (v : Int) : roundup v CL = (v + 63) - (v + 63) % 64 := by
  simp only [roundup, CL_eq]
  have : v + 64 - 1 = v + 63 := by omega
  rw [this]; omega

/-- an element of the stack pool has room for the stack and the descriptor above it, and is a multiple of the cache line -/
theorem stackPoolHeaderSize_spec (S : Int) : S + YT ≤ stackPoolHeaderSize S ∧ stackPoolHeaderSize S % 64 = 0 := by
  have r := roundup64 (S + YT)
  simp only [stackPoolHeaderSize, CL_eq] at r ⊢
  omega

theorem usableTop_spec (top : Int) : usableTop top ≤ top ∧ top - usableTop top ≤ 15 ∧ usableTop top % 16 = 0 := by
  simp only [usableTop]; omega

theorem initialRsp_spec (top : Int) :
    initialRsp top = usableTop top - 8 ∧ initialRsp top + 8 ≤ top ∧ top - 23 ≤ initialRsp top ∧
    (initialRsp top + 8) % 16 = 0 := by
  refine ⟨rfl, ?_, ?_, ?_⟩ <;> (simp only [initialRsp]; omega)

end ArgoVerif.Model.StackGeom
