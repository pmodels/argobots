import ArgoVerif.Model.Eventual
/-
Proofs.Eventual — inductive invariant of the eventual model (one lemma per step function).

As in Proofs.Future, `Inv` is split into the clauses without program counter (`Global`) and what is said of one actor
at its program counter (`Local`); `inv_move` reduces a step of actor `a` to `Global` and `Local` of `a` in the new
state and a frame fact for the other actors, and `inv_setPc`, `inv_lock`, `inv_leave` settle the steps that write
only the program counter, the lock word and the caller's own ghost fields.
-/
namespace ArgoVerif.Model.Eventual
open ArgoVerif

/-- program counters at which the actor holds `p_eventual->lock` -/
def HoldsLock : Pc → Prop
  | .setOkCS | .setErrCS | .waitCS | .waitEnq | .reW | .reR | .passCS | .testCS0 | .testCS1 | .resetCS
  | .freeCS | .freed => True
  | .idle | .rejected | .bigRej | .setCalled | .setOkDone | .setErrDone | .waitCalled | .waiting | .woken
  | .waitDone | .testCalled | .testDone0 | .testDone1 | .resetCalled | .resetDone | .freeCalled => False

def InQ : Pc → Prop
  | .waitEnq | .waiting | .reW => True
  | .idle | .rejected | .bigRej | .setCalled | .setOkCS | .setErrCS | .setOkDone | .setErrDone | .waitCalled
  | .waitCS | .woken | .reR | .passCS | .waitDone | .testCalled | .testCS0 | .testCS1 | .testDone0
  | .testDone1 | .resetCalled | .resetCS | .resetDone
  | .freeCalled | .freeCS | .freed => False

/-- a waiter that has been let through (found the eventual ready, or was woken) -/
def Through : Pc → Prop
  | .woken | .reR | .passCS | .waitDone => True
  | .idle | .rejected | .bigRej | .setCalled | .setOkCS | .setErrCS | .setOkDone | .setErrDone | .waitCalled
  | .waitCS | .waitEnq | .waiting | .reW | .testCalled | .testCS0 | .testCS1 | .testDone0 | .testDone1
  | .resetCalled | .resetCS | .resetDone
  | .freeCalled | .freeCS | .freed => False

/-- program counters inside ABT_eventual_wait past the tasklet check -/
def InWait : Pc → Prop
  | .waitCalled | .waitCS | .waitEnq | .waiting | .reW | .woken | .reR | .passCS | .waitDone => True
  | .idle | .rejected | .bigRej | .setCalled | .setOkCS | .setErrCS | .setOkDone | .setErrDone | .testCalled
  | .testCS0 | .testCS1 | .testDone0 | .testDone1 | .resetCalled | .resetCS | .resetDone
  | .freeCalled | .freeCS | .freed => False

/-- callers whose observation under the lock was "ready" -/
def SawReady : Pc → Prop
  | .setErrCS | .setErrDone | .woken | .reR | .passCS | .waitDone | .testCS1 | .testDone1 => True
  | .idle | .rejected | .bigRej | .setCalled | .setOkCS | .setOkDone | .waitCalled | .waitCS | .waitEnq
  | .waiting | .reW | .testCalled | .testCS0 | .testDone0 | .resetCalled | .resetCS | .resetDone
  | .freeCalled | .freeCS | .freed => False

structure Inv (s : St) : Prop where
  lockIff : ∀ a, s.lock = some a ↔ HoldsLock (s.pc a)
  nodup : s.q.Nodup
  inQ : ∀ a, a ∈ s.q ↔ InQ (s.pc a)
  noLost : s.q ≠ [] → s.ready = true → (s.lock ≠ none ∧ ∀ b, s.lock = some b → s.pc b = .setOkCS)
  taskPc : ∀ a, s.kind a = .task → ¬ InWait (s.pc a)
  ultPc : ∀ a, s.kind a = .ult → (s.pc a ≠ .reW ∧ s.pc a ≠ .reR)
  setsLe : s.sets s.epoch ≤ 1
  readyIff : s.ready = true ↔ s.sets s.epoch = 1
  setsFut : ∀ k, s.epoch < k → s.sets k = 0
  valOK : s.ready = true → s.nbytes ≠ 0 → s.value = s.setVal s.epoch
  sawOK : ∀ a, SawReady (s.pc a) → (s.sets (s.relEpoch a) = 1 ∧ s.relEpoch a ≤ s.epoch)
  okCS : ∀ a, s.pc a = .setOkCS → s.ready = true
  csNotReady : ∀ a, s.pc a = .waitCS → s.ready = false

attribute [local simp] HoldsLock InQ InWait SawReady

theorem inQ_inWait (p : Pc) (h : InQ p) : InWait p := by cases p <;> simp_all

theorem holdsLock_of_cs_pc (p : Pc) (h : p = .setOkCS ∨ p = .waitCS) : HoldsLock p := by
  rcases h with rfl | rfl <;> trivial

theorem inv_init (k : Actor → Kind) (n : Nat) (v : Val) : Inv (init k n v) := by
  constructor <;> simp [init]

theorem Inv.holder_unique {s : St} (hi : Inv s) {a b : Actor} (ha : HoldsLock (s.pc a)) (hb : HoldsLock (s.pc b)) : a = b :=
  Option.some.inj (((hi.lockIff a).mpr ha).symm.trans ((hi.lockIff b).mpr hb))

def Global (s : St) : Prop :=
  s.q.Nodup ∧ (s.q ≠ [] → s.ready = true → s.lock ≠ none) ∧ s.sets s.epoch ≤ 1 ∧
  (s.ready = true ↔ s.sets s.epoch = 1) ∧ (∀ k, s.epoch < k → s.sets k = 0) ∧
  (s.ready = true → s.nbytes ≠ 0 → s.value = s.setVal s.epoch)

def Local (s : St) (a : Actor) (p : Pc) : Prop :=
  (s.lock = some a ↔ HoldsLock p) ∧ (a ∈ s.q ↔ InQ p) ∧ (s.kind a = .task → ¬ InWait p) ∧
  (s.kind a = .ult → p ≠ .reW ∧ p ≠ .reR) ∧ (SawReady p → s.sets (s.relEpoch a) = 1 ∧ s.relEpoch a ≤ s.epoch) ∧
  (s.lock = some a →
    (s.q ≠ [] → s.ready = true → p = .setOkCS) ∧ (p = .setOkCS → s.ready = true) ∧ (p = .waitCS → s.ready = false))

/-- for `h : Global s ∧ ∀ a, Local s a (s.pc a)` -/
macro "inv_tac" h:ident : tactic => `(tactic|
  (have := ($h).1; have := ($h).2; simp only [setPc]
   grind [upd, Global, Local, HoldsLock, InQ, InWait, SawReady]))

macro "close_tac" h:ident hs:ident : tactic => `(tactic|
  first
  | (cases $hs:ident; done)
  | (cases $hs:ident; constructor <;> inv_tac $h))

theorem inv_iff (s : St) : Inv s ↔ Global s ∧ ∀ a, Local s a (s.pc a) := by
  constructor
  · intro h
    cases h
    exact ⟨by grind [Global], fun a => by grind [Local]⟩
  · intro ⟨g, l⟩
    have := holdsLock_of_cs_pc
    obtain ⟨_, _, _, _, _, _⟩ := g
    constructor <;> first | assumption | grind [Local]

theorem inv_move {s s' : St} {a : Actor} {p : Pc} (h : Inv s) (hpc : s'.pc = upd s.pc a p)
    (hs : Global s → Local s a (s.pc a) →
      Global s' ∧ Local s' a p ∧ ∀ b, b ≠ a → Local s b (s.pc b) → Local s' b (s.pc b)) : Inv s' :=
  inv_of_move inv_iff h hpc hs

theorem inv_setPc {s : St} {a : Actor} {p : Pc} (v : Actor → Val) (h : Inv s)
    (hl : Global s → Local s a (s.pc a) → Local s a p) : Inv (setPc { s with arg := v } a p) :=
  inv_move h rfl fun g l => ⟨g, hl g l, fun _ _ lb => lb⟩

theorem inv_lock {s : St} {a : Actor} {p : Pc} (r : Actor → Nat) (h : Inv s) (hf : s.lock = none)
    (hr : ∀ b, b ≠ a → r b = s.relEpoch b)
    (hl : Global s → Local s a (s.pc a) → Local { s with lock := some a, relEpoch := r } a p) :
    Inv (setPc { s with lock := some a, relEpoch := r } a p) :=
  inv_move h rfl fun g l =>
    ⟨by simp only [Global, setPc] at g ⊢; grind, hl g l,
      fun b hb lb => by have := hr b hb; simp only [Local, setPc] at lb ⊢; grind⟩

/-- apart from the lock, `Local` says nothing at `p` that it does not say at `p₀` -/
def Weaker (p₀ p : Pc) : Prop :=
  (InQ p₀ ↔ InQ p) ∧ (InWait p → InWait p₀) ∧ (SawReady p → SawReady p₀) ∧ p ≠ .reW ∧ p ≠ .reR

/-- a move that leaves the lock word alone, and inside the critical section is not one of which `Local` asks more -/
def Goto (p₀ p : Pc) : Prop :=
  (HoldsLock p₀ ↔ HoldsLock p) ∧ Weaker p₀ p ∧ (HoldsLock p → p₀ ≠ .setOkCS ∧ p ≠ .setOkCS ∧ p ≠ .waitCS)

def Leave (p₀ p : Pc) : Prop := HoldsLock p₀ ∧ ¬ HoldsLock p ∧ Weaker p₀ p

theorem inv_goto {s : St} {a : Actor} {p₀ p : Pc} (v : Actor → Val) (h : Inv s) (hp : s.pc a = p₀) (hc : Goto p₀ p) :
    Inv (setPc { s with arg := v } a p) :=
  inv_setPc v h fun _ l => by
    rw [hp] at l
    grind [Local, Goto, Weaker]

/-- `hq`: after a broadcast the list is empty, so that no waiter is left behind a ready eventual -/
theorem inv_leave {s : St} {a : Actor} {p₀ p : Pc} (h : Inv s) (hp : s.pc a = p₀) (hc : Leave p₀ p)
    (hq : p₀ = .setOkCS → s.q = []) : Inv (unlockAs s a p) :=
  inv_move h rfl fun g l => by
    rw [hp] at l
    have l' := l
    simp only [Local] at l'
    refine ⟨?_, ?_, fun b hb lb => ?_⟩
    · simp only [Global, unlockAs, setPc] at g ⊢; grind [Leave]
    · simp only [Local, unlockAs, setPc]; grind [Leave, Weaker]
    · simp only [Local, unlockAs, setPc] at lb ⊢; grind [Leave]

theorem inv_stepCall (s s' : St) (a : Actor) (op : Op) (v : Val) (h : Inv s) (hs : stepCall s a op v = some s') : Inv s' := by
  unfold stepCall at hs
  split at hs
  · cases hs
  · rename_i h0
    have h0 : s.pc a = .idle := by simpa using h0
    cases op with
    | wait =>
      cases hs
      split
      · exact inv_goto _ h h0 (by simp [Goto, Weaker])
      · -- `taskPc`: the caller is no tasklet
        refine inv_setPc _ h fun g l => ?_
        simpa [*, Local] using l
    | _ =>
      cases hs
      exact inv_goto _ h h0 (by simp [Goto, Weaker])

theorem inv_stepRet (s s' : St) (a : Actor) (op : Op) (rc : Rc) (r : Bool) (v : Val) (h : Inv s)
    (hs : stepRet s a op rc r v = some s') : Inv s' := by
  unfold stepRet at hs
  split at hs <;> (try split at hs) <;> cases hs <;> exact inv_goto _ h ‹_› (by simp [Goto, Weaker])

theorem inv_stepEnq (s s' : St) (a : Actor) (h : Inv s) (hs : stepEnq s a = some s') : Inv s' := by
  rw [inv_iff] at h ⊢
  unfold stepEnq at hs
  split at hs <;> close_tac h hs

theorem wake_cases (s s' : St) (a n : Actor) (hs : stepWake s a n = some s') :
    s.pc a = .setOkCS ∧ ∃ t, s.q = n :: t ∧ s' = setPc { s with q := t, relEpoch := upd s.relEpoch n s.epoch } n .woken := by
  unfold stepWake at hs
  split at hs
  · rename_i hd tl hpc hq
    split at hs
    · rename_i hn; subst hn; cases hs; exact ⟨hpc, tl, hq, rfl⟩
    · cases hs
  · cases hs

/-- the step moves the woken waiter `n`, not the broadcasting setter `a`, which is one of the other actors -/
theorem inv_stepWake (s s' : St) (a n : Actor) (h : Inv s) (hs : stepWake s a n = some s') : Inv s' := by
  obtain ⟨hpc, t, hq, rfl⟩ := wake_cases s s' a n hs
  have la := ((inv_iff s).mp h).2 a
  simp [hpc, Local] at la
  refine inv_move h rfl fun g l => ?_
  have hw := inQ_inWait (s.pc n)
  simp only [Global] at g
  refine ⟨?_, ?_, fun b hb lb => ?_⟩
  · simp only [Global, setPc]; grind
  · simp only [Local, setPc] at l ⊢; simp; grind [upd]
  · simp only [Local, setPc] at lb ⊢; grind [upd]

theorem acq_f_free (s s' : St) (a : Actor) (hs : stepAcq s a false = some s') : s.lock = none := by
  unfold stepAcq at hs
  split at hs
  · cases hs
  · cases hl : s.lock <;> simp_all

theorem acq_f_cases (s s' : St) (a : Actor) (hs : stepAcq s a false = some s') :
    (s.pc a = .setCalled ∧ s.ready = true ∧ s' = lockAs s a .setErrCS) ∨
    (s.pc a = .setCalled ∧ s.ready = false ∧ s' = doSet s a) ∨
    (s.pc a = .waitCalled ∧ s.ready = true ∧ s' = lockAs s a .passCS) ∨
    (s.pc a = .waitCalled ∧ s.ready = false ∧ s' = setPc { s with lock := some a } a .waitCS) ∨
    (s.pc a = .testCalled ∧ s.ready = true ∧ s' = lockAs s a .testCS1) ∨
    (s.pc a = .testCalled ∧ s.ready = false ∧ s' = lockAs s a .testCS0) ∨
    (s.pc a = .resetCalled ∧ s' = setPc { s with lock := some a, ready := false, epoch := s.epoch + 1 } a .resetCS) ∨
    (s.pc a = .freeCalled ∧ s.q = [] ∧ s' = setPc { s with lock := some a } a .freeCS) ∨
    (s.pc a = .waiting ∧ s.kind a ≠ .ult ∧ s' = setPc { s with lock := some a } a .reW) ∨
    (s.pc a = .woken ∧ s.kind a ≠ .ult ∧ s' = setPc { s with lock := some a } a .reR) := by
  unfold stepAcq at hs
  simp only [Bool.false_eq_true, if_false] at hs
  split at hs
  · cases hs
  · cases hr : s.ready <;> (split at hs) <;> simp_all

/-- the winning set -/
theorem inv_doSet (s : St) (a : Actor) (h : Inv s) (hl : s.lock = none) (hp : s.pc a = .setCalled)
    (hr : s.ready = false) : Inv (doSet s a) := by
  refine inv_move h rfl fun g l => ?_
  simp only [Global] at g
  simp [hp, Local] at l
  refine ⟨?_, ?_, fun b hb lb => ?_⟩
  · simp only [Global, doSet, setPc]; grind [upd]
  · simp [Local, doSet, setPc]; grind [upd]
  · simp only [Local, doSet, setPc] at lb ⊢; grind [upd]

theorem inv_reset (s : St) (a : Actor) (h : Inv s) (hl : s.lock = none) (hp : s.pc a = .resetCalled) :
    Inv (setPc { s with lock := some a, ready := false, epoch := s.epoch + 1 } a .resetCS) := by
  refine inv_move h rfl fun g l => ?_
  simp only [Global] at g
  simp [hp, Local] at l
  refine ⟨?_, ?_, fun b hb lb => ?_⟩
  · simp only [Global, setPc]; grind
  · simp [Local, setPc]; grind
  · simp only [Local, setPc] at lb ⊢; grind

theorem inv_stepAcq (s s' : St) (a : Actor) (old : Bool) (h : Inv s) (hs : stepAcq s a old = some s') : Inv s' := by
  cases old
  · have hl := acq_f_free s s' a hs
    rcases acq_f_cases s s' a hs with ⟨hp, hr, rfl⟩ | ⟨hp, hr, rfl⟩ | ⟨hp, hr, rfl⟩ | ⟨hp, hr, rfl⟩ | ⟨hp, hr, rfl⟩ |
      ⟨hp, hr, rfl⟩ | ⟨hp, rfl⟩ | ⟨hp, hq0, rfl⟩ | ⟨hp, hk, rfl⟩ | ⟨hp, hk, rfl⟩
    case inr.inl => exact inv_doSet s a h hl hp hr
    case inr.inr.inr.inr.inr.inr.inl => exact inv_reset s a h hl hp
    all_goals
      clear hs
      refine inv_lock _ h hl (fun b hb => by simp [upd, hb]) fun g l => ?_
      simp only [Global] at g
      simp [*, Local] at l ⊢ <;> grind
  · unfold stepAcq at hs
    simp only [if_true] at hs
    (repeat' (split at hs)) <;> first | (cases hs; done) | (cases hs; exact h)

theorem chk_some (s s' : St) (r e : Bool) (hs : chk s r e = some s') : s' = s ∧ r = s.ready ∧ e = s.q.isEmpty := by
  unfold chk at hs
  split at hs
  · cases hs; simp_all
  · cases hs

theorem inv_stepRel (s s' : St) (a : Actor) (r e : Bool) (h : Inv s) (hs : stepRel s a r e = some s') : Inv s' := by
  unfold stepRel at hs
  split at hs <;> (try split at hs) <;>
    first
    | (cases hs; done)
    | (obtain ⟨rfl, -⟩ := chk_some _ _ _ _ hs
       exact inv_leave h ‹_› (by simp [Leave, Weaker]) (by simp [*]))

/-! what a return step tells about the returning actor -/
theorem ret_wait_ok (s s' : St) (a : Actor) (r : Bool) (v : Val) (hs : stepRet s a .wait .ok r v = some s') :
    (s.pc a = .woken ∨ s.pc a = .waitDone) ∧ v = s.value := by
  unfold stepRet at hs
  split at hs <;> simp_all

theorem ret_test_true (s s' : St) (a : Actor) (v : Val) (hs : stepRet s a .test .ok true v = some s') :
    s.pc a = .testDone1 ∧ v = s.value := by
  unfold stepRet at hs
  split at hs <;> simp_all

theorem ret_set (s s' : St) (a : Actor) (rc : Rc) (r : Bool) (v : Val) (hs : stepRet s a .set rc r v = some s') :
    ((s.pc a = .setOkDone ∧ rc = .ok) ∨ (s.pc a = .setErrDone ∧ rc = .errEventual)) ∧ v = s.value ∧
    s' = setPc s a .idle := by
  unfold stepRet at hs
  split at hs <;> simp_all

end ArgoVerif.Model.Eventual
