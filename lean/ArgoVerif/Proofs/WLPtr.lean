import ArgoVerif.Model.WLPtr
/- Proofs.WLPtr — every operation of the pointer-level wait-list preserves the representation. -/
namespace ArgoVerif.Model.WLPtr
open ArgoVerif ArgoVerif.Heap

/-! ### `lastD` -/

@[simp] theorem lastD_nil (p : Nat) : lastD p [] = p := rfl
@[simp] theorem lastD_cons (p x : Nat) (xs : List Nat) : lastD p (x :: xs) = lastD x xs := rfl

theorem lastD_append (p : Nat) (as bs : List Nat) : lastD p (as ++ bs) = lastD (lastD p as) bs := by
  induction as generalizing p with
  | nil => rfl
  | cons a as ih => simp [ih]

@[simp] theorem lastD_snoc (p l : Nat) (xs : List Nat) : lastD p (xs ++ [l]) = l := by
  simp [lastD_append]

theorem lastD_of_ne_nil {xs : List Nat} (h : xs ≠ []) (p q : Nat) : lastD p xs = lastD q xs := by
  cases xs with
  | nil => exact absurd rfl h
  | cons x r => rfl

theorem lastD_mem (p : Nat) (xs : List Nat) : lastD p xs = p ∧ xs = [] ∨ lastD p xs ∈ xs := by
  induction xs generalizing p with
  | nil => simp
  | cons x r ih => rcases ih x with ⟨h1, h2⟩ | h <;> simp [*]

theorem lastD_eq_getLast? (p : Nat) (xs : List Nat) : lastD p xs = xs.getLast?.getD p := by
  induction xs generalizing p with
  | nil => rfl
  | cons x r ih => simp [ih, List.getLast?_cons]

/-! ### `Chain` -/

theorem chain_congr {prev prev' : Nat → Nat} {timed timed' : Nat → Bool} {p : Nat} {xs : List Nat}
    (h : ∀ x ∈ xs, prev' x = prev x ∧ timed' x = timed x) :
    Chain prev' timed' p xs ↔ Chain prev timed p xs := by
  induction xs generalizing p with
  | nil => simp [Chain]
  | cons y r ih =>
    have hy := h y (by simp)
    have := @ih y (fun x hx => h x (by simp [hx]))
    simp only [Chain, hy.1, hy.2, this]

theorem chain_append {prev : Nat → Nat} {timed : Nat → Bool} {p : Nat} {as bs : List Nat} :
    Chain prev timed p (as ++ bs) ↔ Chain prev timed p as ∧ Chain prev timed (lastD p as) bs := by
  induction as generalizing p with
  | nil => simp [Chain]
  | cons a r ih => simp only [List.cons_append, Chain, ih, lastD_cons, and_assoc]

/-- dropping the first node of a chain: whatever precedes the rest is fine (the new head's `prev` is
unconstrained) -/
theorem prevOk_of_chain {s : St} {p : Nat} {xs : List Nat} (h : Chain s.prev s.timed p xs) : PrevOk s xs := by
  cases xs with
  | nil => trivial
  | cons x r => exact h.2

theorem prevOk_congr {s s' : St} {xs : List Nat}
    (h : ∀ x ∈ xs, s'.prev x = s.prev x ∧ s'.timed x = s.timed x) : PrevOk s' xs ↔ PrevOk s xs := by
  cases xs with
  | nil => simp [PrevOk]
  | cons x r => exact chain_congr (fun y hy => h y (by simp [hy]))

theorem prevOk_append {s : St} {as bs : List Nat} (h : as ≠ []) :
    PrevOk s (as ++ bs) ↔ PrevOk s as ∧ Chain s.prev s.timed (lastD 0 as) bs := by
  cases as with
  | nil => exact absurd rfl h
  | cons a r => exact chain_append

/-! ### the operations -/

theorem rep_nil_iff {s : St} {xs : List Nat} (h : Rep s xs) : s.head = 0 ↔ xs = [] := sll_nil_iff h.1

theorem rep_init : Rep init [] := by simp [Rep, init, PrevOk]

/-- both enqueue functions: the node is appended; `prev'` differs from the old links at most in the new node, where the
timed variant stores the old tail -/
theorem rep_enq {s : St} {xs : List Nat} {n : Nat} (tm : Bool) (prev' : Nat → Nat)
    (h : Rep s xs) (hn : n ≠ 0) (hm : n ∉ xs)
    (hp : ∀ x, x ≠ n → prev' x = s.prev x) (hpn : tm = true → s.head ≠ 0 → prev' n = s.tail) :
    Rep { s with next := if s.head = 0 then upd s.next n 0 else upd (upd s.next n 0) s.tail n,
                 prev := prev', head := if s.head = 0 then n else s.head, tail := n,
                 timed := upd s.timed n tm } (xs ++ [n]) := by
  obtain ⟨hseg, htail, hnd, hpo⟩ := h
  have hnil := sll_nil_iff hseg
  by_cases hx : xs = []
  · subst hx
    simp [Rep, hnil.mpr rfl, hn, PrevOk, Chain]
  · have hh : s.head ≠ 0 := fun e => hx (hnil.mp e)
    refine ⟨?_, (lastD_snoc _ _ _).symm, nodup_snoc.mpr ⟨hm, hnd⟩, (prevOk_append hx).mpr ⟨?_, ?_⟩⟩
    · obtain ⟨ini, l, rfl⟩ := exists_snoc hx
      have hl : s.tail = l := by simpa using htail
      have hln : l ≠ n := fun e => hm (by simp [e])
      simp only [hh, if_false, hl]
      exact seg_snoc_iff.mpr ⟨seg_set_last ((seg_frame hm).mpr hseg) (nodup_snoc.mp hnd).1, hn, by simp [upd, hln.symm]⟩
    · refine (prevOk_congr fun x hxs => ?_).mpr hpo
      have : x ≠ n := fun e => hm (e ▸ hxs)
      simp [upd, this, hp x this]
    · simpa [Chain, upd, htail] using fun e => hpn e hh

theorem rep_enqUntimed {s : St} {xs : List Nat} {n : Nat} (h : Rep s xs) (hn : n ≠ 0) (hm : n ∉ xs) :
    Rep (enqUntimed s n) (xs ++ [n]) := by
  have := rep_enq (s := s) false s.prev h hn hm (fun _ _ => rfl) (by simp)
  unfold enqUntimed
  by_cases hh : s.head = 0 <;> simpa [hh] using this

theorem rep_enqTimed {s : St} {xs : List Nat} {n : Nat} (h : Rep s xs) (hn : n ≠ 0) (hm : n ∉ xs) :
    Rep (enqTimed s n) (xs ++ [n]) := by
  have := rep_enq (s := s) true (upd s.prev n (if s.head = 0 then 0 else s.tail)) h hn hm
    (fun x hx => by simp [upd, hx]) (fun _ hh => by simp [hh])
  unfold enqTimed
  by_cases hh : s.head = 0 <;> simpa [hh] using this

/-- the first node leaves (popped, or removing itself): `p_head` moves to its successor, `p_tail` is cleared if there is
none; the new head's `p_prev` goes stale -/
theorem rep_behead {s : St} {x : Nat} {r : List Nat} (h : Rep s (x :: r)) {next' : Nat → Nat} (hn : Seg next' (s.next x) r 0) :
    Rep { s with next := next', head := s.next x, tail := if s.next x = 0 then 0 else s.tail } r := by
  obtain ⟨⟨-, -, hr⟩, htail, hnd, hpo⟩ := h
  have hnil := sll_nil_iff (xs := r) hr
  refine ⟨hn, ?_, (List.nodup_cons.mp hnd).2, prevOk_of_chain hpo⟩
  cases r with
  | nil => simp [hnil.mpr rfl]
  | cons y r' => simpa [hnil] using htail

theorem rep_popHead {s : St} {xs : List Nat} (h : Rep s xs) : Rep (popHead s) xs.tail := by
  unfold popHead
  cases xs with
  | nil => simpa [(rep_nil_iff h).mpr rfl] using h
  | cons x r =>
    have hx : s.head = x := h.1.1
    simpa [hx, h.1.2.1] using rep_behead h ((seg_frame (List.nodup_cons.mp h.2.2.1).1).mpr h.1.2.2)

/-- the broadcast loop visits exactly the nodes of the list, clears their links and stops at NULL
within `xs.length` iterations -/
theorem clearLoop_spec {next : Nat → Nat} {p : Nat} {xs : List Nat} (hseg : Seg next p xs 0) (hne : xs ≠ [])
    (hnd : xs.Nodup) :
    (clearLoop next p xs.length).2 = 0 ∧
    ∀ x, (clearLoop next p xs.length).1 x = if x ∈ xs then 0 else next x := by
  induction xs generalizing next p with
  | nil => exact absurd rfl hne
  | cons y r ih =>
    obtain ⟨rfl, hy0, hr⟩ := hseg
    obtain ⟨hyr, hndr⟩ := List.nodup_cons.mp hnd
    simp only [List.length_cons, clearLoop]
    cases r with
    | nil =>
      have : next p = 0 := by simpa using hr
      simp [this, upd]
    | cons z r' =>
      have hnx : next p ≠ 0 := hr.1 ▸ hr.2.1
      obtain ⟨h1, h2⟩ := ih ((seg_frame hyr).mpr hr) (by simp) hndr
      simp only [hnx, if_false]
      refine ⟨h1, fun x => ?_⟩
      rw [h2 x]
      by_cases hx : x ∈ z :: r'
      · simp [hx]
      · by_cases hxp : x = p <;> simp [hx, hxp, upd]

theorem rep_broadcast {s : St} {xs : List Nat} (h : Rep s xs) : Rep (broadcast xs.length s) [] := by
  unfold broadcast
  by_cases hh : s.head = 0
  · simpa [hh, (rep_nil_iff h).mp hh] using h
  · simp [hh, Rep, PrevOk]

theorem seg_unlink {next : Nat → Nat} {a c n : Nat} {as bs : List Nat} (hne : as ≠ [])
    (hseg : Seg next a (as ++ n :: bs) c) (hnd : (as ++ n :: bs).Nodup) :
    Seg (upd next (lastD 0 as) (next n)) a (as ++ bs) c := by
  obtain ⟨ini, p, rfl⟩ := exists_snoc hne
  obtain ⟨h1, _, h2⟩ := seg_split.mp hseg
  obtain ⟨hndA, -, hAB⟩ := List.nodup_append.mp hnd
  have hp_bs : p ∉ bs := fun hm => hAB p (by simp) p (List.mem_cons_of_mem _ hm) rfl
  simpa using seg_append (seg_set_last h1 (nodup_snoc.mp hndA).1) ((seg_frame hp_bs).mpr h2)

theorem rep_removeTimed {s : St} {xs : List Nat} {n : Nat} (h : Rep s xs) (hm : n ∈ xs) (ht : s.timed n = true) :
    Rep (removeTimed s n) (xs.erase n) := by
  have hnd' := h.2.2.1.erase n
  obtain ⟨as, bs, rfl⟩ := List.append_of_mem hm
  obtain ⟨hseg, htail, hnd, hpo⟩ := h
  obtain ⟨-, hndB, hAB⟩ := List.nodup_append.mp hnd
  have hn_as : n ∉ as := fun hx => hAB n hx n (by simp) rfl
  rw [List.erase_append_right _ hn_as, List.erase_cons_head] at hnd' ⊢
  unfold removeTimed
  cases as with
  | nil => simpa [hseg.1] using rep_behead ⟨hseg, htail, hnd, hpo⟩ hseg.2.2
  | cons a0 as' =>
    have hhn : s.head ≠ n := by rw [hseg.1]; exact fun e => hn_as (by simp [e])
    -- the predecessor, from `PrevOk`
    obtain ⟨hpoA, hpn, hpoB⟩ := (prevOk_append (by simp)).mp hpo
    have hprev : s.prev n = lastD 0 (a0 :: as') := hpn ht
    have hsegU := seg_unlink (as := a0 :: as') (by simp) hseg hnd
    obtain ⟨-, -, hsegB⟩ := seg_split.mp hseg
    rw [← hprev] at hsegU
    simp only [hhn, if_false]
    cases bs with
    | nil =>
      have hnx : s.next n = 0 := by simpa using hsegB
      simp only [hnx, ne_eq, not_true_eq_false, if_false, List.append_nil] at hsegU hnd' ⊢
      exact ⟨hsegU, hprev, hnd', hpoA⟩
    | cons m bs' =>
      obtain ⟨hnm, hm0, -⟩ := hsegB
      have hm_as : m ∉ a0 :: as' := fun hx => hAB m hx m (by simp) rfl
      have hm_bs' : m ∉ bs' := (List.nodup_cons.mp (List.nodup_cons.mp hndB).2).1
      simp only [hnm, hm0, ne_eq, not_false_eq_true, if_true] at hsegU ⊢
      refine ⟨hsegU, by simp [htail, lastD_append], hnd', (prevOk_append (by simp)).mpr ⟨?_, fun _ => ?_, ?_⟩⟩
      · refine (prevOk_congr fun x hx => ?_).mpr hpoA
        simp [upd, ne_of_mem_of_not_mem hx hm_as]
      · simp [hprev]
      · refine (chain_congr fun x hx => ?_).mpr hpoB.2
        simp [upd, ne_of_mem_of_not_mem hx hm_bs']

/-! ### the machine -/

theorem step_rep {m m' : M} {op : Op} (h : Rep m.s m.xs) (hs : step m op = some m') : Rep m'.s m'.xs := by
  unfold step at hs
  split at hs <;> cases hs
  rename_i xs' hx
  cases op <;> simp only [specStep, Option.ite_none_right_eq_some, Option.some.injEq] at hx
  · obtain ⟨hg, rfl⟩ := hx; exact rep_enqUntimed h hg.1 hg.2
  · obtain ⟨hg, rfl⟩ := hx; exact rep_enqTimed h hg.1 hg.2
  · exact hx ▸ rep_popHead h
  · exact hx ▸ rep_broadcast h
  · obtain ⟨hg, rfl⟩ := hx; exact rep_removeTimed h hg.1 hg.2

theorem rep_reachable (m : M) (h : machine.Reachable m) : Rep m.s m.xs :=
  Machine.invariant_reachable machine (fun m => Rep m.s m.xs) rep_init (fun _ _ _ hi hs => step_rep hi hs) m h

/-! ### vocabulary of the property statements (Props.C19) -/

/-- the abstract FIFO operation each wait-list function implements -/
def wlAbs (xs : List Nat) : Op → List Nat
  | .enqUntimed n => xs ++ [n]
  | .enqTimed n => xs ++ [n]
  | .popHead => xs.tail
  | .broadcast => []
  | .removeTimed n => xs.erase n

/-- the C code's preconditions: an enqueued node is a valid object that is not queued; only a node that is
still queued and was enqueued by the timed function runs the removal code -/
def wlPre (m : M) : Op → Prop
  | .enqUntimed n => n ≠ 0 ∧ n ∉ m.xs
  | .enqTimed n => n ≠ 0 ∧ n ∉ m.xs
  | .popHead => True
  | .broadcast => True
  | .removeTimed n => n ∈ m.xs ∧ m.s.timed n = true

/-- the pointer structure `s` represents the list `xs`: `p_head` leads through exactly `xs` to NULL, `p_tail` is the
last node or NULL, no node twice, every non-head timed node's `p_prev` is its predecessor -/
def WlRep (s : St) (xs : List Nat) : Prop :=
  Seg s.next s.head xs 0 ∧ s.tail = xs.getLast?.getD 0 ∧ xs.Nodup ∧ PrevOk s xs

theorem wlRep_iff (s : St) (xs : List Nat) : WlRep s xs ↔ Rep s xs := by
  simp [WlRep, Rep, lastD_eq_getLast?]

end ArgoVerif.Model.WLPtr
