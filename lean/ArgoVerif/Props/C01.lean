import ArgoVerif.Proofs.Sched
import ArgoVerif.Props.C06Stop
/-
Props.C01 — every work unit runs exactly once to completion; none is lost or duplicated.
Model.Sched abstracts pools as bags with an arbitrary pop choice, so FIFO / FIFO_WAIT / RANDWS / user-defined pools and
every scheduler policy (predefined, user-defined, stacked) are instances; theorems quantify over all accepted traces.
-/
namespace ArgoVerif.Props.C01
open ArgoVerif ArgoVerif.Model.Sched

/-- **conservation / no duplication**: a unit is pushed only from a place where no execution stream can reach it
(fresh, popped-and-held, switched-away with its callback pending, or blocked-and-resumed), never while it is in a
pool, running, or already terminated; so it is never in two pools or in a pool and running -/
theorem once_push_from_unreachable (s s' : St) (p : PoolId) (u : UnitId) (hs : step s (.push p u) = some s') :
    (∀ q, s.loc u ≠ .inPool q) ∧ (∀ e, s.loc u ≠ .running e) ∧ s.loc u ≠ .done ∧ s.loc u ≠ .freed ∧ s.loc u ≠ .none ∧
    s'.loc u = .inPool p := by
  simp only [step, stepPush] at hs
  split at hs
  · rename_i h
    cases hs
    have hp := h.1
    refine ⟨?_, ?_, ?_, ?_, ?_, by simp [upd]⟩
    · intro q hl; rw [hl] at hp; simp [pushable] at hp
    · intro e hl; rw [hl] at hp; simp [pushable] at hp
    · intro hl; rw [hl] at hp; simp [pushable] at hp
    · intro hl; rw [hl] at hp; simp [pushable] at hp
    · intro hl; rw [hl] at hp; simp [pushable] at hp
  · cases hs

/-- a pop returns only a unit that is in that pool, and takes it out: until it is pushed again nobody else can pop it -/
theorem once_pop_takes_out (s s' : St) (e : EsId) (p : PoolId) (u : UnitId) (hs : step s (.pop e p u) = some s') :
    s.loc u = .inPool p ∧ s'.loc u = .held e := by
  simp only [step, stepPop] at hs
  split at hs
  · rename_i h; cases hs; exact ⟨h, by simp [setLoc, upd]⟩
  · cases hs

/-- a run slice starts only for a unit that the starting stream holds exclusively (popped by a scheduler, just created,
or blocked and resumed): never for a unit that is in a pool, already running elsewhere, or terminated -/
theorem once_run_exclusive (s s' : St) (e : EsId) (u : UnitId) (hs : step s (.run e u) = some s') :
    (∀ q, s.loc u ≠ .inPool q) ∧ (∀ e', s.loc u ≠ .running e') ∧ s.loc u ≠ .done ∧ s'.loc u = .running e :=
  let ⟨hp, hr, _, hd, hl⟩ := step_run_loc s s' e u hs; ⟨hp, hr, hd, hl⟩

/-- **at most one start** per creation / revival epoch, and the function ends at most once, after it started -/
theorem once_start_le_one (s : St) (h : machine.Reachable s) (u : UnitId) : s.starts u ≤ 1 ∧ s.ends u ≤ s.starts u :=
  (inv_reachable s h).startsLe u

/-- **a terminated unit has run**: TERMINATED (and not cancelled) implies the function was entered exactly once -/
theorem once_terminated_ran (s : St) (h : machine.Reachable s) (u : UnitId)
    (ht : s.st u = .terminated) (hc : s.cancelled u = false) : s.starts u = 1 := by
  have hi := inv_reachable s h
  have hl := (hi.termLoc u).mp ht
  have htm := hi.doneTerm u hl
  rcases hi.termRan u htm with h1 | h1
  · rw [hc] at h1; cases h1
  · exact h1

/-- **join returns after the end**: when join / free returns to the joiner the target is TERMINATED, hence (unless it was
cancelled) its function has been entered exactly once and the unit is out of every pool -/
theorem once_join_after_end (s s' : St) (h : machine.Reachable s) (j u : UnitId) (hs : step s (.joinRet j u) = some s') :
    s.st u = .terminated ∧ (s.cancelled u = true ∨ s.starts u = 1) ∧ (∀ q, s.loc u ≠ .inPool q) := by
  simp only [step, stepJoinRet] at hs
  split at hs
  · rename_i hg
    refine ⟨hg.1, ?_, ?_⟩
    · cases hc : s.cancelled u with
      | true => exact Or.inl rfl
      | false => exact Or.inr (once_terminated_ran s h u hg.1 hc)
    · intro q hq; rcases hg.2 with h1 | h1 <;> rw [hq] at h1 <;> cases h1
  · cases hs

/-- other units are untouched by an event (no unit's bookkeeping leaks into another's) -/
theorem once_units_independent (s s' : St) (e : Ev) (hs : step s e = some s') (v : UnitId) (hv : v ≠ e.unit) :
    s'.loc v = s.loc v ∧ s'.st v = s.st v ∧ s'.starts v = s.starts v :=
  let f := frame s s' e hs v hv; ⟨congrArg UView.loc f, congrArg UView.st f, congrArg UView.starts f⟩

/-- non-vacuity: create, push, pop, run, yield (callback re-push), second slice, finish, exit callback, terminate, join -/
example :
    (machine.run init
      [.create 1 0, .push 0 1, .pop 7 0 1, .setSt 1 .running, .run 7 1, .userStart 1, .cb 7 1 .yield, .setSt 1 .ready,
       .push 0 1, .pop 8 0 1, .setSt 1 .running, .run 8 1, .userEnd 1, .finish 8 1, .cb 8 1 .exit, .terminate 1,
       .setSt 1 .terminated, .joinRet 99 1, .free 1]).map (fun s => decide (s.loc 1 = .freed ∧ s.starts 1 = 1 ∧ s.ends 1 = 1))
      = some true := by decide

/-- a second start, a double push and a pop of a running unit are all rejected by the model -/
example : machine.run init [.create 1 0, .push 0 1, .push 0 1] = none := by decide
example : (machine.run init [.create 1 0, .push 0 1, .pop 7 0 1, .setSt 1 .running, .run 7 1, .pop 8 0 1]).isNone = true := by decide

end ArgoVerif.Props.C01
