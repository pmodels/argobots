import ArgoVerif.Proofs.WaitList
import ArgoVerif.Proofs.WLPtr
import ArgoVerif.Proofs.PopWaitTime
/-
Props.C19 — timed waits respect their deadline and never damage the waiter queue; blocking pool pops never lose a
unit and return empty-handed in bounded time.  Three models:

  * Model.WaitList (sections below up to `wl_wake_only_suspended`): the spinlock + wait-list *protocol* with an abstract
    list — every trace: any number of ULT / non-ULT, timed / untimed waiters and wakers, every interleaving of their
    atomic steps, every outcome of each `now >= deadline` comparison.  The same theorems serve C05 (cond), C08, C09
    through the shared wait-list code.
  * Model.WLPtr ("pointer-level wait-list"): `p_head` / `p_tail` / `p_next` / `p_prev` exactly as abti_waitlist.h writes
    them — untimed enqueues never write `p_prev`, signals leave stale ones — for every operation sequence.
  * Model.PopWait ("blocking pool pops"): producers and consumers of one FIFO / RANDWS pool (spinlock, `is_empty` fast
    path, sleep-poll loop with the virtual clock) or FIFO_WAIT pool (mutex + condition variable), all interleavings.
-/
namespace ArgoVerif.Props.C19
open ArgoVerif ArgoVerif.Model.WaitList
open ArgoVerif.Heap ArgoVerif.Model

/-- the spinlock is exclusive: wait-list operations of different actors never overlap -/
theorem wl_lock_excl (u : Actor → Bool) (s : St) (h : (machine u).Reachable s) (a b : Actor)
    (ha : HasL (s.pc a)) (hb : HasL (s.pc b)) : a = b :=
  (inv_reachable u s h).excl ha hb

/-- enqueue, dequeue and removal happen only while the acting actor holds the lock -/
theorem wl_ops_under_lock (u : Actor → Bool) (s s' : St) (h : (machine u).Reachable s) (e : Ev)
    (hs : step s e = some s') :
    match e with
    | .enq a _ | .deq a _ | .rm a | .storeReady a _ => s.lOwner = some a
    | _ => True := by
  have hi := inv_reachable u s h
  have hl := hi.lIff
  cases e with
  | enq a t | deq a n | rm a | storeReady a n =>
    -- each of these is accepted only at program points inside the critical section
    simp only [step, stepEnq, stepDeq, stepRm, stepStoreReady] at hs ⊢
    (repeat' (split at hs)) <;> first | (cases hs; done) | grind [HasL]
  | _ => trivial

/-- **a timed-out waiter consumes no signal**: when a waiter unlinks its own node (timeout path) it has
not been made READY, and READY is only ever stored into a node that a waker dequeued — so the removed
node is never made READY later, and every READY store corresponds to exactly one dequeue -/
theorem timed_out_consumes_no_signal (u : Actor → Bool) (s s' : St) (h : (machine u).Reachable s) (a : Actor)
    (hs : step s (.rm a) = some s') : s.ready a = false ∧ a ∈ s.q ∧ a ∉ s'.q ∧ s'.ready a = false ∧ s'.timedOut a = true := by
  have hi := inv_reachable u s h
  simp only [step, stepRm] at hs
  split at hs
  · rename_i hp
    cases hs
    have hr := hi.tmoRmInv a hp
    have hpend : s.pending ≠ some a := by
      intro hpd
      have hw : s.lOwner = some a := (hi.lIff a).mpr (by rw [hp]; trivial)
      have := (hi.pendIff a).mpr ⟨hw, by rw [hpd]; simp⟩
      rw [hp] at this; cases this
    have hq := hi.timedInQ a (by rw [hp]; trivial) hr hpend
    refine ⟨hr, hq, ?_, hr, by simp [setPc, upd]⟩
    simp only [setPc]
    exact fun hm => (List.Nodup.mem_erase_iff hi.nodup).mp hm |>.1 rfl
  · cases hs

/-- READY is stored only into the node the same waker dequeued in the same critical section, and that
node was still waiting and not READY -/
theorem ready_only_dequeued (u : Actor → Bool) (s s' : St) (h : (machine u).Reachable s) (a n : Actor)
    (hs : step s (.storeReady a n) = some s') : s.pending = some n ∧ Waiting (s.pc n) ∧ s.ready n = false ∧ n ∉ s.q := by
  have hi := inv_reachable u s h
  simp only [step, stepStoreReady] at hs
  split at hs
  · rename_i hp
    exact ⟨hp.2, (hi.pendWait n hp.2).1, (hi.pendWait n hp.2).2.2, (hi.pendWait n hp.2).2.1⟩
  · cases hs

/-- **timeout result**: the timeout path reports "timed out" iff, under the lock, the node was still not READY;
if a signal came first (`READY` already stored) the wait reports success -/
theorem timed_success_if_signalled_first (u : Actor → Bool) (s s' : St) (a : Actor) (r : Bool)
    (hp : s.pc a = .tmo) (hs : step s (.loadState a r) = some s') :
    r = s.ready a ∧ (r = true → s'.pc a = .tmoRel ∧ s'.timedOut a = false) ∧ (r = false → s'.pc a = .tmoRm) := by
  simp only [step, stepLoadState] at hs
  split at hs
  · cases hs
  · rename_i hr
    rw [hp] at hs
    refine ⟨by simpa using hr, ?_, ?_⟩ <;> intro hrv <;> subst hrv <;> simp at hs <;> subst hs <;> simp [setPc, upd]

/-- **timeout only after the deadline**: the timeout path is entered only by a `now >= deadline` comparison that
came out true -/
theorem timed_timeout_only_after_deadline (s s' : St) (e : Ev) (a : Actor) (hs : step s e = some s')
    (hbefore : s.pc a ≠ .tmo ∧ s.pc a ≠ .tuAcq) (hafter : s'.pc a = .tmo ∨ s'.pc a = .tuAcq) :
    e = .timeCheck a true := by
  -- only the acting actor's program counter moves, and of its moves only the time check that came out true ends at
  -- `tmo` / `tuAcq`
  have hf := pc_frame s s' e hs a
  cases e <;> simp only [step, stepBegin, stepTasL, stepClearL, stepEnq, stepStoreBlocked, stepLoadState,
    stepDeq, stepStoreReady, stepTimeCheck, stepRm] at hs <;>
    (repeat' (split at hs)) <;> (try cases hs) <;>
    simp_all [setPc, takeL, dropL, upd] <;> grind

/-- **queue intact**: the wait-list never holds a node twice, holds only nodes of actors that are inside a wait and
not READY, and a waiter that is neither READY nor being woken is still queued (so later signals reach it) -/
theorem timed_queue_intact (u : Actor → Bool) (s : St) (h : (machine u).Reachable s) :
    s.q.Nodup ∧ (∀ a ∈ s.q, Waiting (s.pc a) ∧ s.ready a = false) ∧
    (∀ a, TimedWaiting (s.pc a) → s.ready a = false → s.pending ≠ some a → a ∈ s.q) ∧
    (∀ a, s.pc a = .uWait → a ∈ s.q ∨ s.pending = some a) := by
  have hi := inv_reachable u s h
  exact ⟨hi.nodup, hi.inQ, hi.timedInQ, hi.ultWait⟩

/-- a ULT is dequeued only when fully suspended (BLOCKED stored, lock released by its scheduler context) -/
theorem wl_wake_only_suspended (u : Actor → Bool) (s s' : St) (h : (machine u).Reachable s) (a n : Actor)
    (hs : step s (.deq a n) = some s') (hu : s.pc n = .uSusp ∨ s.pc n = .uRelL ∨ s.pc n = .uWait) : s.pc n = .uWait := by
  have hi := inv_reachable u s h
  simp only [step, stepDeq] at hs
  split at hs
  · rename_i hd tl hpc hq
    -- a ULT still at `uSusp` / `uRelL` holds the lock, which the waker `a` holds
    rcases hu with h3 | h3 | h3
    · cases hi.excl (a := a) (b := n) (by rw [hpc]; trivial) (by rw [h3]; trivial); rw [hpc] at h3; cases h3
    · cases hi.excl (a := a) (b := n) (by rw [hpc]; trivial) (by rw [h3]; trivial); rw [hpc] at h3; cases h3
    · exact h3
  · cases hs

/-- non-vacuity: two timed waiters and one untimed ULT; the middle one times out, a signal wakes the head,
a broadcast wakes the rest; the trace is accepted and the queue ends empty -/
example :
    ((machine (fun a => a = 3)).run (init (fun a => a = 3))
      [.begin 1, .tasL 1 false, .enq 1 true, .timeCheck 1 false, .loadState 1 false, .clearL 1,
       .begin 2, .tasL 2 false, .enq 2 true, .timeCheck 2 false, .loadState 2 false, .clearL 2,
       .begin 3, .tasL 3 false, .enq 3 false, .storeBlocked 3, .clearL 3,
       .loadState 2 false, .tasL 2 false, .timeCheck 2 true, .loadState 2 false, .rm 2, .clearL 2,
       .begin 4, .tasL 4 false, .deq 4 1, .storeReady 4 1, .clearL 4,
       .begin 4, .tasL 4 false, .deq 4 3, .storeReady 4 3, .clearL 4,
       .loadState 1 true]).map (fun s => (s.q, s.timedOut 2, s.timedOut 1, s.pc 1, s.pc 2, s.pc 3))
      = some ([], true, false, .idle, .idle, .idle) := by decide

/-! ## pointer-level wait-list (Model.WLPtr): the removal code and its stale `p_prev` links -/

/-- **G5 — the pointer-level wait-list refines a FIFO with removal.**  After EVERY sequence of enqueues (timed and
untimed), signals, broadcasts and timed-out removals starting from the empty list — the statements of
`abti_waitlist.h` executed on a heap in which untimed nodes carry garbage `p_prev` and popped predecessors leave
stale ones — the structure represents an abstract list `xs`, and every further operation whose C precondition
holds is executed by the same pointer code (`ptrStep`) and acts on `xs` as append / drop-head / clear / erase,
again yielding a represented list: removal of the head, of a middle node and of the tail, with timed and untimed
neighbours, are all covered (they are the cases of the proof of `rep_removeTimed`). -/
theorem wl_refines_fifo_with_removal (ops : List WLPtr.Op) (m : WLPtr.M)
    (h : WLPtr.machine.run WLPtr.machine.init ops = some m) :
    WLPtr.WlRep m.s m.xs ∧
    ∀ op, WLPtr.wlPre m op → ∃ m', WLPtr.step m op = some m' ∧ m'.s = WLPtr.ptrStep m.xs.length m.s op ∧
      m'.xs = WLPtr.wlAbs m.xs op ∧ WLPtr.WlRep m'.s m'.xs := by
  have hr : WLPtr.Rep m.s m.xs := WLPtr.rep_reachable m ⟨ops, h⟩
  refine ⟨(WLPtr.wlRep_iff _ _).mpr hr, ?_⟩
  intro op hp
  obtain ⟨m', hs, h1, h2⟩ : ∃ m', WLPtr.step m op = some m' ∧ m'.s = WLPtr.ptrStep m.xs.length m.s op ∧ m'.xs = WLPtr.wlAbs m.xs op := by
    cases op <;> simp only [WLPtr.wlPre] at hp <;> simp [WLPtr.step, WLPtr.specStep, WLPtr.wlAbs, hp]
  exact ⟨m', hs, h1, h2, (WLPtr.wlRep_iff _ _).mpr (WLPtr.step_rep hr hs)⟩

/-- operations whose precondition fails are not behaviours of the model (the driver rejects such a trace) -/
theorem wl_step_iff_pre (m : WLPtr.M) (op : WLPtr.Op) : (WLPtr.step m op).isSome ↔ WLPtr.wlPre m op := by
  cases op <;> simp [WLPtr.step, WLPtr.specStep, WLPtr.wlPre] <;> split <;> simp_all

/-- the broadcast loop `do { … } while (p)` reaches NULL after exactly `|xs|` iterations and has cleared the
`p_next` of the queued nodes and nothing else -/
theorem wl_broadcast_terminates (ops : List WLPtr.Op) (m : WLPtr.M)
    (h : WLPtr.machine.run WLPtr.machine.init ops = some m) (hne : m.xs ≠ []) :
    (WLPtr.clearLoop m.s.next m.s.head m.xs.length).2 = 0 ∧
    ∀ x, (WLPtr.clearLoop m.s.next m.s.head m.xs.length).1 x = if x ∈ m.xs then 0 else m.s.next x := by
  have hr : WLPtr.Rep m.s m.xs := WLPtr.rep_reachable m ⟨ops, h⟩
  exact WLPtr.clearLoop_spec hr.1 hne hr.2.2.1

/-- **a timed-out waiter does not corrupt the queue for the others, wherever it stood**: after the removal code
ran for a queued timed node `n`, the remaining waiters are exactly the old ones without `n` in their old relative
order, each of them is reached by following `p_next` from `p_head` (which ends at NULL right after the last of
them), and `p_tail` is the last of them (NULL if none is left) -/
theorem wl_remove_keeps_others (ops : List WLPtr.Op) (m : WLPtr.M)
    (h : WLPtr.machine.run WLPtr.machine.init ops = some m) (n : Nat) (hn : n ∈ m.xs) (ht : m.s.timed n = true) :
    let s' := WLPtr.removeTimed m.s n
    let ys := m.xs.filter (· != n)
    WLPtr.step m (.removeTimed n) = some { s := s', xs := ys } ∧
    ys.Sublist m.xs ∧ (∀ x ∈ m.xs, x ≠ n → x ∈ ys) ∧ n ∉ ys ∧
    walk s'.next s'.head ys.length = ys ∧ Seg s'.next s'.head ys 0 ∧ s'.tail = ys.getLast?.getD 0 ∧
    WLPtr.PrevOk s' ys := by
  have hr : WLPtr.Rep m.s m.xs := WLPtr.rep_reachable m ⟨ops, h⟩
  have he : m.xs.erase n = m.xs.filter (· != n) := List.Nodup.erase_eq_filter hr.2.2.1 n
  have hr' := WLPtr.rep_removeTimed hr hn ht
  rw [he] at hr'
  have hw := (WLPtr.wlRep_iff _ _).mpr hr'
  refine ⟨by simp [WLPtr.step, WLPtr.specStep, hn, ht, he, WLPtr.ptrStep], List.filter_sublist, ?_, by simp, seg_walk hr'.1, hw.1, hw.2.1, hw.2.2.2⟩
  intro x hx hxn
  simp [hx, hxn]

open WLPtr in
/-- non-vacuity: seven nodes, timed (2 4 5 7) and untimed (1 3 6) mixed.  Removal of a middle node between an
untimed predecessor and a timed successor (4), of the head whose `p_prev` is stale because its predecessor was
popped by a signal (2), of a middle node between two untimed nodes (5), of the tail (7), then a broadcast; after
each prefix the structure represents the expected list -/
example :
    let ops : List WLPtr.Op := [.enqUntimed 1, .enqTimed 2, .enqUntimed 3, .enqTimed 4, .enqTimed 5, .removeTimed 4, .popHead,
      .removeTimed 2, .enqUntimed 6, .removeTimed 5, .enqTimed 7, .removeTimed 7, .enqTimed 8, .broadcast]
    (List.range 15).map (fun k => (WLPtr.machine.run WLPtr.machine.init (ops.take k)).map (fun m => (m.xs, decide (Rep m.s m.xs)))) =
      [some ([], true), some ([1], true), some ([1, 2], true), some ([1, 2, 3], true), some ([1, 2, 3, 4], true),
       some ([1, 2, 3, 4, 5], true), some ([1, 2, 3, 5], true), some ([2, 3, 5], true), some ([3, 5], true),
       some ([3, 5, 6], true), some ([3, 6], true), some ([3, 6, 7], true), some ([3, 6], true), some ([3, 6, 8], true),
       some ([], true)] := by decide

open WLPtr in
/-- the stale link is really there: after `enqTimed 1, enqTimed 2, popHead` node 2 is the head and its `p_prev` still
names the popped node 1 — the code's head test `p_head == &thread` (not `p_prev == NULL`) is what makes its removal
correct -/
example :
    (WLPtr.machine.run WLPtr.machine.init [.enqTimed 1, .enqTimed 2, .popHead]).map (fun m => (m.xs, m.s.head, m.s.prev 2)) = some ([2], 2, 1) ∧
    (WLPtr.machine.run WLPtr.machine.init [.enqTimed 1, .enqTimed 2, .popHead, .removeTimed 2]).map (fun m => (m.xs, m.s.head, m.s.tail)) = some ([], 0, 0) := by
  decide

open WLPtr in
/-- **the invariant is doing work**: take the list 1,2,3 (all timed) and remove 2 *without* the statement
`thread.p_next->p_prev = thread.p_prev` (state `bad`): the list is still 1,3 with correct head, tail and links, only
`PrevOk` fails — node 3 is not the head and its `p_prev` (2) is stale.  Running the removal code for node 3 on that
state corrupts the list: `p_tail` becomes the already removed node 2, node 3 stays linked behind node 1 (following
`p_next` from the head still visits it), so the structure represents no list any more; on the state the real code
produces, the same removal yields the list [1] -/
example :
    let good := (WLPtr.machine.run WLPtr.machine.init [.enqTimed 1, .enqTimed 2, .enqTimed 3]).map (·.s) |>.getD WLPtr.init
    let bad : WLPtr.St := { removeTimed good 2 with prev := good.prev }
    (Seg bad.next bad.head [1, 3] 0 ∧ bad.tail = 3 ∧ ¬ PrevOk bad [1, 3] ∧ bad.prev 3 = 2) ∧
    (let s' := removeTimed bad 3
     s'.tail = 2 ∧ walk s'.next s'.head 2 = [1, 3] ∧ ¬ Rep s' [1] ∧ ¬ Rep s' [1, 3]) ∧
    Rep (removeTimed (removeTimed good 2) 3) [1] := by
  decide

/-! ## blocking pool pops (Model.PopWait): FIFO / RANDWS sleep-poll loops, FIFO_WAIT condition wait -/

/-- **a blocking pop never loses a unit, whatever the interleaving** (both pool kinds, any number of producers and
consumers calling push / pop / pop_wait / pop_timedwait).  In every reachable state:
(1) conservation — every unit that was linked by a push is, with multiplicity, either still queued or was unlinked by
    exactly one pop (`pushed = queued + taken` as multisets), so nothing pushed while a consumer waits, sleeps, spins
    on the lock or is about to give up can disappear;
(2) a unit is handed to a caller only by the pop that unlinked it: an actor holds a unit (`got`) only between its own
    `take` and its return, and a return delivers exactly the held unit;
(3) a `pop_wait(t)` of the polling pools that returns empty-handed has read the clock at a value exceeding its start
    time by more than `t` **and** its latest look at the pool in that same iteration saw it empty;
(4) the same for `pop_timedwait(abs)` (clock read beyond `abs`) and for every other empty-handed pop. -/
theorem popwait_no_loss (k : PopWait.Kind) (s : PopWait.St) (h : (PopWait.machine k).Reachable s) :
    (∀ u, s.pushed.count u = s.q.count u + s.taken.count u) ∧
    (∀ a u, s.got a = some u → s.pc a = .aRel ∨ s.pc a = .fnUnl ∨ s.pc a = .fwUnl ∨ s.pc a = .retp) ∧
    (∀ a t tl, k = .poll → s.cur a = .popWait t tl → s.pc a = .retp → s.got a = none →
        s.emptyAtPoll a = true ∧ ∃ s0, s.start a = some s0 ∧ s0 + t < s.lastRead a) ∧
    (∀ a abs, k = .poll → s.cur a = .popTimedwait abs → s.pc a = .retp → s.got a = none →
        s.emptyAtPoll a = true ∧ abs < s.lastRead a) ∧
    (∀ a, (∀ u, s.cur a ≠ .push u) → s.pc a = .retp → s.got a = none → s.emptyAtPoll a = true) := by
  have hi := PopWait.inv_reachable k s h
  refine ⟨hi.balance, fun a u => PopWait.timeOk_got (hi.time a), ?_, ?_,
    fun a hn hp => PopWait.timeOk_ret_empty (hi.time.at hp) hn⟩
  · rintro a t tl rfl hc hp hg
    exact ⟨PopWait.timeOk_ret_empty (hi.time.at hp) (by simp [hc]) hg, (PopWait.timeOk_ret_popWait (hi.time.at hp) hc).1 hg⟩
  · rintro a abs rfl hc hp hg
    exact ⟨PopWait.timeOk_ret_empty (hi.time.at hp) (by simp [hc]) hg,
      (PopWait.timeOk_ret_popTimedwait (hi.time.at hp) hc).1 hg⟩

/-- what the ghost flags of `popwait_no_loss` record: `emptyAtPoll` becomes true only at an instant at which the queue
is empty (the `is_empty` load that returned 1, or the pop under the lock that found nothing), `lastRead` is the value of
the actor's own clock read, a unit enters `taken`/`got` only by the `take` that removes it from the queue, and a return
hands over exactly the held unit -/
theorem popwait_ghosts_sound (k : PopWait.Kind) (s s' : PopWait.St) (h : (PopWait.machine k).Reachable s) (a : PopWait.Actor) :
    (PopWait.step k s (.loadEmpty a true) = some s' → s.q = []) ∧
    (PopWait.step k s (.take a none) = some s' → s.q = [] ∧ s'.q = []) ∧
    (∀ u, PopWait.step k s (.take a (some u)) = some s' →
        s'.got a = some u ∧ s'.taken = s.taken ++ [u] ∧ s.q.count u = s'.q.count u + 1 ∧ s'.q.length + 1 = s.q.length) ∧
    (∀ v, PopWait.step k s (.clock a v) = some s' → s'.lastRead a = v ∧ s.now ≤ v ∧ s'.now = v) ∧
    (∀ r, PopWait.step k s (.ret a r) = some s' → r = s.got a ∧ s'.got a = none) := by
  have hi := PopWait.inv_reachable k s h
  refine ⟨fun hst => ?_, fun hst => ?_, fun u hst => ?_, fun v hst => ?_, fun r hst => ?_⟩ <;>
    obtain ⟨s1, hs, rfl⟩ := PopWait.step_some hst
  · simp only [PopWait.step0, PopWait.stepLoadEmpty] at hs
    split at hs
    · cases hs
    · rename_i hv; exact hi.ctl.flagIff.mp (by simpa using hv)
  · obtain ⟨p, _, ⟨htf, _, rfl⟩ | ⟨x, rest, _, hr, _⟩⟩ := PopWait.take_cases s s1 a none hs
    · have := PopWait.takeFrom_none htf
      exact ⟨this, by simpa [PopWait.bump, PopWait.actorOf, PopWait.setPc] using this⟩
    · cases hr
  · obtain ⟨p, _, ⟨_, hr, _⟩ | ⟨x, rest, htf, hr, rfl⟩⟩ := PopWait.take_cases s s1 a (some u) hs
    · cases hr
    · cases hr
      obtain ⟨-, hlen, hcount⟩ := PopWait.takeFrom_some htf
      have := hcount u
      simp_all [PopWait.bump, PopWait.actorOf, PopWait.setPc, upd]
  · simp only [PopWait.step0, PopWait.stepClock] at hs
    split at hs
    · cases hs
    · rename_i hv
      have hv : s.now ≤ v := by omega
      -- every branch of `stepClock` rejects the event or stores `v` in `now` and `lastRead a`
      (repeat' (split at hs)) <;> first
        | (cases hs; done)
        | (cases hs; simp [PopWait.bump, PopWait.actorOf, PopWait.setPc, upd, hv])
  · simp only [PopWait.step0, PopWait.stepRet] at hs
    split at hs
    · rename_i hg; cases hs
      exact ⟨hg.2, by simp [PopWait.setPc, upd]⟩
    · cases hs

/-- **a polling pop_wait returns in bounded time.**  Model assumptions, exactly the statement's: a clock read never
returns less than an earlier one (`clock a v` requires `v ≥ now`) and a `nanosleep(100 ns)` that starts after a read of
`v` ends no earlier than `v + 100` (`sleepDone` requires `now ≥ wake = v + 100`).  Then, in every reachable state and
for all interleavings with other producers and consumers, a `pop_wait(t)` in progress on a FIFO / RANDWS pool
(1) has read the clock — once per loop iteration — at most `⌊t/100⌋ + 1` times while it is still looping and at most
    `⌊t/100⌋ + 2` times when it returns (`⌈t / 100 ns⌉ + 2` iterations at most);
(2) if it has never seen the pool non-empty (the pool "stays empty"), it has executed exactly three atomic steps per
    iteration (`is_empty` load, clock read, sleep): at most `3·(⌊t/100⌋ + 2)` own steps in all, no lock operation, and
    the only way out is the empty-handed return;
(3) the iteration in progress can always continue: the load of `is_empty = 1` is enabled at the loop top, any clock value
    `≥ now` is accepted at the time check, and the sleep ends as soon as time has passed `wake`. -/
theorem popwait_bounded (s : PopWait.St) (h : (PopWait.machine .poll).Reachable s) (a : PopWait.Actor) (t : Nat) (tl : Bool)
    (hc : s.cur a = .popWait t tl) :
    ((PopWait.LoopA (s.pc a) ∨ s.pc a = .wTime ∨ s.pc a = .wSleep) → s.reads a ≤ t / 100 + 1) ∧
    (s.pc a = .retp → s.reads a ≤ t / 100 + 2) ∧
    (s.sawItems a = false → s.pc a ≠ .idle →
        (s.pc a = .aTop ∨ s.pc a = .wTime ∨ s.pc a = .wSleep ∨ s.pc a = .retp) ∧ s.steps a ≤ 3 * s.reads a + 1 ∧
        s.steps a ≤ 3 * (t / 100 + 2) ∧ (s.pc a = .retp → s.got a = none)) ∧
    (s.pc a = .aTop → s.flag = true → (PopWait.step .poll s (.loadEmpty a true)).isSome) ∧
    (s.pc a = .wTime → ∀ v, s.now ≤ v → (PopWait.step .poll s (.clock a v)).isSome) ∧
    (s.pc a = .wSleep → s.wake a ≤ s.now → (PopWait.step .poll s (.sleepDone a)).isSome) ∧
    (s.pc a = .wSleep → (PopWait.step .poll s (.advance (max s.now (s.wake a)))).isSome) := by
  have hi := PopWait.inv_reachable .poll s h
  have hc' := hi.time a
  refine ⟨?_, ?_, ?_, ?_, ?_, ?_, ?_⟩
  · intro hp; have := (PopWait.timeOk_polling hc' (hp.imp_right (Or.imp_right Or.inl))).1 t tl hc; omega
  · intro hp; have := (PopWait.timeOk_ret_popWait (hi.time.at hp) hc).2; omega
  · intro hs hp
    exact PopWait.timeOk_never_saw hc' (hi.ctl.kindP rfl a) hc hs hp
  · intro hp hf
    simp [PopWait.step, PopWait.step0, PopWait.stepLoadEmpty, hp, hf, PopWait.afterEmpty, hc]
  · intro hp v hv
    simp only [PopWait.step, PopWait.step0, PopWait.stepClock, Nat.not_lt.mpr hv, if_false, hp, hc]
    cases s.start a <;> simp <;> split <;> simp
  · intro hp hw
    simp [PopWait.step, PopWait.step0, PopWait.stepSleepDone, Nat.not_lt.mpr hw, hp]
  · intro _
    simp [PopWait.step, PopWait.step0, PopWait.stepAdvance, Nat.not_lt.mpr (Nat.le_max_left ..)]

/-- the same for `pop_timedwait(abs)` on a polling pool: with `base` the clock when the call began, at most
`⌊(abs − base)/100⌋ + 1` clock reads (one per iteration, each preceded by a 100 ns sleep) before the empty-handed
return, which happens at the first read beyond `abs` -/
theorem poptimedwait_bounded (s : PopWait.St) (h : (PopWait.machine .poll).Reachable s) (a : PopWait.Actor) (abs : Nat)
    (hc : s.cur a = .popTimedwait abs) :
    ((PopWait.LoopA (s.pc a) ∨ s.pc a = .tSleep ∨ s.pc a = .tTime) → s.reads a ≤ (abs - s.base a) / 100) ∧
    (s.pc a = .retp → s.reads a ≤ (abs - s.base a) / 100 + 1) ∧
    (s.pc a = .tTime → ∀ v, s.now ≤ v → (PopWait.step .poll s (.clock a v)).isSome) ∧
    (s.pc a = .tSleep → s.wake a ≤ s.now → (PopWait.step .poll s (.sleepDone a)).isSome) := by
  have hi := PopWait.inv_reachable .poll s h
  have hc' := hi.time a
  refine ⟨?_, ?_, ?_, ?_⟩
  · intro hp
    have := (PopWait.timeOk_polling hc' (hp.imp_right fun h => Or.inr (Or.inr h))).2 abs hc; omega
  · intro hp; have := (PopWait.timeOk_ret_popTimedwait (hi.time.at hp) hc).2; omega
  · intro hp v hv
    simp only [PopWait.step, PopWait.step0, PopWait.stepClock, Nat.not_lt.mpr hv, if_false, hp, hc]
    split <;> simp
  · intro hp hw
    simp [PopWait.step, PopWait.step0, PopWait.stepSleepDone, Nat.not_lt.mpr hw, hp]

/-- **FIFO_WAIT: no lost wake-up, and nobody sleeps for ever.**  In every reachable state of the mutex + condition
variable protocol (pushes signal under the mutex, `pop_wait` / `pop_timedwait` wait only after having seen the pool
empty under the mutex, spurious wake-ups allowed):
(1) while some consumer is asleep on the condition variable without having been signalled, every queued unit has a
    wake-up in flight: `|queue| ≤ #consumers signalled that have not yet looked at the queue again + (1 if the mutex
    holder is a pusher between its link and its signal)`; in particular the state "queue non-empty, a consumer asleep,
    no wake-up in flight" is unreachable — a push that happens while a consumer sleeps wakes one;
(2) the sleepers are exactly the actors at the wait position, every one of them has a finite deadline (`≤ clock it
    read + t`, resp. `≤ abs`) after which its time-out step is enabled, and every signalled consumer is on its way to
    the re-check: waiting for the mutex or popping under it (it pops whatever is there, possibly nothing);
(3) a consumer goes to sleep only while the queue is empty (it holds the mutex from the emptiness check to the wait);
(4) a blocking pop of this pool executes at most 8 atomic steps of its own. -/
theorem popwait_fifo_wait_no_lost_signal (s : PopWait.St) (h : (PopWait.machine .fwait).Reachable s) :
    (s.waiters ≠ [] → s.q.length ≤ s.woken.length + PopWait.pendSig s) ∧
    ¬ (s.q ≠ [] ∧ s.waiters ≠ [] ∧ s.woken = [] ∧ ∀ a, s.pc a ≠ .fpSig) ∧
    (∀ a, a ∈ s.waiters ↔ s.pc a = .fwSleep) ∧
    (∀ a t tl, s.cur a = .popWait t tl → s.pc a = .fwSleep → s.wake a ≤ s.lastRead a + t) ∧
    (∀ a abs, s.cur a = .popTimedwait abs → s.pc a = .fwSleep → s.wake a ≤ abs) ∧
    (∀ a, s.pc a = .fwSleep → s.wake a ≤ s.now → (PopWait.step .fwait s (.timeout a)).isSome) ∧
    (∀ a, a ∈ s.woken → s.pc a = .fwRelock ∨ s.pc a = .fwCs) ∧
    (∀ a, (s.pc a = .fwClock ∨ s.pc a = .fwWait) → s.q = [] ∧ s.owner = some a) ∧
    (∀ a n, (∀ u, s.cur a ≠ .push u) → (∀ tl, s.cur a ≠ .pop tl) → PopWait.fwIdx (s.pc a) = some n → s.steps a ≤ n ∧ n ≤ 8) := by
  have hi := PopWait.inv_reachable .fwait s h
  refine ⟨hi.signals, ?_, hi.ctl.waitIff, fun a t tl hc hp => (PopWait.timeOk_fwSleep (hi.time.at hp)).1 t tl hc,
    fun a abs hc hp => (PopWait.timeOk_fwSleep (hi.time.at hp)).2 abs hc, ?_, hi.ctl.wokenPc, ?_, ?_⟩
  · rintro ⟨hq, hw, hk, hp⟩
    have h1 := hi.signals hw
    have h0 : PopWait.pendSig s = 0 := by unfold PopWait.pendSig; split <;> simp [hp]
    simp [hk, h0] at h1; exact hq h1
  · intro a hp hw
    simp [PopWait.step, PopWait.step0, PopWait.stepTimeout, hp, hw]
  · intro a hp
    refine ⟨hi.ctl.sawEmpty a hp, (hi.ctl.ownerIff a).mpr ?_⟩
    rcases hp with e | e <;> simp [e, PopWait.HasLock]
  · intro a n h1 h2 hn
    exact PopWait.timeOk_fw_steps (hi.time a) ⟨h1, h2⟩ hn

/-- non-vacuity, polling pool: a `pop_wait(250 ns)` on a pool that stays empty reads the clock at 1000, 1100, 1200 and
returns NULL at the read of 1300 — four iterations = ⌊250/100⌋ + 2, the bound of `popwait_bounded` is attained — after
11 = 3·4 − 1 own steps -/
example :
    ((PopWait.machine .poll).run PopWait.init
      [.call 3 (.popWait 250 false), .loadEmpty 3 true, .clock 3 1000, .advance 1100, .sleepDone 3,
       .loadEmpty 3 true, .clock 3 1100, .advance 1200, .sleepDone 3,
       .loadEmpty 3 true, .clock 3 1200, .advance 1300, .sleepDone 3,
       .loadEmpty 3 true, .clock 3 1300]).map
      (fun s => decide (s.pc 3 = .retp ∧ s.got 3 = none ∧ s.reads 3 = 4 ∧ s.steps 3 = 11 ∧ s.start 3 = some 1000 ∧
        s.lastRead 3 = 1300 ∧ s.emptyAtPoll 3 = true)) = some true := by decide

/-- non-vacuity, polling pool: a unit pushed while the consumer sleeps in its poll loop is found at the next poll
(fast-path load of `is_empty = 0`, try-lock, pop, release) and returned; a second consumer that raced for it spins on
the lock, then sees `is_empty = 1` again and goes to its time check -/
example :
    ((PopWait.machine .poll).run PopWait.init
      [.call 2 (.popWait 1000 false), .loadEmpty 2 true, .clock 2 500, .call 4 (.popWait 50 false),
       .call 1 (.push 7), .tas 1 false, .link 1, .clear 1, .ret 1 none,
       .advance 600, .sleepDone 2, .loadEmpty 2 false, .loadEmpty 4 false, .tas 2 false, .tas 4 true,
       .take 2 (some 7), .loadEmpty 4 true, .clear 2, .ret 2 (some 7)]).map
      (fun s => decide (s.pc 2 = .idle ∧ s.pc 4 = .wTime ∧ s.q = [] ∧ s.flag = true ∧ s.pushed = [7] ∧ s.taken = [7] ∧
        s.lock = false ∧ s.sawItems 4 = true)) = some true := by decide

/-- non-vacuity, FIFO_WAIT: consumer 2 sleeps on the condition variable with deadline 1500, a push signals it, it
re-locks and pops the unit; consumer 3 (pop_timedwait, deadline 2000) is not signalled, times out at 2000, re-checks
under the mutex and returns empty-handed -/
example :
    ((PopWait.machine .fwait).run PopWait.init
      [.call 2 (.popWait 1000 false), .mlock 2, .loadEmpty 2 true, .clock 2 500, .condWait 2 1500,
       .call 3 (.popTimedwait 2000), .mlock 3, .loadEmpty 3 true, .condWait 3 2000,
       .call 1 (.push 9), .mlock 1, .link 1, .signal 1 (some 2), .munlock 1, .ret 1 none,
       .mlock 2, .take 2 (some 9), .munlock 2, .ret 2 (some 9),
       .advance 2000, .timeout 3, .mlock 3, .take 3 none, .munlock 3, .ret 3 none]).map
      (fun s => decide (s.pc 2 = .idle ∧ s.pc 3 = .idle ∧ s.q = [] ∧ s.waiters = [] ∧ s.woken = [] ∧ s.pushed = [9] ∧
        s.taken = [9] ∧ s.steps 3 = 7)) = some true := by decide

/-- the model rejects what the code cannot do: a pusher that skips its signal (unlock right after the link), a sleeper
that times out before its deadline, an empty-handed return of pop_wait before the budget is exceeded -/
example :
    ((PopWait.machine .fwait).run PopWait.init [.call 1 (.push 9), .mlock 1, .link 1, .munlock 1]).isNone ∧
    ((PopWait.machine .fwait).run PopWait.init [.call 2 (.popWait 1000 false), .mlock 2, .loadEmpty 2 true, .clock 2 500, .condWait 2 1500,
       .advance 1499, .timeout 2]).isNone ∧
    ((PopWait.machine .poll).run PopWait.init [.call 3 (.popWait 250 false), .loadEmpty 3 true, .clock 3 1000, .advance 1100, .sleepDone 3,
       .loadEmpty 3 true, .clock 3 1250, .ret 3 none]).isNone := by decide

end ArgoVerif.Props.C19
