import ArgoVerif.Proofs.TQ
import ArgoVerif.Gen.PoolEnds
import ArgoVerif.Gen.Consts
import ArgoVerif.Proofs.PoolConcObs
/-
Props.C07 — built-in pools are queues: the sequential / data-structure half first, the concurrent half
(`Model.PoolConc`: lock discipline, lock-free emptiness pre-checks, linearisation points) at the end of the file.

`thread_queue_t` (src/pool/thread_queue.h) is the only state under FIFO, FIFO_WAIT and RANDWS
pools; every pool function is "take the pool's lock, call thread_queue_*, release".  This file
proves that the pointer-level queue code is a double-ended queue of distinct units
(`tq_refines_deque` and corollaries) and that each pool function calls the end its kind
documents (`pool_kind_ends`, over the table generated from the C sources).  The concurrent
half (lock discipline, linearisation points, pop_wait) is `Model.PoolConc`; it uses
`tq_step_refines` / the `*_spec` lemmas of `Proofs.TQ` as "one critical section = one deque
operation".
-/
namespace ArgoVerif.Props.C07
open ArgoVerif ArgoVerif.Heap ArgoVerif.Model.TQ ArgoVerif.Model.Pool

/-! ## thread_queue refines a deque -/

/-- **one queue operation = one deque operation.**  In any state satisfying the invariant
(`Circ` well-formedness of the `p_prev`/`p_next` ring from `p_head`/`p_tail`, `num_threads` =
length, `is_empty` = 1 iff empty, `is_in_pool u` = 1 iff `u` is queued, units outside the queue
unlinked), each of push_head / push_tail / pop_head / pop_tail / remove / get_size / is_empty

* is defined (no NULL dereference, contract respected) exactly when the deque operation is:
  push of a non-NULL unit not already queued; remove of a non-NULL unit (or any unit when the
  queue is empty — the first coded guard returns before touching it);
* returns the deque's result (pop: the unit at that end, NULL iff empty; remove: `ABT_SUCCESS`
  iff the unit was queued, else `ABT_ERR_POOL` with *nothing* changed);
* re-establishes the invariant, and the new abstract content is the deque's.

This is the lemma the concurrent pool model applies to the body of each critical section. -/
theorem tq_step_refines {s : St} (hi : Inv s) (op : Op) :
    match specStep (abs s) op with
    | none => step s op = none
    | some (xs', o) => ∃ s', step s op = some (s', o) ∧ Inv s' ∧ abs s' = xs' :=
  step_refines hi op

/-- **C07 (sequential): every operation sequence.**  Starting from `thread_queue_init` on units
as `ABTI_unit_init_builtin` leaves them, *every* sequence of queue operations is defined exactly
when the same sequence on a deque of distinct units is, produces the same outputs, and ends in a
well-formed ring representing the deque's final content (so nothing is lost, duplicated or
reordered by the pointer manipulation, including remove from head / middle / tail and the
one-element special cases). -/
theorem tq_refines_deque (ops : List Op) {s : St} (hc : Clean s) :
    match specRun [] ops with
    | none => runOps (init s) ops = none
    | some (xs', os) => ∃ s', runOps (init s) ops = some (s', os) ∧ Inv s' ∧ abs s' = xs' := by
  have h := run_refines ops (init_inv hc).1
  rw [(init_inv hc).2] at h
  exact h

/-- the same from any state satisfying the invariant (e.g. in the middle of a run) -/
theorem tq_refines_deque_from (ops : List Op) {s : St} (hi : Inv s) :
    match specRun (abs s) ops with
    | none => runOps s ops = none
    | some (xs', os) => ∃ s', runOps s ops = some (s', os) ∧ Inv s' ∧ abs s' = xs' :=
  run_refines ops hi

/-- **each pushed unit leaves exactly once.**  After any defined run from an empty queue, the
multiset of pushed units equals the multiset of units handed out (non-NULL pop results and
successfully removed units) plus the units still queued, and no unit is queued twice.  (A unit
may be pushed again after it was handed out; multiset equality counts every round.) -/
theorem tq_each_pushed_popped_once {ops : List Op} {s s' : St} {os : List Out} (hc : Clean s)
    (h : runOps (init s) ops = some (s', os)) :
    (pushedOf ops).Perm (leftOf ops os ++ abs s') ∧ (abs s').Nodup := by
  obtain ⟨hs, hi'⟩ := run_refines_some (init_inv hc).1 h
  rw [(init_inv hc).2] at hs
  exact ⟨by simpa using specRun_perm good_nil hs, hi'.wf.nodup⟩

/-- **FIFO order.**  If units only enter by push_tail and leave by pop_head (what FIFO and
FIFO_WAIT pools do, see `pool_kind_ends`), the sequence of popped units followed by the units still
queued *is* the sequence of pushes: units leave in the order they entered. -/
theorem tq_fifo_order {ops : List Op} {s s' : St} {os : List Out} (hc : Clean s)
    (hf : ∀ op ∈ ops, FifoOp op) (h : runOps (init s) ops = some (s', os)) :
    leftOf ops os ++ abs s' = pushedOf ops := by
  obtain ⟨hs, _⟩ := run_refines_some (init_inv hc).1 h
  rw [(init_inv hc).2] at hs
  simpa using (specRun_fifo good_nil hf hs).symm

/-- **size and emptiness are exact** in every state a run can reach (sequentially: whenever the
pool is quiescent): `get_size` is the number of queued units, `is_empty` is true iff there is none,
and a unit's `is_in_pool` flag is 1 iff it is queued. -/
theorem tq_size_exact {ops : List Op} {s s' : St} {os : List Out} (hc : Clean s)
    (h : runOps (init s) ops = some (s', os)) :
    getSize s' = (abs s').length ∧ (isEmptyQ s' = true ↔ abs s' = []) ∧ ∀ u, s'.inPool u = 1 ↔ u ∈ abs s' := by
  obtain ⟨_, hi'⟩ := run_refines_some (init_inv hc).1 h
  refine ⟨hi'.wf.num, ?_, hi'.inPool_iff⟩
  simp only [isEmptyQ, hi'.wf.empty]
  cases abs s' <;> simp

/-- the dumps the differential driver prints are determined by the abstract content: forward
walk = content, backward walk = reversed content -/
theorem tq_dump_exact {s : St} (hi : Inv s) : members s = abs s ∧ membersBack s = (abs s).reverse :=
  ⟨rfl, hi.wf.membersBack_eq⟩

/-- **the body of one critical section** (no closed-world assumption).  For a queue whose pointer
structure represents `xs`, an operation is defined exactly when its contract holds (push: valid unit
with `is_in_pool = 0`; remove from a non-empty queue: valid unit which, if flagged, is in this queue);
then it returns the deque's result, the structure represents the deque's new content, it wrote only
fields of this queue's units and of the pushed unit, and a unit that left is unlinked with
`is_in_pool = 0`.  This is the lemma `Model.PoolConc` instantiates per lock-protected call. -/
theorem tq_critical_section {s : St} {xs : List Nat} (h : WFrel s xs) (op : Op) :
    (Contract s xs op → ∃ s' xs' o, step s op = some (s', o) ∧ specStep xs op = some (xs', o) ∧ LocalEffect s s' xs xs' op) ∧
    (¬ Contract s xs op → step s op = none) :=
  step_local h op

/-- **queues over one set of units do not disturb each other.**  In a process state where every queue
is well formed, no unit is in two queues, `is_in_pool` is 1 exactly for queued units and unqueued
units are unlinked: an operation on queue `i` is defined exactly under the contract (which here reads:
a pushed unit is in *no* queue; a unit removed from a non-empty queue is not in *another* queue — the
guard `is_in_pool == 1` of `thread_queue_remove` cannot tell, the flag is per unit), acts on queue `i`
as the deque operation, leaves every other queue's content unchanged and preserves all of the above. -/
theorem tq_queues_independent {w : World} (hi : WInv w) (i : Nat) (op : Op) :
    (Contract (w.get i) (w.abs i) op →
      ∃ w' o, w.step i op = some (w', o) ∧ WInv w' ∧ specStep (w.abs i) op = some (w'.abs i, o) ∧
        ∀ j, j ≠ i → w'.abs j = w.abs j) ∧
    (¬ Contract (w.get i) (w.abs i) op → w.step i op = none) :=
  world_step hi i op

/-- every defined run over any number of queues, from all queues empty, is a run of independent
deques (one per queue) with the same outputs; units may move between queues (pop here, push there) -/
theorem tq_world_refines (ops : List (Nat × Op)) {w' : World} {os : List Out}
    (h : World.initial.run ops = some (w', os)) :
    WInv w' ∧ specWorldRun (fun _ => []) ops = some (w'.abs, os) := by
  have := world_run_refines ops World.initial_inv h
  exact ⟨this.1, this.2⟩

/-! ### non-vacuity -/

/-- a concrete heap: push 3 units at the tail, one at the head, remove from the middle, pop both ends -/
example :
    (runOps (init St.fresh) [.pushTail 1, .pushTail 2, .pushTail 3, .pushHead 4, .remove 2, .size,
        .popHead, .popTail, .remove 9, .popHead, .popHead, .isEmpty]).map (·.2)
      = some [.unit, .unit, .unit, .unit, .rc .success, .size 3,
        .popped 4, .popped 3, .rc .errPool, .popped 1, .popped 0, .empty true] := by decide

/-- the invariant's structural part holds on a 4-unit ring and describes it (head 4, tail 3) -/
example : ∃ s', runOps (init St.fresh) [.pushTail 1, .pushTail 2, .pushTail 3, .pushHead 4] = some (s', [.unit, .unit, .unit, .unit])
    ∧ Circ s'.prev s'.next s'.head s'.tail [4, 1, 2, 3] ∧ members s' = [4, 1, 2, 3] ∧ membersBack s' = [3, 2, 1, 4] :=
  ⟨_, rfl, by decide, by decide, by decide⟩

/-- hypotheses of the run theorems are satisfiable: the fresh state is clean, so `init` establishes `Inv` -/
example : Inv (init St.fresh) := (init_inv fresh_clean).1

/-- contract violations are undefined in the model, not silently totalised: pushing a queued unit,
pushing NULL, removing NULL from a non-empty queue -/
example : runOps (init St.fresh) [.pushTail 1, .pushHead 1] = none ∧ runOps (init St.fresh) [.pushTail 0] = none
    ∧ runOps (init St.fresh) [.pushTail 1, .remove 0] = none := by decide

/-- two queues sharing units: a unit popped from queue 0 is pushed to queue 1; removing from queue 1 a
unit that sits in queue 0 is outside the contract (undefined), removing a free unit is `ABT_ERR_POOL` -/
example :
    (World.initial.run [(0, .pushTail 1), (0, .pushTail 2), (1, .pushTail 3), (0, .popHead), (1, .pushHead 1),
        (1, .remove 5), (1, .popTail), (1, .popTail), (0, .size)]).map (·.2)
      = some [.unit, .unit, .unit, .popped 1, .unit, .rc .errPool, .popped 3, .popped 1, .size 1] ∧
    World.initial.run [(0, .pushTail 1), (1, .pushTail 3), (1, .remove 1)] = none := by decide

/-! ## which end each pool function uses (generated table) -/

open ArgoVerif.Gen.PoolEnds ArgoVerif.Gen

/-- abt.h: "if one of CREATE, CREATE_TO, REVIVE, REVIVE_TO is set, a work unit is pushed to the head" -/
def docPushHeadMask : Nat :=
  Consts.ctxOpCreate.toNat ||| Consts.ctxOpCreateTo.toNat ||| Consts.ctxOpRevive.toNat ||| Consts.ctxOpReviveTo.toNat

/-- abt.h: "if ABT_POOL_CONTEXT_OWNER_SECONDARY is set, a work unit is popped from the tail" -/
def docPopTailMask : Nat := Consts.ctxOwnerSecondary.toNat

/-- the documented discipline: which queue function a pool operation must call under context `ctx` -/
def specCall (k : Kind) (sl : Slot) (ctx : Nat) : Call := specCallM docPushHeadMask docPopTailMask k sl ctx

/-- the same as a table shape: context tests and callee per call site -/
def expectedShape (k : Kind) (sl : Slot) : List (List Cond × Call) := expectedShapeM docPushHeadMask docPopTailMask k sl

/-- the generated table, site by site, has the documented shape for every kind × access × slot
(kernel evaluation over the 105 generated entries) -/
theorem table_shape : ∀ k ∈ Kind.all, ∀ a ∈ Access.all, ∀ sl ∈ Slot.all,
    (lookup table k a sl).map (fun e => e.sites.map shape) = some (expectedShape k sl) := by decide

/-- **which end each pool operation uses.**  For every pool kind, every access mode and every
way a unit enters or leaves a built-in pool (push, push_many, pop, pop_many, pop_wait,
pop_timedwait, remove), the C function installed in that slot makes exactly one kind of
`thread_queue_*` call under every context word:
FIFO and FIFO_WAIT enqueue at the tail and dequeue at the head whatever the context; RANDWS pushes
at the head iff the context has CREATE / CREATE_TO / REVIVE / REVIVE_TO and pops at the tail iff it
has OWNER_SECONDARY (pop_timedwait, which has no context, pops at the head); remove is
`thread_queue_remove`.  The table is regenerated from fifo.c / fifo_wait.c / randws.c on every run
(tools/poolgen.py): using another end, another mask or another test changes it and this fails. -/
theorem pool_kind_ends (k : Kind) (a : Access) (sl : Slot) :
    ∃ e, lookup table k a sl = some e ∧ ∀ ctx, enabled e.sites ctx = [specCall k sl ctx] := by
  have hk : k ∈ Kind.all := by cases k <;> simp [Kind.all]
  have ha : a ∈ Access.all := by cases a <;> simp [Access.all]
  have hs : sl ∈ Slot.all := by cases sl <;> simp [Slot.all]
  have h := table_shape k hk a ha sl hs
  cases hl : lookup table k a sl with
  | none => simp [hl] at h
  | some e =>
    refine ⟨e, rfl, fun ctx => ?_⟩
    simp only [hl, Option.map_some, Option.some.injEq] at h
    rw [enabled_eq_shape, h]; exact enabledShape_expected _ _ k sl ctx

/-- the model's pool functions resolve, through the generated table, to exactly the documented queue call -/
theorem pool_call_resolved (k : Kind) (a : Access) (sl : Slot) (ctx : Nat) :
    theCall table k a sl ctx = some (specCall k sl ctx) := by
  obtain ⟨e, hl, he⟩ := pool_kind_ends k a sl
  simp [theCall, hl, he ctx]

/-- **push_many keeps array order.**  On a well-formed pool of any kind and access mode, pushing distinct
free units `us` with one `push_many` call puts them at the end the context selects, in array order: a tail
push (FIFO, FIFO_WAIT, RANDWS without a create/revive flag) appends `us`; a RANDWS head push leaves them
in front, last unit first (each goes in front of the previous one) — exactly as the same pushes one by one. -/
theorem pool_push_many_order (k : Kind) (a : Access) (ctx : Nat) {s : St} (hi : Inv s) (us : List Nat)
    (hnd : us.Nodup) (hfree : ∀ u ∈ us, u ≠ 0 ∧ u ∉ abs s) :
    ∃ s', poolPushMany table k a s us ctx = some s' ∧ Inv s' ∧
      abs s' = (if specCall k .pushMany ctx = .pushHead then us.reverse ++ abs s else abs s ++ us) := by
  have hc := pool_call_resolved k a .pushMany ctx
  simp only [poolPushMany, hc, Option.bind_some]
  by_cases hh : k = .randws ∧ ctx &&& docPushHeadMask ≠ 0
  · have : specCall k .pushMany ctx = .pushHead := by simp [specCall, specCallM, hh]
    rw [this]; simpa using push_many true hi us hnd hfree
  · have : specCall k .pushMany ctx = .pushTail := by simp [specCall, specCallM, hh]
    rw [this]; simpa using push_many false hi us hnd hfree

/-- **pop_many hands out a contiguous run from one end.**  `pop_many` with room for `max` units returns the
first `max` units in queue order (FIFO, FIFO_WAIT, RANDWS owner) or the last `max` units, last first (RANDWS
with OWNER_SECONDARY), fewer only if the pool runs empty, and leaves exactly the others, in order. -/
theorem pool_pop_many_order (k : Kind) (a : Access) (ctx max : Nat) {s : St} (hi : Inv s) :
    ∃ s' got, poolPopMany table k a s max ctx = some (s', got) ∧ Inv s' ∧
      (if specCall k .popMany ctx = .popTail
        then got = (abs s).reverse.take max ∧ abs s' = ((abs s).reverse.drop max).reverse
        else got = (abs s).take max ∧ abs s' = (abs s).drop max) := by
  have hc := pool_call_resolved k a .popMany ctx
  simp only [poolPopMany, hc, Option.bind_some]
  by_cases hh : k = .randws ∧ ctx &&& docPopTailMask ≠ 0
  · have : specCall k .popMany ctx = .popTail := by simp [specCall, specCallM, hh]
    rw [this]
    obtain ⟨s', hl, hi', ha⟩ := popLoop_spec true max hi []
    exact ⟨s', _, hl, hi', by simpa [fromEnd, List.reverse_eq_iff] using ha⟩
  · have : specCall k .popMany ctx = .popHead := by simp [specCall, specCallM, hh]
    rw [this]
    obtain ⟨s', hl, hi', ha⟩ := popLoop_spec false max hi []
    exact ⟨s', _, hl, hi', by simpa [fromEnd] using ha⟩

/-- non-vacuity: a RANDWS create-push_many of 1,2,3 leaves 3,2,1 (head first); a thief's pop_many(2) then
takes 1 and 2 from the tail; on FIFO the same calls append 1,2,3 and take 1,2 from the head -/
example :
    ((poolPushMany table .randws .mpmc (init St.fresh) [1, 2, 3] 0x1000).map abs = some [3, 2, 1]) ∧
    ((poolPushMany table .randws .mpmc (init St.fresh) [1, 2, 3] 0x1000).bind
        (fun s => (poolPopMany table .randws .mpmc s 2 0x200).map (fun p => (p.2, abs p.1))) = some ([1, 2], [3])) ∧
    ((poolPushMany table .fifo .priv (init St.fresh) [1, 2, 3] 0x1000).bind
        (fun s => (poolPopMany table .fifo .priv s 2 0x200).map (fun p => (p.2, abs p.1))) = some ([1, 2], [3])) := by decide

/-- the `_many` functions (and only the multi-unit or retrying ones) make their queue call inside a
loop — one `thread_queue_*` call per unit; single push / pop / remove make it once, outside any loop -/
theorem pool_many_loops : ∀ e ∈ table,
    ((e.slot = .pushMany ∨ e.slot = .popMany) → e.sites.all (·.inLoop) = true) ∧
    ((e.slot = .push ∨ e.slot = .pop ∨ e.slot = .remove) → e.sites.all (! ·.inLoop) = true) := by decide

/-- non-vacuity: concrete context words.  A RANDWS create-push goes to the head, a yield-push to the
tail; the owner pops the head, a thief (OWNER_SECONDARY) the tail; FIFO ignores all of it. -/
example :
    specCall .randws .push Consts.ctxOpCreate.toNat = .pushHead ∧
    specCall .randws .push Consts.ctxOpYield.toNat = .pushTail ∧
    specCall .randws .pop Consts.ctxOwnerPrimary.toNat = .popHead ∧
    specCall .randws .pop Consts.ctxOwnerSecondary.toNat = .popTail ∧
    specCall .fifo .push Consts.ctxOpCreate.toNat = .pushTail ∧
    specCall .fifoWait .pop Consts.ctxOwnerSecondary.toNat = .popHead := by decide

example : (lookup table .randws .mpmc .push).map (·.fn) = some "pool_push_shared" ∧
    (lookup table .randws .priv .popMany).map (fun e => enabled e.sites 0x200) = some [.popTail] := by decide

end ArgoVerif.Props.C07

/-! ## concurrent half: one pool under any number of concurrent callers (`Model.PoolConc`) -/

namespace ArgoVerif.Props.C07
open ArgoVerif ArgoVerif.Model.PoolConc
open ArgoVerif.Model.TQ (specRun specStep specRun_good specRun_perm specRun_fifo good_nil pushedOf leftOf FifoOp Good)
open ArgoVerif.Model.Pool (Kind Access Slot lookup)

/-- **mutual exclusion.**  In every reachable state of a pool — any number of actors, any interleaving of their atomic
steps, spinlock kinds (FIFO, RANDWS) and the mutex kind (FIFO_WAIT), shared and private callbacks — at most one actor is
between taking the pool's lock and releasing it (private callbacks: between call and return): the program counters
`csPush … rel` at which `thread_queue_*` code runs are occupied by one actor at a time. -/
theorem pool_mutual_exclusion {cfg : Cfg} {s : St} (hr : (machine cfg).Reachable s) {a b : Actor}
    (ha : InCS (s.pc a)) (hb : InCS (s.pc b)) : a = b := by
  have hi := inv_reachable hr
  have h1 := hi.csOwner a ha
  have h2 := hi.csOwner b hb
  rw [h1] at h2
  exact Option.some.inj h2

/-- **every queue mutation happens while the caller holds the pool's lock.**  For the lock-taking callbacks (every access
mode but PRIV; FIFO_WAIT always): whenever a step that reads or writes the ring — hook 25 link, hook 26 select/unlink,
hook 27 remove, the guards of remove, the `is_empty` / `is_in_pool` publications — is taken in a reachable state, the
stepping actor owns the lock, the lock word is set, and it is inside the critical section. -/
theorem pool_mutation_requires_lock {cfg : Cfg} {s s' : St} {e : Ev} (hr : (machine cfg).Reachable s)
    (hsh : cfg.shared = true) (hm : isMutation e = true) (hs : step cfg s e = some s') :
    s.owner = some (actorOf e) ∧ s.lock = true ∧ InCS (s.pc (actorOf e)) := by
  have hi := inv_reachable hr
  obtain ⟨ho, hc⟩ := mutation_owner hm hs
  refine ⟨ho, ?_, hc⟩
  cases hl : s.lock
  · have := hi.lockOwner hsh hl; rw [this] at ho; simp at ho
  · rfl

/-- **linearizability (refinement form).**  In every reachable state the ghost history — one deque operation per
linearisation step (push: its `is_in_pool := 1` store; pop / pop_many element / pop_wait: hook 26; remove: hook 27 or the
failing guard), in the order in which those steps happened — is a legal *sequential* history of the deque specification
(`specRun` of `Proofs.TQ`, the same specification the pointer-level ring refines) from the empty queue, with exactly the
recorded results, ending in the pool's current content. -/
theorem pool_linearizable {cfg : Cfg} {s : St} (hr : (machine cfg).Reachable s) :
    specRun [] s.linOps = some (s.q, s.linOuts) :=
  (inv_reachable hr).lin

/-- **a pop returns exactly what it removed at its linearisation point.**  Hook 26 appends `pop_head`/`pop_tail` with the
unit it selected (`0` = NULL, iff the queue is empty at that step) to the history and that unit to the call's result list;
`pool_op_result_recorded` says the call returns that list.  So a `pop_many` cannot report a unit it did not take. -/
theorem pool_pop_linearized {cfg : Cfg} {s s' : St} {a : Actor} {r : Nat} {hd : Bool} (hr : (machine cfg).Reachable s)
    (hs : step cfg s (.take a r hd) = some s') :
    s'.linOps = s.linOps ++ [popOp (tailOf (s.cur a))] ∧ s'.linOuts = s.linOuts ++ [.popped r] ∧
    s'.got a = s.got a ++ (if r = 0 then [] else [r]) ∧ (r = 0 ↔ s.q = []) :=
  take_linearized (inv_reachable hr) hs

/-- a push enters the history (and the content, at the end its context selects) at its last atomic step -/
theorem pool_push_linearized {cfg : Cfg} {s s' : St} {a : Actor} {u : Nat}
    (hs : step cfg s (.storeIn a u true) = some s') :
    s'.linOps = s.linOps ++ [pushOp u (headOf (s.cur a))] ∧ s'.linOuts = s.linOuts ++ [.unit] ∧
    s'.q = (if headOf (s.cur a) then u :: s.q else s.q ++ [u]) :=
  push_linearized hs

/-- a successful remove enters the history at hook 27 -/
theorem pool_remove_linearized {cfg : Cfg} {s s' : St} {a : Actor} {u : Nat} (hs : step cfg s (.unlink a u) = some s') :
    s'.linOps = s.linOps ++ [.remove u] ∧ s'.linOuts = s.linOuts ++ [.rc .success] ∧ s'.rcOk a = true ∧
    s.cur a = .remove u :=
  remove_linearized hs

/-- the value a call returns is the one its linearisation steps recorded (units taken, remove's code) -/
theorem pool_op_result_recorded {cfg : Cfg} {s s' : St} {a : Actor} {r : Res} (hs : step cfg s (.ret a r) = some s') :
    r = resultOf s a :=
  ret_recorded hs

/-- **each pushed unit is handed out at most once per push, none is invented.**  In every reachable state the multiset of
units whose push was linearised equals the multiset of units handed out by linearised pops / removes plus the current
content, and the content has no duplicates. -/
theorem pool_each_pushed_popped_once {cfg : Cfg} {s : St} (hr : (machine cfg).Reachable s) :
    (pushedOf s.linOps).Perm (leftOf s.linOps s.linOuts ++ s.q) ∧ s.q.Nodup := by
  have hl := pool_linearizable hr
  exact ⟨by simpa using specRun_perm good_nil hl, (specRun_good good_nil hl).1⟩

/-- **FIFO order under concurrency.**  If only tail pushes and head pops were linearised (FIFO and FIFO_WAIT pools:
`pool_kind_ends`; RANDWS without head / tail contexts) and nothing was removed, the units handed out followed by the
current content are the pushes in linearisation order. -/
theorem pool_fifo_order {cfg : Cfg} {s : St} (hr : (machine cfg).Reachable s) (hf : ∀ op ∈ s.linOps, FifoOp op) :
    leftOf s.linOps s.linOuts ++ s.q = pushedOf s.linOps := by
  simpa using (specRun_fifo good_nil hf (pool_linearizable hr)).symm

/-- **a pop returns nothing only if the pool was empty at some instant during the call.**  Whenever, after any run
`tr`, a pop-like call of actor `a` is about to return fewer units than it asked for (pop / pop_wait / pop_timedwait:
nothing; pop_many: fewer than `max`), the run has a prefix ending in a state whose content is empty and in which that
very call is already in progress (`a` starts no call in the remainder of the run).  This covers the lock-free
`is_empty` pre-checks (which may be stale by the time the caller acts on them) as well as the locked paths. -/
theorem pool_pop_empty_only_if_empty_instant {cfg : Cfg} {tr : List Ev} {s : St} {a : Actor}
    (hrun : (machine cfg).run init tr = some s) (hpc : s.pc a = .retp ∨ s.pc a = .wIdle)
    (hpl : isPopLike (s.cur a) = true) (hlt : (s.got a).length < wants (s.cur a)) :
    EmptyInstant cfg tr a := by
  have hi := inv_run hrun
  have hidle : s.pc a ≠ .idle := by cases hpc with
    | inl e => simp [e]
    | inr e => simp [e]
  have hcg := hi.cntGot a hpl hidle
  have hse := hi.emptySeen a hpl (by cases hpc with
    | inl e => exact Or.inl e
    | inr e => exact Or.inr (Or.inr e))
  cases hse with
  | inl h0 => omega
  | inr h1 => exact sawEmpty_witness tr hrun h1

/-- **remove fails only if the unit was not in the pool** at the observation that made it fail (the lock-free
`is_empty` / `is_in_pool` pre-checks of FIFO_WAIT, or the guards under the lock), within the call. -/
theorem pool_remove_fails_only_if_absent {cfg : Cfg} {s : St} {a : Actor} (hr : (machine cfg).Reachable s)
    (hpc : s.pc a = .retp) (hrm : isRemove (s.cur a) = true) : s.rcOk a = true ∨ s.sawAbsent a = true :=
  (inv_reachable hr).rmSeen a hrm (Or.inl hpc)

/-- **emptiness is exact whenever the pool is quiescent**: when no call is in progress, `is_empty` is 1 iff the pool has
no unit, and every unit in the pool has `is_in_pool = 1`. -/
theorem pool_quiescent_exact {cfg : Cfg} {s : St} (hr : (machine cfg).Reachable s) (hq : ∀ a, s.pc a = .idle) :
    (s.flag = true ↔ s.q = []) ∧ ∀ u ∈ s.q, s.inPool u = true := by
  have hi := inv_reachable hr
  refine ⟨⟨hi.flagQ, fun he => ?_⟩, hi.inQ⟩
  cases hf : s.flag
  · have := hi.lagQ hf he
    cases hl : s.lagF with
    | none => exact absurd hl this
    | some a => have := hi.lagPc a hl; simp [hq a] at this
  · rfl

/-! ### non-vacuity and rejected traces -/

/-- a real interleaving on a shared spinlock pool: actor 2's pop reads `is_empty = 1` *after* actor 1 has linked unit 5
but before it published `is_empty = 0` (stale pre-check: returns nothing); then a second pop spins on the held lock,
gets it after the release and takes unit 5 -/
def demoTrace : List Ev :=
  [.call 1 (.push 5 false), .tas 1 false, .link 1 5 false, .call 2 (.pop false), .loadEmpty 2 true, .ret 2 (.popped []),
   .storeEmpty 1 false, .call 2 (.pop false), .loadEmpty 2 false, .tas 2 true, .loadEmpty 2 false, .loadLock 2 true,
   .storeIn 1 5 true, .clear 1, .loadEmpty 2 false, .loadLock 2 false, .tas 2 false, .ret 1 .unit, .take 2 5 true,
   .storeEmpty 2 true, .storeIn 2 5 false, .clear 2, .ret 2 (.popped [5])]

example : ((machine ⟨.spin, true⟩).run init demoTrace).map (fun s => (s.q, s.flag, s.lock, s.linOps, s.linOuts)) =
    some ([], true, false, [.pushTail 5, .popHead], [.unit, .popped 5]) := by decide

/-- `pool_mutual_exclusion` / `pool_mutation_requires_lock` talk about states that exist: after its successful
test-and-set and the link step, actor 1 is inside the critical section, owns the set lock, and its next step is a mutation -/
example : ∃ s, (machine ⟨.spin, true⟩).run init (demoTrace.take 3) = some s ∧ InCS (s.pc 1) ∧ s.owner = some 1 ∧
    s.lock = true ∧ (step ⟨.spin, true⟩ s (.storeEmpty 1 false)).isSome = true :=
  ⟨_, rfl, by decide, by decide, by decide, by decide⟩

/-- `pool_quiescent_exact`: a quiescent state with a unit in the pool (flag 0, `is_in_pool` 1) -/
example : ((machine ⟨.spin, true⟩).run init
    [.call 1 (.push 5 false), .tas 1 false, .link 1 5 false, .storeEmpty 1 false, .storeIn 1 5 true, .clear 1, .ret 1 .unit]).map
      (fun s => (s.q, s.flag, s.inPool 5, s.pc 1 == .idle)) = some ([5], false, true, true) := by decide

/-- the hypotheses of `pool_pop_empty_only_if_empty_instant` are satisfiable (the empty-handed pop of `demoTrace`) -/
example : ∃ s, (machine ⟨.spin, true⟩).run init (demoTrace.take 5) = some s ∧ s.pc 2 = .retp ∧
    isPopLike (s.cur 2) = true ∧ (s.got 2).length < wants (s.cur 2) :=
  ⟨_, rfl, by decide, by decide, by decide⟩

/-- FIFO_WAIT: push_many of two units under the mutex, a pop_wait that finds the pool empty, waits and is woken,
a pop_many(3) that comes back with the two units and an observed-empty third attempt -/
example : ((machine ⟨.mutex, true⟩).run init
    [.call 2 (.popWait false), .mlock 2, .loadEmpty 2 true, .condWait 2, .call 1 (.pushMany [7, 8] false), .cbPushMany 1 2, .mlock 1,
     .link 1 7 false, .storeEmpty 1 false, .storeIn 1 7 true, .link 1 8 false, .storeIn 1 8 true, .signal 1, .wake 2,
     .munlock 1, .ret 1 .unit, .mlock 2, .take 2 7 true, .storeIn 2 7 false, .munlock 2, .ret 2 (.popped [7]),
     .call 2 (.popMany 3 false), .loadEmpty 2 false, .mlock 2, .take 2 8 true, .storeEmpty 2 true, .storeIn 2 8 false,
     .take 2 0 true, .munlock 2, .ret 2 (.popped [8])]).map (fun s => (s.q, s.linOuts, s.sawEmpty 2)) =
    some ([], [.unit, .unit, .popped 7, .popped 8, .popped 0], true) := by decide

/-- **rejected**: linking a unit without owning the lock is not a run of the model (shared callbacks) … -/
example : (machine ⟨.spin, true⟩).run init [.call 1 (.push 5 false), .link 1 5 false] = none := rfl

/-- … nor is taking a unit while somebody else holds the lock … -/
example : (machine ⟨.spin, true⟩).run init
    [.call 1 (.push 5 false), .tas 1 false, .link 1 5 false, .storeEmpty 1 false, .storeIn 1 5 true,
     .call 2 (.pop false), .loadEmpty 2 false, .take 2 5 true] = none := rfl

/-- … nor a pop_many that reports a unit it did not take (two slots, one unit popped) … -/
example : (machine ⟨.mutex, true⟩).run init
    [.call 1 (.push 5 false), .mlock 1, .link 1 5 false, .storeEmpty 1 false, .storeIn 1 5 true, .signal 1, .munlock 1,
     .ret 1 .unit, .call 2 (.popMany 2 false), .loadEmpty 2 false, .mlock 2, .take 2 5 true, .storeEmpty 2 true,
     .storeIn 2 5 false, .take 2 0 true, .munlock 2, .ret 2 (.popped [5, 0])] = none := rfl

/-- … nor overlapping calls on a private pool (ABT_POOL_ACCESS_PRIV contract) -/
example : (machine ⟨.spin, false⟩).run init [.call 1 (.push 5 false), .call 2 (.pop false)] = none := rfl

/-- private callbacks, one caller: push then pop without any lock operation is a run -/
example : ((machine ⟨.spin, false⟩).run init
    [.call 1 (.push 5 true), .link 1 5 true, .storeEmpty 1 false, .storeIn 1 5 true, .ret 1 .unit,
     .call 1 (.pop true), .take 1 5 false, .storeEmpty 1 true, .storeIn 1 5 false, .ret 1 (.popped [5])]).map
      (fun s => (s.q, s.linOps)) = some ([], [.pushHead 5, .popTail]) := by decide

/-! ### one API-level push_many / pop_many is one atomic multi-unit operation -/

/-- **`ABT_pool_push_threads(_ex)` hands the whole batch to the pool in one callback invocation.**  The only step that
leaves the wrapper (`pmCb`, reached by every push_many call with a non-empty batch) is hook 23 with the count of *all*
units of the call; afterwards the call is inside the callback and never comes back to the wrapper, so the callback is
invoked exactly once per API call, with the full batch. -/
theorem pool_push_many_single_callback {cfg : Cfg} {s s' : St} {a : Actor} {n : Nat} (hr : (machine cfg).Reachable s)
    (hs : step cfg s (.cbPushMany a n) = some s') :
    s.pc a = .pmCb ∧ n = (unitsOf (s.cur a)).length ∧ isPushLike (s.cur a) = true ∧ s'.pc a ≠ .pmCb ∧
    s'.todo a = unitsOf (s.cur a) := by
  have hi := inv_reachable hr
  have h2 := inv2_reachable hr
  simp only [step, stepCbPushMany] at hs
  split at hs <;> cases hs
  next hg =>
  simp only [not_or, Decidable.not_not] at hg
  obtain ⟨hpc, hn⟩ := hg
  have hp : isPushLike (s.cur a) = true := by
    have := (hi.typed a).1 (by simp [hpc, PushPc])
    have := call_kind (s.cur a)
    grind
  obtain ⟨_, ht⟩ := h2.pre a hp (by simp [hpc, PrePush])
  refine ⟨hpc, by rw [hn, ht], hp, ?_, by simpa [setPc] using ht⟩
  have := bodyPc_classes cfg (s.cur a)
  simp only [setPc, upd_same]
  grind

/-- **one push_many is one atomic multi-push, whatever its length.**  When a push / push_many call has pushed its last
unit and is about to signal / release the lock (or, lock-free callbacks, to return), *every* unit of the call has been
pushed in this one critical section (`done = us`, nothing left to do) … -/
theorem pool_push_many_complete {cfg : Cfg} {s : St} {a : Actor} (hr : (machine cfg).Reachable s)
    (hp : isPushLike (s.cur a) = true) (hpc : s.pc a = .sig ∨ s.pc a = .rel ∨ s.pc a = .retp) :
    s.done a = unitsOf (s.cur a) ∧ s.todo a = [] := by
  have h2 := inv2_reachable hr
  have ht := h2.fin a hp hpc
  have hb := h2.batch a hp (by rcases hpc with e | e | e <;> simp [e])
  have : pending s a = [] := by rcases hpc with e | e | e <;> simp [pending, e]
  rw [this, ht] at hb
  exact ⟨by simpa using hb.symm, ht⟩

/-- … and while the call is inside that critical section the pool's content is exactly what the call found when it took the
lock plus, contiguously and in array order at the end its context selects (head pushes: reversed, in front), the units
it has pushed so far.  With `pool_mutual_exclusion` nobody else touches the ring in between: no other operation can
observe a strict prefix of the batch, and no other producer's unit can land inside it. -/
theorem pool_push_many_contiguous {cfg : Cfg} {s : St} {a : Actor} (hr : (machine cfg).Reachable s)
    (hcs : InCS (s.pc a)) (hp : isPushLike (s.cur a) = true) :
    s.q = if headOf (s.cur a) then (s.done a).reverse ++ s.base a else s.base a ++ s.done a :=
  (inv2_reachable hr).contig a hcs hp

/-- **one pop_many is one atomic multi-pop.**  While a pop-like call is inside its critical section, what it found when it
took the lock is what it has taken so far followed by what is left (tail pops: what is left followed by the taken units,
last first): it takes a contiguous run from one end, in queue order, within one lock hold. -/
theorem pool_pop_many_contiguous {cfg : Cfg} {s : St} {a : Actor} (hr : (machine cfg).Reachable s)
    (hcs : InCS (s.pc a)) (hp : isPopLike (s.cur a) = true) :
    s.base a = if tailOf (s.cur a) then s.q ++ (s.got a).reverse else s.got a ++ s.q :=
  (inv2_reachable hr).taken a hcs hp

/-- non-vacuity: a three-unit push_many on a pool holding unit 9, just before the release: everything pushed, contiguous -/
example : ((machine ⟨.spin, true⟩).run init
    [.call 1 (.push 9 false), .tas 1 false, .link 1 9 false, .storeEmpty 1 false, .storeIn 1 9 true, .clear 1, .ret 1 .unit,
     .call 2 (.pushMany [4, 5, 6] false), .cbPushMany 2 3, .tas 2 false, .link 2 4 false, .storeIn 2 4 true,
     .link 2 5 false, .storeIn 2 5 true, .link 2 6 false, .storeIn 2 6 true]).map
      (fun s => (s.pc 2 == .rel, s.q, s.base 2, s.done 2, s.todo 2)) = some (true, [9, 4, 5, 6], [9], [4, 5, 6], []) := by decide

/-- **rejected**: the wrapper handing over only a part of the batch (hook 23 with 2 of 3 units) is not a run … -/
example : (machine ⟨.spin, true⟩).run init [.call 2 (.pushMany [4, 5, 6] false), .cbPushMany 2 2] = none := rfl

/-- … nor a second callback invocation / a second lock acquisition inside one push_many call -/
example : (machine ⟨.spin, true⟩).run init
    [.call 2 (.pushMany [4, 5] false), .cbPushMany 2 2, .tas 2 false, .link 2 4 false, .storeEmpty 2 false, .storeIn 2 4 true,
     .link 2 5 false, .storeIn 2 5 true, .clear 2, .cbPushMany 2 1] = none ∧
    (machine ⟨.spin, true⟩).run init
    [.call 2 (.pushMany [4, 5] false), .cbPushMany 2 2, .tas 2 false, .link 2 4 false, .storeEmpty 2 false, .storeIn 2 4 true,
     .clear 2] = none := ⟨rfl, rfl⟩

/-! ### the lock discipline of the generated table -/

open ArgoVerif.Gen.PoolEnds in
/-- **every queue call of a callback installed for a shared access mode is made under the pool's lock.**  Over the table
regenerated from fifo.c / fifo_wait.c / randws.c on every run (tools/poolgen.py: per call site, whether it lies between
`ABTD_spinlock_acquire` / a successful `thread_queue_acquire_spinlock_if_not_empty` / `pthread_mutex_lock` and the
release): for every access mode but PRIV, for FIFO_WAIT in every mode, and for pop_wait / pop_timedwait in every mode, each
`thread_queue_push_* / pop_* / remove` call site is locked.  Installing a lock-free callback for SPSC / MPSC / SPMC / MPMC,
or moving a queue call out of the critical section, makes this fail. -/
theorem table_lock_discipline : ∀ e ∈ table,
    (e.access ≠ .priv ∨ e.kind = .fifoWait ∨ e.slot = .popWait ∨ e.slot = .popTimedwait) →
    e.locked.length = e.sites.length ∧ e.locked.all id = true := by decide

/-- the configuration of `Model.PoolConc` the property demands for a pool kind × access mode -/
def specCfg (k : Kind) (a : Access) : Cfg :=
  ⟨if k = .fifoWait then .mutex else .spin, k = .fifoWait || a != .priv⟩

open ArgoVerif.Gen.PoolEnds in
/-- do the push / pop / push_many / pop_many / remove callbacks the table installs for `k × a` take the lock? -/
def tableShared (k : Kind) (a : Access) : Bool :=
  [Slot.push, .pop, .pushMany, .popMany, .remove].all fun sl =>
    (lookup table k a sl).any fun e => e.locked.all id && e.locked.length == e.sites.length

/-- **the code's dispatch is the model's configuration**: for every kind × access mode the callbacks installed by
`ABTI_pool_get_*_def` are lock-taking exactly when `Model.PoolConc` is instantiated with `shared = true` for it, i.e. the
trace validation of T3 (which uses `specCfg`) and the theorems above talk about the configuration the code really uses -/
theorem table_matches_model_cfg : ∀ k ∈ Kind.all, ∀ a ∈ Access.all, tableShared k a = (specCfg k a).shared := by decide

example : specCfg .fifo .spsc = ⟨.spin, true⟩ ∧ specCfg .randws .priv = ⟨.spin, false⟩ ∧ specCfg .fifoWait .priv = ⟨.mutex, true⟩ := by
  decide

end ArgoVerif.Props.C07
