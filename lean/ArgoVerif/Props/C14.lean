import ArgoVerif.Proofs.UnitMapConc
import ArgoVerif.Proofs.Assoc
import ArgoVerif.Model.UnitMapLock
/-
Props.C14 — user-defined pools: unit ↔ work-unit mapping.
Lemmas live in Proofs/UnitMap.lean (sequential table), Proofs/UnitMapConc.lean (lock-free get,
bucket locks), Proofs/Assoc.lean (create/free balance).  Section `lockdisc` is about
Model.UnitMapLock (the bucket locks as a machine that validates observed traces: no hold-and-wait)
and is proved here; namespace `batch` is about the `pop_many` adapter over a legacy pool's `p_pop`
(Model.Assoc).

Not covered by a theorem here: the last sentence of the property ("work units execute
exactly once whatever order a user pool or scheduler hands them out in") concerns the
scheduler loop; this component checks it dynamically only (completion counters of
harness/api_userpool.c under a PRNG pop policy).
-/
namespace ArgoVerif.Props.C14
open ArgoVerif ArgoVerif.Model

/-! ### the unit → work-unit table, one caller at a time -/
section table
open ArgoVerif.Model.UnitMap

abbrev Spec := UInt64 → Option Nat

/-- client contract of `unit.c`: units are non-NULL; a unit is mapped at most once at a time
(live units of user pools are distinct handles); unmap / get only for mapped units -/
def legal (z : UInt64) (m : Spec) : Op → Prop
  | .map u _ _ => u ≠ z ∧ m u = none
  | .unmap u => u ≠ z ∧ m u ≠ none
  | .get u => u ≠ z ∧ m u ≠ none

def specStep (m : Spec) : Op → Out → Spec
  | .map u th _, .mapR true => fun x => if x = u then some th else m x
  | .unmap u, .unmapR => fun x => if x = u then none else m x
  | _, _ => m

/-- a map fails only if its `malloc` fails; unmap and get never abort; get returns the mapped
work unit -/
def specOut (m : Spec) : Op → Out → Prop
  | .map _ _ mem, .mapR ok => (mem = true → ok = true)
  | .unmap _, .unmapR => True
  | .get u, .getR th => m u = some th
  | _, _ => False

/-- as long as the caller keeps the contract, every result is what the finite map says -/
def specRun (z : UInt64) (m : Spec) : List Op → List Out → Prop
  | [], [] => True
  | op :: ops, o :: os => legal z m op → specOut m op o ∧ specRun z (specStep m op o) ops os
  | _, _ => False

theorem unitmap_step_refines (m : UM) (op : Op) (hw : WF m) (hl : legal m.nul (absMap m) op) :
    WF (step m op).1 ∧ (step m op).1.nul = m.nul ∧ specOut (absMap m) op (step m op).2 ∧
    ∀ x, absMap (step m op).1 x = specStep (absMap m) op (step m op).2 x := by
  cases op with
  | map u th mem =>
    have hs := map_spec m u th mem hw hl.1 hl.2
    simp only [step]
    cases hm : mapThread m u th mem with
    | none =>
      refine ⟨hw, rfl, ?_, fun _ => rfl⟩
      intro hmem; have := hs.1 hmem; rw [hm] at this; cases this
    | some m' =>
      obtain ⟨h1, h2, h3, _⟩ := hs.2 m' hm
      exact ⟨h1, h2.2, fun _ => rfl, h3⟩
  | unmap u =>
    obtain ⟨m', hm, h1, h2, h3, _⟩ := unmap_spec m u hw hl.1 hl.2
    simp only [step, hm]
    exact ⟨h1, h2.2, trivial, h3⟩
  | get u =>
    simp only [step]
    cases hg : getThread m u with
    | none =>
      have : absMap m u = none := by simp [absMap, hl.1, hg]
      exact absurd this hl.2
    | some th =>
      refine ⟨hw, rfl, ?_, fun _ => rfl⟩
      simp [specOut, absMap, hl.1, hg]

/-- **C14 (table is a finite map)**.  From any well-formed table (in particular the empty one
made by `ABTI_unit_init_hash_table`), for *every* sequence of `unit_map_thread` /
`unit_unmap_thread` / `unit_get_thread_from_user_defined_unit` on `uintptr_t` handles —
colliding in a bucket or not, with the real hash function, tombstones reused — that keeps
the client contract, no assertion fires, a map fails only for lack of memory, and every get
returns the work unit last mapped to that unit. -/
theorem unitmap_refines_map (ops : List Op) (m : UM) (hw : WF m) :
    specRun m.nul (absMap m) ops (runOps m ops).2 := by
  induction ops generalizing m with
  | nil => simp [runOps, specRun]
  | cons op ops ih =>
    simp only [runOps, specRun]
    intro hl
    have hs := unitmap_step_refines m op hw hl
    have ih' := ih (step m op).1 hs.1
    have heq : absMap (step m op).1 = specStep (absMap m) op (step m op).2 := funext hs.2.2.2
    rw [heq, hs.2.1] at ih'
    exact ⟨hs.2.2.1, ih'⟩

theorem unitmap_init_empty (exp : Nat) (z : UInt64) : WF (empty exp z) ∧ ∀ u, absMap (empty exp z) u = none :=
  ⟨empty_wf exp z, absMap_empty exp z⟩

/-- **C14 (tombstones are reused, chains never shrink)**.  A map into a bucket that contains a
tombstone succeeds without allocating and leaves every chain length unchanged; no operation
ever shortens a chain (elements are only released by `unit_finalize_hash_table`). -/
theorem unitmap_tombstones_reused (m : UM) (u : UInt64) (th : Nat) (hw : WF m) (hu : u ≠ m.nul)
    (hnew : absMap m u = none) (htomb : ∃ e ∈ m.b (hashIndex m.exp u), e.unit = m.nul) :
    ∃ m', mapThread m u th false = some m' ∧ ∀ i, (m'.b i).length = (m.b i).length := by
  have hs := map_spec m u th false hw hu hnew
  obtain ⟨e, he, he0⟩ := htomb
  cases hm : mapThread m u th false with
  | none =>
    simp only [mapThread] at hm
    cases hr : chainReuse m.nul u th (m.b (hashIndex m.exp u)) with
    | none => exact absurd he0 ((chainReuse_none m.nul u th _).mp hr e he)
    | some c => simp [hr] at hm
  | some m' => exact ⟨m', rfl, (hs.2 m' hm).2.2.2.2 ⟨e, he, he0⟩⟩

/-- **C14 (same handle in two pools)**.  abt.h lets different user pools use the same `ABT_unit`
value for a work unit (e.g. its `ABT_thread` handle).  Moving such a work unit from one user
pool to another calls `unit_map_thread(u, t)` while `u ↦ t` is still mapped and then
`unit_unmap_thread(u)` once.  For every well-formed table: the map fails only for lack of
memory; the unmap then succeeds (no assertion), the table is well formed again and represents
exactly the same finite map — in particular `get(u)` still returns `t` — and no chain shrank.
(In between the unit is stored twice; the unmap removes the first occurrence.) -/
theorem unitmap_remap_same_unit (m : UM) (u : UInt64) (t : Nat) (mem : Bool) (hw : WF m) (hu : u ≠ m.nul)
    (hm : absMap m u = some t) :
    (mem = true → (mapThread m u t mem).isSome = true) ∧
    ∀ m1, mapThread m u t mem = some m1 →
      ∃ m2, unmapThread m1 u = some m2 ∧ WF m2 ∧ m2.nul = m.nul ∧ getThread m2 u = some t ∧
        (∀ x, absMap m2 x = absMap m x) ∧ ∀ i, (m.b i).length ≤ (m2.b i).length := by
  have hs := remap_spec m u t mem hw hu hm
  refine ⟨hs.1, ?_⟩
  intro m1 h1
  obtain ⟨m2, a1, a2, a3, a4, a5⟩ := hs.2 m1 h1
  refine ⟨m2, a1, a2, a3.2, ?_, a4, a5⟩
  have := a4 u
  rw [hm] at this
  simpa [absMap, a3.2, hu] using this

theorem unitmap_chains_never_shrink (m : UM) (op : Op) (i : Nat) :
    (m.b i).length ≤ ((step m op).1.b i).length := by
  cases op with
  | map u th mem =>
    simp only [step, mapThread]
    cases hr : chainReuse m.nul u th (m.b (hashIndex m.exp u)) with
    | some c => exact updB_length _ (Nat.le_of_eq (chainReuse_length hr).symm) i
    | none =>
      cases mem with
      | false => exact Nat.le_refl _
      | true => exact updB_length _ (Nat.le_succ _) i
  | unmap u =>
    simp only [step, unmapThread]
    cases hr : chainClear m.nul u (m.b (hashIndex m.exp u)) with
    | none => exact Nat.le_refl _
    | some c => exact updB_length _ (Nat.le_of_eq (chainClear_length hr).symm) i
  | get u =>
    simp only [step]
    cases getThread m u <;> exact Nat.le_refl _

/-- non-vacuity: three units colliding in bucket 1 of the real 256-bucket hash (0x8, 0x800 and
0x17f8 all hash to 1), unmap of the middle one, reuse of its tombstone by a fourth colliding
unit without allocating (`mem = false`), lookups before and after -/
example :
    (runOps (empty 8 7) [.map 0x8 1 true, .map 0x800 2 true, .map 0x17f8 3 true, .get 0x800, .unmap 0x800,
                       .get 0x8, .get 0x17f8, .map 0x1ff0 4 false, .get 0x1ff0, .get 0x8]).2
      = [.mapR true, .mapR true, .mapR true, .getR 2, .unmapR, .getR 1, .getR 3, .mapR true, .getR 4, .getR 1] ∧
    (hashIndex 8 0x8, hashIndex 8 0x800, hashIndex 8 0x17f8, hashIndex 8 0x1ff0) = (1, 1, 1, 1) := by
  decide

end table

/-! ### lock-free lookup against concurrent map / unmap -/
section lockfree
open ArgoVerif.Model.UnitMap

/-- **C14 (lock-free get)**.  Any number of callers run `unit_map_thread`, `unit_unmap_thread`
and the lock-free `unit_get_thread_from_user_defined_unit` concurrently, interleaved at the
granularity of single loads/stores of list-cell fields and lock operations, for an arbitrary
bucket function `h` (so same-bucket interference is included), under the contract written in
the guards of `Model.UnitMap.Step` (a get of `u` starts after a `map(u, th)` completed and no
`unmap(u)` starts before it returns).  Then in every reachable state:
* a get that has returned, returned exactly `th`;
* no get and no unmap ever reaches the end of a chain (the `ABTI_ASSERT(p_cur)` never fires);
* the abstract map `abs` is realised in the heap: a mapped unit sits in exactly one linked
  cell, in the bucket `h u`, whose `p_thread` is its work unit. -/
theorem unitmap_lockfree_get (h : Nat → Nat) (tr : List (Nat × Act)) (s : CSt)
    (hr : Star (Step h) CSt.init tr s) :
    (∀ t u th r, s.pc t = .gDone u th r → r = th) ∧
    (∀ t, ¬ stuck s t) ∧
    (∀ u th, s.abs u = some th →
      s.wh u ≠ 0 ∧ s.pub (s.wh u) = true ∧ s.bkt (s.wh u) = h u ∧ (s.cell (s.wh u)).unit = u ∧
      (s.cell (s.wh u)).thr = th ∧ ∀ e, s.pub e = true → (s.cell e).unit = u → e = s.wh u) := by
  have hi := inv_reachable hr
  refine ⟨?_, ?_, ?_⟩
  · intro t u th r hpc
    have := hi.pcs t; rw [hpc] at this; exact this
  · intro t hst
    rcases hst with ⟨u, th, hpc⟩ | ⟨u, hpc⟩
    · have hp := hi.pcs t; rw [hpc] at hp; simp only [PcOK] at hp
      have h1 := hi.g.abs_ok u th hp.1
      have h2 := hi.g.pub_lt (s.wh u) (hi.g.wh_ok u h1.1).1
      omega
    · have hp := hi.pcs t; rw [hpc] at hp; simp only [PcOK] at hp
      omega
  · intro u th ha
    have h1 := hi.g.abs_ok u th ha
    have h2 := hi.g.wh_ok u h1.1
    refine ⟨h1.1, h2.1, h2.2.2.1, h2.2.1, h1.2.1, ?_⟩
    intro e he heu
    have := hi.g.uniq e he (by rw [heu]; exact h2.2.2.2)
    rw [heu] at this; exact this.symm

end lockfree

/-! ### association with pools: create_unit / free_unit -/
section assoc
open ArgoVerif.Model.Assoc

/-- **C14 (create/free balance)**.  Start with no work unit associated.  After *every* legal
sequence of `ABTI_thread_init_pool`, `ABTI_thread_set_associated_pool`,
`ABTI_unit_set_associated_pool`, `ABTI_thread_unset_associated_pool`, hand-overs of units to
pools and lookups — over any mix of built-in and user pools, with `create_unit` returning NULL,
a handle no other work unit uses, or (user pool → user pool) the very handle the work unit
already has, and the table's `malloc` failing at arbitrary points — no table assertion fires, and for every
non-NULL unit handle `u` and pool `p`:
`#create_unit(p)=u − #free_unit(p,u) = [some work unit currently has unit u and pool p]`,
the log alternates create/free for each (u,p) (`LogOK`), so every created unit is freed
exactly once when its association ends; when no work unit is associated with `p` any more
all units of `p` have been freed. -/
theorem assoc_create_free_balance (exp : Nat) (z : UInt64) (isb : Nat → Bool) (ops : List Op)
    (hl : LegalRun (St.init exp z isb) ops) :
    ∃ s os, runOps (St.init exp z isb) ops = some (s, os) ∧ s.map.nul = z ∧ LogOK z s.log ∧
      ∀ u p, u ≠ z →
        creates s.log u p = frees s.log u p + (if live s u p = true then 1 else 0) ∧
        (live s u p = true ↔ ∃ t, s.thr t = ⟨.user u, some p⟩) := by
  obtain ⟨s, os, hr, hi, rfl⟩ := run_init_spec exp z isb ops hl
  refine ⟨s, os, hr, rfl, hi.log_ok, fun u p hu => ⟨?_, ?_⟩⟩
  · rw [← hi.bridge u p hu]; exact log_balance s.map.nul s.log hi.log_ok u p hu
  · constructor
    · intro hlv
      simp only [live] at hlv
      split at hlv
      · next t hm => exact ⟨t, by have := hi.map_ok u t hm; cases hx : s.thr t; simp_all⟩
      · cases hlv
    · rintro ⟨t, ht⟩
      simp [live, (hi.user_ok t u (by rw [ht])).2.1, ht]

/-- **C14 (no use after free)**.  In every such run, each unit handed to a user pool function
(push / remove / is_in_pool …) and each unit passed to `free_unit` was created by that pool
and not freed since; each `create_unit` result was not live. -/
theorem assoc_no_use_after_free (exp : Nat) (z : UInt64) (isb : Nat → Bool) (ops : List Op)
    (hl : LegalRun (St.init exp z isb) ops) :
    ∃ s os, runOps (St.init exp z isb) ops = some (s, os) ∧ LogOK z s.log := by
  obtain ⟨s, os, hr, _, hlog, _⟩ := assoc_create_free_balance exp z isb ops hl
  exact ⟨s, os, hr, hlog⟩

/-- **C14 (a handle is never free for reuse while still in the table)**.  Every `create_unit` /
`free_unit` event of the log records how many elements of the unit table hold the handle at the
instant of the callback.  In every legal run (`CountOK`): when `create_unit` returns `u`, and when
`free_unit` is called with `u`, the table holds `u` exactly as often as there are *other*
outstanding units with that handle (created, not yet passed to `free_unit` — non-zero only when
pools share one handle for a work unit).  So the runtime maps a handle only after `create_unit`
returned it and has already unmapped it when it hands it to `free_unit`: at no instant is a handle
that its pool may recycle still present in the table.  For handles that are not shared the
recorded multiplicity is 0 at every callback (second part). -/
theorem assoc_handle_unmapped_when_recyclable (exp : Nat) (z : UInt64) (isb : Nat → Bool) (ops : List Op)
    (hl : LegalRun (St.init exp z isb) ops) :
    ∃ s os, runOps (St.init exp z isb) ops = some (s, os) ∧ CountOK z s.log ∧
      ∀ u, u ≠ z → crT s.log u = frT s.log u + (if (UnitMap.absMap s.map u).isSome then 1 else 0) := by
  obtain ⟨s, os, hr, hi, rfl⟩ := run_init_spec exp z isb ops hl
  exact ⟨s, os, hr, hi.count_ok, hi.cnt⟩

/-- reading `CountOK` for one event: a `free_unit(p, u)` that is the only outstanding unit with that
handle happens with `u` absent from the table; a `create_unit` result that no outstanding unit
uses is absent from the table -/
theorem countOK_free_absent (z : UInt64) (p : Nat) (u : UInt64) (n : Nat) (r : List Ev)
    (h : CountOK z (.free p u n :: r)) (hone : crT r u = frT r u + 1) : n = 0 := by
  simp only [CountOK] at h; omega

theorem countOK_create_absent (z : UInt64) (p t : Nat) (u : UInt64) (m : Nat) (r : List Ev)
    (h : CountOK z (.create p t u m :: r)) (hu : u ≠ z) (hnone : crT r u = frT r u) : m = 0 := by
  simp only [CountOK] at h; have := h.1 hu; omega

/-- **C14 (failure rollback)**.  If `ABTI_thread_set_associated_pool` fails (the new pool's
`create_unit` returned NULL → ABT_ERR_OTHER, or the table could not allocate → ABT_ERR_MEM)
every descriptor keeps its unit and pool, the table is unchanged, and the only calls made are
`create_unit` (→ NULL), or `create_unit` followed by `free_unit` of the same new unit; with
memory available and a non-NULL unit it succeeds. -/
theorem assoc_failure_rollback (s : St) (t p : Nat) (nu : UInt64) (mem : Bool) (hi : AInv s)
    (hl : Legal s (.setPool t p nu mem)) :
    ∃ s' rc, setAssoc s t p nu mem = some (s', rc) ∧ AInv s' ∧
      (rc ≠ .ok → RolledBack s s' t p nu) ∧ (mem = true → nu ≠ s.map.nul → rc = .ok) := by
  obtain ⟨s', rc, h1, h2⟩ := setAssocCore_spec s t _ p nu mem hi rfl hl.1 hl.2
  exact ⟨s', rc, h1, h2.ainv, h2.rollback, h2.mem_ok⟩

/-- the same for `ABTI_unit_set_associated_pool` (ABT_pool_push / ABT_xstream_run_unit) and
`ABTI_thread_init_pool` (creation) -/
theorem assoc_failure_rollback_unit (s : St) (u : URef) (p : Nat) (nu : UInt64) (mem : Bool) (hi : AInv s)
    (hl : Legal s (.unitSetPool u p nu mem)) :
    ∃ t s' rc, unitThread s u = some t ∧ unitSetAssoc s u p nu mem = some (s', rc) ∧ AInv s' ∧
      (rc ≠ .ok → RolledBack s s' t p nu) := by
  obtain ⟨t, ht, htu⟩ := unitThread_spec s u hi hl.1
  have hnn : u ≠ .null := by intro h; rw [h] at hl; exact hl.1
  obtain ⟨s', rc, h1, h2⟩ := setAssocCore_spec s t u p nu mem hi htu hnn hl.2
  exact ⟨t, s', rc, ht, by simp [unitSetAssoc, ht, h1], h2.ainv, h2.rollback⟩

theorem assoc_failure_rollback_init (s : St) (t p : Nat) (nu : UInt64) (mem : Bool) (hi : AInv s)
    (hl : Legal s (.init t p nu mem)) :
    AInv (initPool s t p nu mem).1 ∧
    ((initPool s t p nu mem).2 ≠ .ok → RolledBack s (initPool s t p nu mem).1 t p nu) :=
  ⟨(initPool_spec s t p nu mem hi hl.1 hl.2).ainv, (initPool_spec s t p nu mem hi hl.1 hl.2).rollback⟩

/-- **C14 (translation)**.  In every reachable state `ABT_unit_get_thread` of a live unit returns
the work unit whose `ABT_thread_get_unit` is that unit, and vice versa. -/
theorem assoc_unit_thread_translation (s : St) (hi : AInv s) :
    (∀ u, okRef s u → ∃ t, unitThread s u = some t ∧ (s.thr t).unit = u) ∧
    (∀ t, (s.thr t).unit ≠ .null → unitThread s (s.thr t).unit = some t) := by
  refine ⟨fun u hu => unitThread_spec s u hi hu, ?_⟩
  intro t hnn
  cases hu : (s.thr t).unit with
  | null => exact absurd hu hnn
  | builtin t0 => rw [hi.bi t t0 hu]; rfl
  | user x =>
    obtain ⟨hx0, hm, _⟩ := hi.user_ok t x hu
    simp only [unitThread]
    simp only [UnitMap.absMap, hx0, if_false] at hm
    exact hm

/-- non-vacuity for the shared-handle case: user pools 1 and 2 both use the handle 0x100 for work
unit 7; moving it 1 → 2 → 1 logs create/free per pool, the lookup keeps answering 7 -/
example :
    (runOps (St.init 8 7 (fun p => p == 0))
      [.init 7 1 0x100 true, .setPool 7 2 0x100 true, .lookup (.user 0x100), .setPool 7 1 0x100 false,
       .lookup (.user 0x100), .unset 7]).map (fun r => (r.2, r.1.log.reverse))
      = some ([.rc .ok, .rc .ok, .thread 7, .rc .ok, .thread 7, .done],
              [.create 1 7 0x100 0, .create 2 7 0x100 1, .free 1 0x100 1, .create 1 7 0x100 1, .free 2 0x100 1,
               .free 1 0x100 0]) := by
  decide

/-- non-vacuity: create in user pool 1, push to user pool 2 (create new, free old), a failing
migration back (create_unit → NULL), to built-in pool 0 (free), free of the work unit -/
example :
    (runOps (St.init 8 7 (fun p => p == 0))
      [.init 7 1 0x100 true, .use 7, .setPool 7 2 0x4000 true, .lookup (.user 0x4000), .setPool 7 1 7 true,
       .setPool 7 0 7 true, .unset 7]).map (fun r => (r.2, r.1.log.reverse))
      = some ([.rc .ok, .done, .rc .ok, .thread 7, .rc .other, .rc .ok, .done],
              [.create 1 7 0x100 0, .use 1 0x100, .create 2 7 0x4000 0, .free 1 0x100 0, .create 1 7 7 0, .free 2 0x4000 0]) := by
  decide

end assoc

/-! ### bucket-lock discipline: at most one bucket lock per table operation -/
section locks
open ArgoVerif.Model.UnitMap

/-- **C14 (no nested bucket locks, interleaving model of unit.c)**.  In every reachable state of
the interleaving model of `unit_map_thread` / `unit_unmap_thread` / the lock-free lookup: a caller
holds at most one bucket lock, and a caller that is about to acquire a bucket lock (`mAcq`,
`uAcq`) holds none.  Hence every wait-for edge starts at a caller that holds nothing: no cycle of
bucket locks can form, whatever the hash puts where. -/
theorem unitmap_one_bucket_lock_at_a_time (h : Nat → Nat) (tr : List (Nat × Act)) (s : CSt)
    (hr : Star (Step h) CSt.init tr s) :
    (∀ t b b', s.lock b = some t → s.lock b' = some t → b = b') ∧
    (∀ t u th b, s.pc t = .mAcq u th → s.lock b ≠ some t) ∧
    (∀ t u b, s.pc t = .uAcq u → s.lock b ≠ some t) := by
  have hi := inv_reachable hr
  refine ⟨fun t b b' h1 h2 => Option.some.inj ((hi.lock2 t b h1).symm.trans (hi.lock2 t b' h2)),
    fun t u th b hpc hl => ?_, fun t u b hpc hl => ?_⟩ <;>
  · have := hi.lock2 t b hl
    rw [hpc] at this; cases this

/-- **C14 (a lock holder is never blocked)**.  Whoever holds a bucket lock always has an enabled
transition of its own (it never waits for anything while holding the lock): together with the
previous theorem, callers waiting for a bucket lock are eventually served under fair scheduling —
the table operations cannot deadlock among themselves. -/
theorem unitmap_lock_holder_can_step (h : Nat → Nat) (tr : List (Nat × Act)) (s : CSt)
    (hr : Star (Step h) CSt.init tr s) (t b : Nat) (hl : s.lock b = some t) :
    ∃ a s', Step h s (t, a) s' := by
  have hi := inv_reachable hr
  have hh := hi.lock2 t b hl
  have hp := hi.pcs t
  cases hpc : s.pc t with
  | mHead u th => exact ⟨_, _, Step.mHead hpc⟩
  | mScan u th cur =>
    by_cases hc : cur = 0
    · subst hc; exact ⟨_, _, Step.mScanEnd hpc⟩
    · by_cases hu : (s.cell cur).unit = 0
      · exact ⟨_, _, Step.mScanTomb hpc hc hu⟩
      · exact ⟨_, _, Step.mScanUsed hpc hc hu⟩
  | mNext u th cur => exact ⟨_, _, Step.mNext hpc⟩
  | mSetUnit u th cur => exact ⟨_, _, Step.mSetUnit hpc⟩
  | mSetThr u th cur => exact ⟨_, _, Step.mSetThr hpc⟩
  | mAlloc u th => exact ⟨_, _, Step.mAllocOk hpc⟩
  | mPub u th new => exact ⟨_, _, Step.mPub hpc⟩
  | mRel u th ok => exact ⟨_, _, Step.mRel hpc⟩
  | uHead u => exact ⟨_, _, Step.uHead hpc⟩
  | uScan u cur =>
    rw [hpc] at hp; simp only [PcOK] at hp
    have hc : cur ≠ 0 := by omega
    by_cases hu : (s.cell cur).unit = u
    · exact ⟨_, _, Step.uScanHit hpc hc hu⟩
    · exact ⟨_, _, Step.uScanMiss hpc hc hu⟩
  | uNext u cur => exact ⟨_, _, Step.uNext hpc⟩
  | uClear u cur => exact ⟨_, _, Step.uClear hpc⟩
  | uRel u => exact ⟨_, _, Step.uRel hpc⟩
  | _ => rw [hpc] at hh; simp [holds] at hh

end locks

section lockdisc
open ArgoVerif.Model.UnitMapLock

theorem lockdisc_inv (tr : List Ev) (s : St) (hr : machine.run init tr = some s) :
    ∀ a b, s.lock b = some a ↔ s.held a = some b := by
  refine Machine.invariant_run machine (fun s => ∀ a b, s.lock b = some a ↔ s.held a = some b) ?_ tr init s
    (by intro a b; simp [init]) hr
  intro s e s' hi hs
  have hs' : exec s e = some s' := hs
  cases e with
  | acquire a b | release a b =>
    simp only [exec] at hs'
    split at hs'
    · next hc =>
      simp only [Option.some.injEq] at hs'; subst hs'
      intro a' b'
      have := hi a' b'; have := hi a b'; have := hi a' b
      grind [upd]
    · cases hs'
  | spin a b =>
    simp only [exec] at hs'
    split at hs'
    · simp only [Option.some.injEq] at hs'; subst hs'; exact hi
    · cases hs'

/-- **C14 (lock discipline of observed executions)**.  Every trace of bucket-lock operations that
`Model.UnitMapLock` accepts: each actor holds at most one bucket lock at any time; an actor that
waits for a bucket lock (failed test-and-set) holds none (this is the guard of `spin`); and the
holder of any taken lock can release it at once without acquiring anything.  A real execution in
which some stream acquires or waits for a second bucket lock while holding one is rejected — such
executions are exactly the ones that can form a lock cycle. -/
theorem lockdisc_no_hold_and_wait (tr : List Ev) (s : St) (hr : machine.run init tr = some s) :
    (∀ a b b', s.lock b = some a → s.lock b' = some a → b = b') ∧
    (∀ a b, s.lock b = some a → (exec s (.release a b)).isSome = true) ∧
    (∀ a b s', exec s (.spin a b) = some s' → s.held a = none) := by
  have hi := lockdisc_inv tr s hr
  refine ⟨?_, ?_, ?_⟩
  · intro a b b' h1 h2
    have e1 := (hi a b).mp h1; have e2 := (hi a b').mp h2
    rw [e1] at e2; exact Option.some.inj e2
  · intro a b hl
    have := (hi a b).mp hl
    simp [exec, this, hl]
  · intro a b s' hs
    simp only [exec] at hs
    split at hs
    · next hc => exact hc.1
    · cases hs

/-- non-vacuity: two actors on two buckets, one waits; and the nested acquisition is rejected -/
example : (machine.run init [.acquire 0 1, .spin 1 1, .acquire 1 2, .release 0 1, .release 1 2, .acquire 1 1,
    .release 1 1]).isSome = true := by decide
example : machine.run init [.acquire 0 1, .acquire 1 2, .acquire 0 2] = none := by decide
example : machine.run init [.acquire 0 1, .acquire 1 2, .spin 0 2] = none := by decide

end lockdisc


/-! ## batch pops: no unit leaves a pool without reaching the caller -/
namespace batch
open ArgoVerif.Model.Assoc

/-- **the adapter over a legacy pool definition is a pop_many**: calling the user's `p_pop` until the buffer is full or the
pool reports empty hands the caller exactly the first `min m |q|` units in order and leaves the others in the pool — in
particular every unit that `p_pop` took out of the pool is in the caller's buffer -/
theorem pop_many_loop_is_split (q : List Nat) (m : Nat) :
    (popManyLoop q m).1 = (popManySplit q m).1 ∧ (popManyLoop q m).2.1 = (popManySplit q m).2 := by
  induction m generalizing q with
  | zero => simp [popManyLoop, popManySplit]
  | succ m ih =>
    cases q with
    | nil => simp [popManyLoop, popManySplit]
    | cons t rest =>
      have := ih rest
      simp only [popManyLoop, popManySplit, List.take_succ_cons, List.drop_succ_cons] at *
      exact ⟨by rw [this.1], this.2⟩

/-- conservation: handed out ++ left = content before, and the number handed out is `min m |q|` -/
theorem pop_many_conserves (q : List Nat) (m : Nat) :
    (popManyLoop q m).1 ++ (popManyLoop q m).2.1 = q ∧ (popManyLoop q m).1.length = min m q.length := by
  have h := pop_many_loop_is_split q m
  rw [h.1, h.2]
  simp [popManySplit, List.take_append_drop, List.length_take]

/-- the user's `p_pop` is called once per unit handed out, plus once more only if the pool ran empty before the buffer was
full: never for a unit that does not fit -/
theorem pop_many_calls (q : List Nat) (m : Nat) :
    (popManyLoop q m).2.2 = (if m ≤ q.length then m else q.length + 1) := by
  induction m generalizing q with
  | zero => simp [popManyLoop]
  | succ m ih =>
    cases q with
    | nil => simp [popManyLoop]
    | cons t rest =>
      have := ih rest
      simp only [popManyLoop, List.length_cons]
      rw [this]
      split <;> split <;> omega

example : popManyLoop [7, 8, 9] 2 = ([7, 8], [9], 2) ∧ popManyLoop [7, 8] 5 = ([7, 8], [], 3) := by decide

end batch

end ArgoVerif.Props.C14
