import ArgoVerif.Proofs.LedgerRuns
/-
Props.C18Strict — the pre-existing-objects statement for `ythread_create_with_sched` at full strength
(`preUntouched` over the whole run, not only up to the first key).  It stands apart from Props.C18 because
checks/c18.py builds it on its own: if this module fails while the modules it imports build, the check expects
a failing `ABT_pool_add_sched` call among its enumerated runs (reported like any failing run) and reports the
broken build only if there is none; while the module builds, the statement counts as a discharged obligation.
-/
namespace ArgoVerif.Props.C18Strict
open ArgoVerif.Model.Ledger ArgoVerif.Gen.Ladders ArgoVerif.Proofs.LedgerRuns

theorem runs_strict : allRuns ythread_create_with_sched 400 0 (preUntouched ythread_create_with_sched) = true := by
  decide +kernel

/-- **C18 / pre-existing objects untouched, full strength** for `ythread_create` with a stackable
scheduler: whatever acquisition fails, the caller's scheduler is not released. -/
theorem ledger_preexisting_untouched_ythread_create_with_sched (o : Oracle) :
    preUntouched ythread_create_with_sched (exec ythread_create_with_sched 400 o) = true :=
  all_runs_exec runs_strict o (.inl rfl)

end ArgoVerif.Props.C18Strict
