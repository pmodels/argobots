import ArgoVerif.Proofs.Stop
/-
Props.C06Stop — the scheduler-termination decision and the pool-consumer accounting behind it
(imported by Props.C06 and Props.C01).

C06 needs three facts that Model.Sched (units, pools as bags, the blocked counter) takes for granted:
  1. a scheduler under a FINISH request stops only when *every* one of its pools is empty and every pool that only
     it consumes has no blocked unit                       (`ABTI_sched_has_to_stop`, `ABTI_sched_has_unit`);
  2. "only this scheduler consumes p" is decided by `num_scheds == 1`, so `num_scheds` has to be the number of live
     schedulers over p, whatever was created, freed, re-created and replaced before
                                                           (`sched_create`, `ABTI_sched_free`, `ABTI_pool_retain/release`);
  3. a join requested on a stream reaches whatever scheduler is the running one, also a main scheduler installed
     after the request                                     (`ABTI_xstream_check_events`, `xstream_join`,
                                                            `thread_main_sched_func`).
The models are tied to the source by T1 skeletons of these functions and by the differential / history checks of
checks/stop_common.py (harness/wb_stop.c against `driver stop`).
-/
namespace ArgoVerif.Props.C06Stop
open ArgoVerif ArgoVerif.Model.Stop ArgoVerif.Proofs.Stop

/-! ## 1. the decision -/

/-- **a scheduler stops under FINISH / REPLACE only when there is no work**: if `ABTI_sched_has_to_stop` answers
TRUE without an EXIT request, through the FINISH|REPLACE arm, then in both scans every pool of the scheduler was
empty and every pool that only this scheduler consumes (PRIV, or a shared access mode with `num_scheds == 1`) had
`num_blocked == 0`.  The statement is about ALL pools of the array: no pool behind an empty shared pool with other
consumers is skipped. -/
theorem stop_only_when_no_work (r0 r1 : SchedReq) (v1 v2 : List PoolView) (used : Used)
    (hne : r0.exit = false) (hreq : r1.finish = true ∨ r1.replace = true)
    (h : hasToStop r0 v1 r1 v2 used = true) :
    (∀ p ∈ v1, p.size = 0 ∧ (p.soleConsumer → p.numBlocked = 0)) ∧
    (∀ p ∈ v2, p.size = 0 ∧ (p.soleConsumer → p.numBlocked = 0)) := by
  rcases hasToStop_true_cases r0 r1 v1 v2 used h with he | ⟨h1, _, h2⟩ | ⟨_, hf, hr, _⟩
  · simp [hne] at he
  · exact ⟨(hasUnit_false_iff v1).1 h1, (hasUnit_false_iff v2).1 h2⟩
  · simp [hf, hr] at hreq

/-- non-vacuity: a scheduler over an empty PRIV pool, an empty MPMC pool with two consumers and three blocked units
(not this scheduler's business) and an empty MPMC pool of its own does stop under FINISH -/
example : hasToStop {} [⟨0, 0, .priv, 1⟩, ⟨0, 3, .mpmc, 2⟩, ⟨0, 0, .mpmc, 1⟩] { finish := true }
    [⟨0, 0, .priv, 1⟩, ⟨0, 3, .mpmc, 2⟩, ⟨0, 0, .mpmc, 1⟩] .main = true := by decide

/-- rejected: a READY unit in the pool *behind* an empty shared pool with another consumer keeps the scheduler alive
(a scan that left the loop at the first such pool would answer "stop" here) -/
example : hasToStop {} [⟨0, 0, .mpmc, 2⟩, ⟨1, 0, .mpmc, 1⟩] { finish := true } [⟨0, 0, .mpmc, 2⟩, ⟨1, 0, .mpmc, 1⟩] .main
    = false := by decide

/-- rejected: so does a blocked unit of a pool behind it that only this scheduler consumes -/
example : hasToStop {} [⟨0, 0, .spmc, 2⟩, ⟨0, 1, .mpsc, 1⟩] { finish := true } [⟨0, 0, .spmc, 2⟩, ⟨0, 1, .mpsc, 1⟩] .main
    = false := by decide

/-- rejected: a unit that arrives between the two scans (the "check join request" re-scan) -/
example : hasToStop {} [⟨0, 0, .mpmc, 1⟩] { finish := true } [⟨1, 0, .mpmc, 1⟩] .main = false := by decide

/-- **the scan is a disjunction over all pools**: work anywhere in the array is found, wherever it is -/
theorem scan_covers_all_pools (pre post : List PoolView) :
    hasUnit (pre ++ post) = (hasUnit pre || hasUnit post) := by
  simp [hasUnit_eq_any]

/-- **what the scan reports**: TRUE iff some pool is non-empty or has blocked units that only this scheduler gets back -/
theorem has_unit_iff (ps : List PoolView) :
    hasUnit ps = true ↔ ∃ p ∈ ps, p.size ≠ 0 ∨ (p.soleConsumer ∧ p.numBlocked ≠ 0) :=
  hasUnit_true_iff ps

example : hasUnit [⟨0, 0, .mpmc, 2⟩, ⟨0, 0, .invalid, 1⟩, ⟨0, -1, .priv, 0⟩] = true := by decide
example : hasUnit [⟨0, 5, .mpmc, 2⟩, ⟨0, 5, .invalid, 1⟩, ⟨0, 5, .spsc, 0⟩] = false := by decide

/-- **no request, no stop**: a main (or unused) scheduler without any request never stops, whatever its pools hold -/
theorem no_stop_without_request (r0 r1 : SchedReq) (v1 v2 : List PoolView) (used : Used)
    (h0 : r0.exit = false) (hf : r1.finish = false) (hr : r1.replace = false) (hu : used ≠ .inPool) :
    hasToStop r0 v1 r1 v2 used = false := by
  cases used <;> simp_all [hasToStop]

example : hasToStop {} [] {} [] .main = false := by decide
/-- rejected: a *stacked* scheduler (used = IN_POOL) does stop on an empty scan without any request
("Let's finish it anyway" in the source; the stacked BASIC_WAIT case is finding F6) -/
example : hasToStop {} [⟨0, 0, .mpmc, 1⟩] {} [⟨0, 0, .mpmc, 1⟩] .inPool = true := by decide

/-- **the stop is enabled once the work is gone** (safety form of "join does return"): under FINISH, if both scans
find nothing, the answer is TRUE -/
theorem stop_enabled_when_drained (r0 r1 : SchedReq) (v1 v2 : List PoolView) (used : Used)
    (hf : r1.finish = true) (h1 : hasUnit v1 = false) (h2 : hasUnit v2 = false) :
    hasToStop r0 v1 r1 v2 used = true := by
  cases he : r0.exit <;> simp [hasToStop, he, hf, h1, h2]

/-- **EXIT stops regardless** of the pools (ABT_sched_exit / cancel: the documented loss of remaining units) -/
theorem exit_stops_regardless (r0 r1 : SchedReq) (v1 v2 : List PoolView) (used : Used) (h : r0.exit = true) :
    hasToStop r0 v1 r1 v2 used = true := by
  simp [hasToStop, h]

/-- **the stream's main loop ends only without work** (or on cancel): the test of `thread_main_sched_func` -/
theorem main_loop_breaks_only_when_no_work (ult : ThreadReq) (r : SchedReq) (v : List PoolView)
    (hc : ult.cancel = false) (h : mainLoopBreaks ult r v = true) :
    r.finish = true ∧ ∀ p ∈ v, p.size = 0 ∧ (p.soleConsumer → p.numBlocked = 0) := by
  simp only [mainLoopBreaks, hc, Bool.false_eq_true, ↓reduceIte, Bool.and_eq_true, Bool.not_eq_eq_eq_not,
    Bool.not_true] at h
  exact ⟨h.1, (hasUnit_false_iff v).1 h.2⟩

example : mainLoopBreaks {} { finish := true } [⟨0, 0, .mpmc, 1⟩] = true := by decide
example : mainLoopBreaks { join := true } { finish := true } [⟨0, 1, .mpmc, 1⟩] = false := by decide

/-! ## 2. num_scheds -/

/-- **`num_scheds` is exact**: in every state reachable by creating pools (automatic or user-owned), creating
schedulers over them, freeing schedulers, creating / freeing streams, replacing main schedulers and running stacked
schedulers, in any order, `num_scheds` of every pool equals the number of entries that name it in the pool arrays
of the live scheduler objects. -/
theorem num_scheds_exact (s : Acc) (h : amachine.Reachable s) (p : PoolId) : s.ns p = (occ s.scheds p : Int) :=
  (inv_reachable s h).count p

/-- **… which is the number of live schedulers that have the pool** (no scheduler lists a pool twice) -/
theorem num_scheds_counts_schedulers (s : Acc) (h : amachine.Reachable s) (p : PoolId)
    (hnd : ∀ r ∈ s.scheds, r.pools.Nodup) :
    s.ns p = ((s.scheds.filter (fun r => decide (p ∈ r.pools))).length : Int) := by
  rw [num_scheds_exact s h p, occ_eq_length_filter s.scheds p hnd]

/-- **`num_scheds == 1` ⇔ only this scheduler consumes the pool**: for a live scheduler r that has pool p,
`num_scheds p = 1` exactly when r lists p once and no other live scheduler object lists it — also after streams
were freed and re-created over a user-owned pool, and after replacements. -/
theorem sole_consumer_iff_num_scheds_one (s : Acc) (h : amachine.Reachable s) (r : SchedRec) (hr : r ∈ s.scheds)
    (p : PoolId) (hp : p ∈ r.pools) :
    s.ns p = 1 ↔ (r.pools.count p = 1 ∧ ∀ r' ∈ s.scheds, p ∈ r'.pools → r' = r) := by
  have hi := inv_reachable s h
  -- r's own entries plus those of the other schedulers; the latter are 0 iff no other scheduler lists p
  have := List.count_pos_iff.2 hp
  rw [hi.count p, occ_erase s.scheds r p hr, ← occ_erase_eq_zero_iff s.scheds hi.scheds_nodup r p]
  omega

/-- a pool that exists has a live object behind every scheduler entry: an automatic pool is freed only by the
release that brings `num_scheds` to 0 -/
theorem scheduler_pools_are_live (s : Acc) (h : amachine.Reachable s) (r : SchedRec) (hr : r ∈ s.scheds)
    (p : PoolId) (hp : p ∈ r.pools) : poolLive s.pools p = true :=
  (inv_reachable s h).live r hr p hp

/-- the history of the seeded defects C01-4 / C06-4: user-owned pool 7, a stream over it freed, a second stream
created over it — the count is 1 again -/
def reuseTrace : List AEv :=
  [.poolCreate 7 false, .schedCreate 1 [7] true, .streamCreate 1 1, .streamFree 1,
   .schedCreate 2 [7] true, .streamCreate 2 2]

example : ∃ s, amachine.run amachine.init reuseTrace = some s ∧ s.ns 7 = 1 ∧ poolLive s.pools 7 = true ∧
    s.scheds.map (·.id) = [2] := by
  refine ⟨_, rfl, ?_, ?_, ?_⟩ <;> decide

/-- non-vacuity with a replacement, a shared pool, an automatic pool and a non-automatic scheduler: pool 1 is
automatic and dies with its last scheduler, pool 2 is user-owned and survives with count 1, scheduler 5 (not
automatic) survives its stream unused and still counts as a consumer of pool 2 -/
def mixTrace : List AEv :=
  [.poolCreate 1 true, .poolCreate 2 false, .schedCreate 3 [1, 2] true, .streamCreate 0 3,
   .schedCreate 4 [2] true, .replace 0 4, .schedCreate 5 [2] false, .streamCreate 1 5, .streamFree 1,
   .streamFree 0]

example : ∃ s, amachine.run amachine.init mixTrace = some s ∧ s.ns 2 = 1 ∧ poolLive s.pools 1 = false ∧
    poolLive s.pools 2 = true ∧ s.scheds.map (·.id) = [5] := by
  refine ⟨_, rfl, ?_, ?_, ?_, ?_⟩ <;> decide

/-- rejected: a scheduler in use cannot be freed, a used scheduler cannot become a second main scheduler -/
example : amachine.run amachine.init [.poolCreate 1 false, .schedCreate 2 [1] false, .streamCreate 0 2, .schedFree 2]
    = none := by decide
example : amachine.run amachine.init [.poolCreate 1 false, .schedCreate 2 [1] false, .streamCreate 0 2,
    .streamCreate 1 2] = none := by decide

/-- **a blocked unit of a pool that only this scheduler consumes prevents the stop** (1 and 2 together): in a
reachable accounting state, let the scans see the true `num_scheds` of the pools of scheduler r.  If some pool p
of r is listed by no other live scheduler and has `num_blocked ≠ 0`, `ABTI_sched_has_to_stop` answers FALSE
(short of an EXIT request) — whatever schedulers and streams existed over p before. -/
theorem blocked_unit_of_sole_consumer_blocks_stop (s : Acc) (h : amachine.Reachable s)
    (r : SchedRec) (hr : r ∈ s.scheds) (view : PoolId → PoolView)
    (hv : ∀ q ∈ r.pools, (view q).numScheds = s.ns q)
    (p : PoolId) (hp : p ∈ r.pools) (honce : r.pools.count p = 1)
    (hsole : ∀ r' ∈ s.scheds, p ∈ r'.pools → r' = r)
    (hacc : (view p).access ≠ .invalid) (hb : (view p).numBlocked ≠ 0)
    (r0 r1 : SchedReq) (v2 : List PoolView) (used : Used) (he : r0.exit = false) :
    hasToStop r0 (r.pools.map view) r1 v2 used = false := by
  have hns : s.ns p = 1 := (sole_consumer_iff_num_scheds_one s h r hr p hp).2 ⟨honce, hsole⟩
  have hu : hasUnit (r.pools.map view) = true := by
    rw [hasUnit_true_iff]
    refine ⟨view p, List.mem_map.2 ⟨p, hp, rfl⟩, Or.inr ⟨?_, hb⟩⟩
    unfold PoolView.soleConsumer
    have := hv p hp
    cases hac : (view p).access <;> simp_all [Access.shared]
  simp [hasToStop, he, hu]

/-! ## 2b. request words of scheduler objects (repair of F14) -/

/-- what an attachment of scheduler k as a main scheduler is, in the accounting machine -/
def attaches (e : AEv) (k : SchedId) : Prop :=
  (∃ x, e = .streamCreate x k) ∨ (∃ x, e = .replace x k)

/-- **a freshly attached main scheduler carries no request, whatever its history**: whenever scheduler k becomes the
main scheduler of a stream — stream creation with a given (possibly reused) scheduler, set_main_sched on a joined
stream, completion of a same-stream replacement — its request word is clear afterwards: no FINISH left from a join of
the stream it served before, no REPLACE left from having been replaced, no EXIT.  No hypothesis on the state: the
word is cleared by the attachment itself (`xstream_init_main_sched`, `xstream_update_main_sched`,
`thread_main_sched_func` store 0 before `used = ABTI_SCHED_MAIN`). -/
theorem attach_clears_requests (s s' : Acc) (e : AEv) (k : SchedId) (ha : attaches e k)
    (hs : astep s e = some s') : s'.req k = {} := by
  rcases ha with ⟨x, rfl⟩ | ⟨x, rfl⟩ <;> simp only [astep] at hs <;> (repeat' split at hs) <;> cases hs <;> simp

/-- … hence it does not stop by itself: until somebody requests it, `ABTI_sched_has_to_stop` of the freshly attached
main scheduler answers FALSE whatever its pools hold (before the repair a reused scheduler stopped at once) -/
theorem attached_sched_keeps_running (s s' : Acc) (e : AEv) (k : SchedId) (ha : attaches e k)
    (hs : astep s e = some s') (v1 v2 : List PoolView) :
    hasToStop (s'.req k) v1 (s'.req k) v2 .main = false := by
  rw [attach_clears_requests s s' e k ha hs]
  exact no_stop_without_request {} {} v1 v2 .main rfl rfl rfl (by decide)

/-- F14, first repro: user-owned scheduler 1 over pool 7 serves stream 1, the stream is joined and freed (scheduler 1
survives with FINISH), stream 2 is created with the same scheduler -/
def reuseFinishTrace : List AEv :=
  [.poolCreate 7 false, .schedCreate 1 [7] false, .streamCreate 1 1, .join 1, .streamFree 1, .streamCreate 2 1]

/-- the scheduler does keep FINISH after its stream is gone … -/
example : ∃ s, amachine.run amachine.init (reuseFinishTrace.take 5) = some s ∧ (s.req 1).finish = true ∧
    s.scheds.map (·.used) = [.notUsed] := ⟨_, rfl, by decide, by decide⟩

/-- … the reuse is accepted and ends in a running stream 2 whose scheduler has a clear request word -/
example : ∃ s, amachine.run amachine.init reuseFinishTrace = some s ∧ s.main? 2 = some 1 ∧ s.joined 2 = false ∧
    s.req 1 = {} ∧ s.ns 7 = 1 ∧ s.scheds.map (·.used) = [.main] :=
  ⟨_, rfl, by decide, by decide, by decide, by decide, by decide⟩

/-- F14, second repro: user-owned scheduler 1 is replaced on the running stream 1 by scheduler 2 (it survives with
REPLACE), then stream 2 is created with it -/
def reuseReplacedTrace : List AEv :=
  [.poolCreate 1 false, .poolCreate 2 false, .schedCreate 1 [1] false, .streamCreate 1 1, .schedCreate 2 [2] true,
   .replace 1 2, .streamCreate 2 1]

example : ∃ s, amachine.run amachine.init (reuseReplacedTrace.take 6) = some s ∧ (s.req 1).replace = true ∧
    s.main? 1 = some 2 := ⟨_, rfl, by decide, by decide⟩

example : ∃ s, amachine.run amachine.init reuseReplacedTrace = some s ∧ s.main? 2 = some 1 ∧ s.main? 1 = some 2 ∧
    s.joined 2 = false ∧ s.req 1 = {} ∧ s.req 2 = {} :=
  ⟨_, rfl, by decide, by decide, by decide, by decide, by decide⟩

/-- a joined stream's scheduler is changed directly (no REPLACE on the old one, which keeps its FINISH), revive
clears the word of the scheduler that is the main scheduler then -/
example : ∃ s, amachine.run amachine.init [.poolCreate 1 false, .schedCreate 1 [1] false, .streamCreate 1 1, .join 1,
      .schedCreate 2 [1] false, .replace 1 2, .join 1, .revive 1] = some s ∧
    s.req 1 = { finish := true } ∧ s.req 2 = {} ∧ s.joined 1 = false :=
  ⟨_, rfl, by decide, by decide, by decide⟩

/-- **a replacement that has been carried out is forgotten**: in every reachable state no scheduler object still
carries the `p_replace_sched` / `p_replace_waiter` of a replacement that was already executed
(`thread_main_sched_func` resets both fields of the old scheduler when it honours REPLACE).  A
user-owned scheduler that was replaced and is attached to a stream again therefore starts like a new one: a later
same-stream replacement is an ordinary first replacement, never the "overwrite" branch of
`xstream_update_main_sched` on dangling pointers. -/
theorem replace_done_forgets_pending (s : Acc) (h : amachine.Reachable s) (k : SchedId) : s.stale k = false :=
  stale_reachable s h k

/-- … so on a running stream any unused scheduler can replace the current one, whatever the current one did before -/
theorem replace_of_reused_sched_enabled (s : Acc) (h : amachine.Reachable s) (x : StreamId) (o k : SchedId)
    (r : SchedRec) (hm : s.main? x = some o) (hk : s.sched? k = some r) (hu : r.used = .notUsed)
    (ho : ({ s with scheds := setUsed s.scheds k .main } : Acc).sched? o ≠ none) :
    (astep s (.replace x k)).isSome = true := by
  have hst := replace_done_forgets_pending s h o
  simp only [astep, hm, hk, hu, hst]
  cases hq : ({ s with scheds := setUsed s.scheds k .main } : Acc).sched? o with
  | none => exact absurd hq ho
  | some ro =>
    simp only [Acc.sched?] at hq
    simp [Acc.sched?, hq]

/-- F14, third repro (the model accepts it): the replaced user-owned scheduler 1 runs
stream 2 and is replaced there again by scheduler 3 — an ordinary replacement: scheduler 3 runs stream 2, scheduler 2
still runs stream 1, scheduler 1 survives unused with REPLACE and nothing pending -/
example : ∃ s, amachine.run amachine.init
      (reuseReplacedTrace ++ [.poolCreate 3 false, .schedCreate 3 [3] true, .replace 2 3]) = some s ∧
    s.main? 2 = some 3 ∧ s.main? 1 = some 2 ∧ s.req 3 = {} ∧ (s.req 1).replace = true ∧ s.stale 1 = false ∧
    s.scheds.map (fun r => (r.id, r.used)) = [(3, .main), (2, .main), (1, .notUsed)] :=
  ⟨_, rfl, by decide, by decide, by decide, by decide, by decide, by decide⟩

/-! ## 3. the join request reaches the running scheduler -/

/-- **FINISH reaches every scheduler that runs after the join request**: once ABT_xstream_join / free has been
called on a stream, any scheduler k that calls `ABTI_xstream_check_events` on it afterwards — the main scheduler of
that time, a main scheduler installed later by a replacement (it carries the same main-scheduler ULT, whose request
word keeps REQ_JOIN), a stacked scheduler — has the FINISH request set when the call returns. -/
theorem finish_reaches_running_sched (m : SchedId) (req0 : SchedId → SchedReq) (s : XS)
    (h : (xmachine m req0).Reachable s) (hj : s.joinReq = true) (k : SchedId) (s' : XS)
    (hs : xstep s (.checkEvents k) = some s') : (s'.req k).finish = true := by
  simp [(xstep_checkEvents hs).1, checkEvents_finish, (xinv_reachable m req0 s h).join hj]

/-- **the request is never withdrawn**: after the join request, whatever happens on the stream (replacements,
other requests, checks) the stream stays "join requested" -/
theorem join_request_sticky (s : XS) (tr : List XEv) (s' : XS) (hj : s.joinReq = true)
    (hr : (xmachine 0 (fun _ => {})).run s tr = some s') : s'.joinReq = true :=
  Machine.invariant_run (xmachine 0 (fun _ => {})) (fun s => s.joinReq = true)
    (fun s e s' hi hs => joinReq_step s e s' hi hs) tr s s' hj hr

/-- **a joined stream's current main scheduler stops once drained**: after the join request, when the scheduler that
is the main scheduler *now* (original or replacement) has made its check_events call, `ABTI_sched_has_to_stop`
answers TRUE as soon as both scans find no work, and the loop of `thread_main_sched_func` ends. -/
theorem joined_main_sched_stops_when_drained (m : SchedId) (req0 : SchedId → SchedReq) (s : XS)
    (h : (xmachine m req0).Reachable s) (hj : s.joinReq = true) (s' : XS)
    (hs : xstep s (.checkEvents s.main) = some s') (v1 v2 : List PoolView) (used : Used)
    (h1 : hasUnit v1 = false) (h2 : hasUnit v2 = false) :
    hasToStop (s'.req s'.main) v1 (s'.req s'.main) v2 used = true ∧
    mainLoopBreaks s'.ult (s'.req s'.main) v2 = true := by
  have hf := finish_reaches_running_sched m req0 s h hj s.main s' hs
  rw [(xstep_checkEvents hs).2]
  refine ⟨stop_enabled_when_drained _ _ _ _ _ hf h1 h2, ?_⟩
  simp [mainLoopBreaks, hf, h2]

/-- **CANCEL reaches it as an EXIT request** -/
theorem cancel_reaches_running_sched (m : SchedId) (req0 : SchedId → SchedReq) (s : XS)
    (h : (xmachine m req0).Reachable s) (hc : s.cancelReq = true) (k : SchedId) (s' : XS)
    (hs : xstep s (.checkEvents k) = some s') : (s'.req k).exit = true := by
  simp [(xstep_checkEvents hs).1, checkEvents_exit, (xinv_reachable m req0 s h).cancel hc]

/-- **check_events invents nothing**: without a join / cancel on the main-scheduler ULT the running scheduler's
request word is unchanged -/
theorem check_events_without_request (r : SchedReq) : checkEvents {} r = r := by
  simp [checkEvents]

/-- the history of the seeded defect C06-3: join requested while scheduler 0 is the main scheduler, then a ULT
replaces it by scheduler 1 -/
def joinThenReplace : List XEv := [.join, .setMain 1, .replace]

/-- non-vacuity: that state is reachable, join is pending, scheduler 1 is the main scheduler … -/
example : ∃ s, (xmachine 0 (fun _ => {})).run (xinit 0 (fun _ => {})) joinThenReplace = some s ∧
    s.joinReq = true ∧ s.main = 1 ∧ (s.req 1).finish = false ∧ (s.req 0).finish = true :=
  ⟨_, rfl, by decide, by decide, by decide, by decide⟩

/-- … whose request word is fresh: *before* its check_events call it would not stop (the forwarding in
check_events is what the theorem rests on; xstream_join's own ABTI_sched_finish reached scheduler 0 only) … -/
example : hasToStopQ ({} : SchedReq) [⟨0, 0, .mpmc, 1⟩] .main = false := by decide

/-- … and after it, it does -/
example : ∃ s, (xmachine 0 (fun _ => {})).run (xinit 0 (fun _ => {})) (joinThenReplace ++ [.checkEvents 1]) = some s ∧
    hasToStopQ (s.req s.main) [⟨0, 0, .mpmc, 1⟩] .main = true :=
  ⟨_, rfl, by decide⟩

/-- rejected: a replacement without a pending request, and a scheduler replacing itself, are not behaviours -/
example : (xmachine 0 (fun _ => {})).run (xinit 0 (fun _ => {})) [.replace] = none := by decide
example : (xmachine 0 (fun _ => {})).run (xinit 0 (fun _ => {})) [.setMain 0] = none := by decide

end ArgoVerif.Props.C06Stop
