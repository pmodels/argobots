import ArgoVerif.Proofs.Sched
import ArgoVerif.Proofs.Join
import ArgoVerif.Gen.Consts
/-
Props.C12 — work-unit lifecycle: the observable state follows the state machine; exit / cancel terminate; a unit is
freed once; a terminated named unit can be revived and runs once more (over Model.Sched).  `Exit`, over Model.Join: the
one wait in the exit path of a ULT, for the joiner's link, ends.
-/
namespace ArgoVerif.Props.C12
open ArgoVerif ArgoVerif.Model.Sched

/-- the edges of the life-cycle automaton that the scheduling code can produce.  Besides the documented
READY→RUNNING→(BLOCKED→READY→RUNNING)*→TERMINATED they are: RUNNING→READY (a yield), READY→READY (re-push after a
migration, store of the same value), BLOCKED→RUNNING (directed resume: resume_yield_to, exit hand-off to a joiner),
READY→TERMINATED (a unit cancelled before it ever ran / while waiting in a pool) and TERMINATED→READY, the first step of
`thread_revive` (see `terminated_left_only_by_revive`) -/
def Edge : USt → USt → Prop
  | .ready, .running | .running, .ready | .ready, .ready | .running, .blocked | .blocked, .ready | .blocked, .running
  | .running, .terminated | .ready, .terminated | .terminated, .ready => True
  | _, _ => False

/-- **the only way out of TERMINATED is a revive**: a store into a terminated unit's state is the READY store of
`thread_revive` on a unit that is terminated and not freed; it puts the unit out of everybody's reach (`reviving`) until
the revive event re-creates it -/
theorem terminated_left_only_by_revive (s s' : St) (h : machine.Reachable s) (u : UnitId) (v : USt)
    (ht : s.st u = .terminated) (hs : step s (.setSt u v) = some s') :
    v = .ready ∧ s.loc u = .done ∧ s'.loc u = .reviving ∧ s'.st u = .ready := by
  rcases ((inv_reachable s h).termLoc u).mp ht with h2 | h2 <;> cases v <;> simp [step, stepSetSt, h2, ht] at hs <;>
    simp [← hs, h2, upd]

/-- a unit being revived can only be re-created: nothing else applies to it -/
theorem reviving_only_created (s s' : St) (e : Ev) (u : UnitId) (hl : s.loc u = .reviving) (hs : step s e = some s') :
    s'.loc u = .reviving ∨ (∃ p, e = .create u p) :=
  (effect s s' e hs u).reviving hl

/-- **life_transitions**: every store to a unit's state in a reachable state follows an edge of the automaton; in
particular nothing is ever stored after TERMINATED (until a revive), BLOCKED is entered only from RUNNING, and
TERMINATED only from RUNNING or (cancellation) READY -/
theorem life_transitions (s s' : St) (h : machine.Reachable s) (u : UnitId) (v : USt)
    (hs : step s (.setSt u v) = some s') : Edge (s.st u) v := by
  have hi := inv_reachable s h
  have h1 := hi.stBlockedLoc u
  have h2 := hi.termLoc u
  cases v <;> simp only [step, stepSetSt, Option.ite_none_right_eq_some] at hs
  case ready => cases s.st u <;> trivial
  -- the guard of the store names the places where `u` may be; `h1`, `h2` exclude the states without an edge
  all_goals
    obtain ⟨hg, -⟩ := hs
    cases hst : s.st u <;> simp only [Edge] <;> grind

/-- **exit terminates now**: ABTI_thread_terminate is entered from the exit callback only after the function was entered
exactly once (it is running its own exit), or on behalf of a cancellation request -/
theorem exit_or_cancel_terminates (s s' : St) (u : UnitId) (hs : step s (.terminate u) = some s') :
    (s.starts u = 1) ∨ (s.reqCancel u = true) := by
  simp only [step, stepTerminate] at hs
  split at hs
  · cases hs
  · cases hl : s.loc u <;> simp only [hl] at hs <;> (repeat' (split at hs)) <;> (try cases hs) <;> simp_all <;> grind

/-- **cancel by the next scheduling point**: a pending cancellation is honoured at a scheduling point (a scheduler holding
the popped unit, or a yield-type callback), never while the unit is running user code or sitting in a pool -/
theorem cancel_only_at_sched_point (s s' : St) (h : machine.Reachable s) (u : UnitId)
    (hs : step s (.terminate u) = some s') (hc : s'.cancelled u = true) :
    (∃ e, s.loc u = .held e) ∨ (∃ e, s.loc u = .cb e) := by
  have hct := (inv_reachable s h).cancTerm u
  simp only [step, stepTerminate] at hs
  split at hs
  · cases hs
  · cases hl : s.loc u <;> simp only [hl] at hs <;> (repeat' (split at hs)) <;> (try cases hs) <;> simp_all [upd]

/-- **freed exactly once**: a unit is freed only when terminated, and a freed unit cannot be freed again (nor pushed,
run or joined-through) until it is created anew -/
theorem free_once (s s' : St) (u : UnitId) (hs : step s (.free u) = some s') :
    s.loc u = .done ∧ s'.loc u = .freed ∧ step s' (.free u) = none :=
  step_free_loc s s' u hs

/-- **named units stay joinable until freed, and revive runs once more**: after TERMINATED the state and location are
frozen until a revive (READY store, then the revive event = `create`) resets the epoch: start counter back to 0,
requests cleared (a cancellation or migration request of the first life does not survive), READY -/
theorem revive_runs_once_more (s s' : St) (u : UnitId) (p : PoolId) (hs : step s (.create u p) = some s') :
    s'.starts u = 0 ∧ s'.ends u = 0 ∧ s'.st u = .ready ∧ s'.loc u = .fresh ∧ s'.reqCancel u = false ∧ s'.reqJoin u = false ∧
    s'.pool u = p := by
  simp only [step, stepCreate] at hs
  split at hs
  · cases hs; simp [upd]
  · cases hs

theorem terminated_is_frozen (s s' : St) (h : machine.Reachable s) (e : Ev) (hs : step s e = some s') (u : UnitId)
    (ht : s.st u = .terminated) (hne : e ≠ .setSt u .ready) (hnc : ∀ p, e ≠ .create u p) : s'.st u = .terminated :=
  (effect s s' e hs u).frozen (((inv_reachable s h).termLoc u).mp ht) ht hne hnc

/-- non-vacuity: a named unit terminates, is joined, revived, and runs once more -/
example :
    (machine.run init
      [.create 1 0, .push 0 1, .pop 7 0 1, .setSt 1 .running, .run 7 1, .userStart 1, .userEnd 1, .finish 7 1,
       .cb 7 1 .exit, .terminate 1, .setSt 1 .terminated, .joinRet 9 1,
       .setSt 1 .ready, .create 1 0, .push 0 1, .pop 7 0 1, .setSt 1 .running, .run 7 1, .userStart 1]).map
        (fun s => decide (s.starts 1 = 1 ∧ s.st 1 = .running)) = some true := by decide

/-- cancelled while waiting in a pool: READY → TERMINATED at the scheduler that popped it, never started -/
example :
    (machine.run init [.create 1 0, .push 0 1, .reqSet 1 .cancel, .pop 7 0 1, .terminate 1, .setSt 1 .terminated]).map
        (fun s => decide (s.cancelled 1 = true ∧ s.starts 1 = 0 ∧ s.loc 1 = .done)) = some true := by decide


/-! ## widths of the counters modelled as unbounded numbers (generated from the headers on every run) -/
/-- the request word of a work unit (JOIN / CANCEL / MIGRATE bits) is 4 bytes wide in this tree: the unbounded model agrees with the C field below 2^31 -/
example : ArgoVerif.Gen.Consts.bytesThreadRequest = 4 := by decide


/-! ## the exit path of a ULT and the join hand-shake (Model.Join): "a unit whose function has returned terminates" -/
namespace Exit

/-- **a unit in its exit path waits only for a joiner that is committed**: the only wait in the exit path is for `p_link`
after the unit found the JOIN bit already set; then the joiner has won the hand-shake and is between its `fetch_or` and the
store of the link (no step of the joiner leaves that segment except towards the store) or has published the link — the
JOIN bit is never withdrawn, so the unit does reach TERMINATED -/
theorem exit_waits_only_for_committed_joiner (s : Model.Join.St) (h : Model.Join.machine.Reachable s) (hs : s.tpc = Model.Join.TPc.spin) :
    s.link = true ∨ s.jpc = Model.Join.JPc.blk ∨ s.jpc = Model.Join.JPc.lnk ∨ s.jpc = Model.Join.JPc.xlnk :=
  (Model.Join.inv_reachable s h).spin_committed hs

/-- from every reachable state of the exit path some step other than a repeated poll is enabled -/
theorem exit_path_progress (s : Model.Join.St) (h : Model.Join.machine.Reachable s) (ht : s.tpc ≠ Model.Join.TPc.run) (hd : s.tpc ≠ Model.Join.TPc.done) :
    Model.Join.canProgress s = true := by
  unfold Model.Join.canProgress
  simp [hd]

/-- non-vacuity: the target finds the bit set while the joiner has not published yet, waits, and is released -/
example : (Model.Join.machine.run Model.Join.init [Model.Join.Ev.jCall true, .jLoadState false, .jFetchOr false, .tExit, .tLoadLink false, .tFetchOr true,
      .tLoadLink false]).map (fun s => decide (s.tpc = Model.Join.TPc.spin ∧ s.jpc = Model.Join.JPc.blk ∧ s.link = false)) = some true := by decide

end Exit

end ArgoVerif.Props.C12
