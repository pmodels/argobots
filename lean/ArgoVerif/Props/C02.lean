import ArgoVerif.Proofs.X86
import ArgoVerif.Proofs.Sched
/-
Props.C02 — "a ULT resumes with its stack contents, callee-saved registers and floating-point
control state exactly as it left them, on a 16-byte aligned stack".

Assembly half.  Every theorem is about the instruction lists in `ArgoVerif.Gen.Fcontext`, which
tools/asmgen.py regenerates from src/arch/fcontext/fcontext_x86_64_sysv_elf_gas.S on every
check run, evaluated in the machine model `Model.X86` (whose instruction semantics is
compared with the CPU by harness/fctx_native on every run).  External C functions reached
by `callq *%rsi` are arbitrary functions constrained only by the explicit hypothesis
`AbiEnv env 64` (SysV ABI: callee-saved registers, `rsp`, MXCSR/x87 control state and the
64 bytes of the caller's frame above the return address are preserved).
The context frame is the 0x40 bytes `[rsp-56, rsp+8)` relative to `rsp` at entry of a saving
routine (header comment of the .S file: fc_mxcsr, fc_x87_cw, R12..R15, RBX, RBP, RIP).
In order: the shape of the generated lists; what a save half writes; the round trips, save half ×
restore half and then through a whole resuming routine; the restore half; the routines that start
a fresh ULT; save before callback; peek.  The predicates of the statements and the lemmas about
the pieces of the routines are in `Proofs.X86`.

Protocol half, at the end, over `Model.Sched`: one runner at a time, and a unit is published only
after its context is saved.
-/
namespace ArgoVerif.Props.C02
open ArgoVerif.Model.X86 ArgoVerif.Gen.Fcontext ArgoVerif.Proofs.X86

/-! ### the generated lists have the shape the model gives a meaning to -/

/-- every routine of the file: `andq` immediates are alignment masks, control leaves at the
last instruction only, and no location is accessed with two different widths (so the
width-separated memory of the model is faithful) -/
theorem fctx_wellformed :
    routines.all (fun x => immOk x.2 && terminated x.2 && noMixedWidth x.2) = true := by decide

/-- the nine entry points `abtd_fcontext.h` declares are exactly the routines of the file -/
theorem fctx_routines :
    routines.map (·.1) =
      ["switch_fcontext", "jump_fcontext", "init_and_switch_fcontext", "init_and_jump_fcontext",
       "switch_with_call_fcontext", "jump_with_call_fcontext", "init_and_switch_with_call_fcontext",
       "init_and_jump_with_call_fcontext", "peek_fcontext"] := by decide

/-- each routine is its save half followed immediately by its restore / init half; the
jump routines are a restore / init half only -/
theorem fctx_split :
    switch_fcontext = switch_fcontext_save ++ switch_fcontext_restore ∧
    switch_with_call_fcontext = switch_with_call_fcontext_save ++ switch_with_call_fcontext_restore ∧
    init_and_switch_fcontext = init_and_switch_fcontext_save ++ init_and_switch_fcontext_init ∧
    init_and_switch_with_call_fcontext =
      init_and_switch_with_call_fcontext_save ++ init_and_switch_with_call_fcontext_init ∧
    jump_fcontext = jump_fcontext_restore ∧ jump_with_call_fcontext = jump_with_call_fcontext_restore ∧
    init_and_jump_fcontext = init_and_jump_fcontext_init ∧
    init_and_jump_with_call_fcontext = init_and_jump_with_call_fcontext_init := by decide

/-- which argument register carries `p_old_ctx` (stored to) and `p_new_ctx` (loaded from);
they are the positions the prototypes in `abtd_fcontext.h` give under the SysV convention
(args 1..6 = rdi rsi rdx rcx r8 r9) -/
theorem fctx_ctx_args :
    storeBase switch_fcontext_save = some .rsi ∧ loadBase switch_fcontext_restore = some .rdi ∧
    loadBase jump_fcontext_restore = some .rdi ∧
    storeBase init_and_switch_fcontext_save = some .rcx ∧
    storeBase switch_with_call_fcontext_save = some .rcx ∧
    loadBase switch_with_call_fcontext_restore = some .rdx ∧
    loadBase jump_with_call_fcontext_restore = some .rdx ∧
    storeBase init_and_switch_with_call_fcontext_save = some .r9 ∧
    loadBase peek_fcontext = some .rdx := by decide

/-! ### what the save half writes; the saved stack pointer is aligned -/

/-- The save half of `switch_fcontext` stores `rsp - 56` into `*p_old`; if the routine was
entered from an ABI-conformant call site (`(rsp + 8) % 16 = 0`) that value is 16-byte
aligned, so a callback later run on this context (`*_with_call`, `peek`) gets an aligned
stack; `rsp` ends at the frame base, no other register changes; and nothing outside
`[rsp-56, rsp)` and `*p_old` is written — in particular the caller's stack contents at and above `rsp` are untouched. -/
theorem fctx_saved_sp_aligned_switch (env : Env) (s0 : St) :
    let s1 := run env s0 switch_fcontext_save
    s1.mem (s0.reg .rsi) = s0.reg .rsp - 56 ∧
    ((s0.reg .rsp + 8) % 16 = 0 → s1.mem (s0.reg .rsi) % 16 = 0) ∧
    s1.reg .rsp = s0.reg .rsp - 56 ∧ (∀ r, r ≠ .rsp → s1.reg r = s0.reg r) ∧
    OnlyFrameWritten s0.mem s1.mem s0.mem32 s1.mem32 s0.mem16 s1.mem16 (s0.reg .rsp) (s0.reg .rsi) :=
  saveHalf_facts env s0 .rsi

theorem fctx_saved_sp_aligned_switch_with_call (env : Env) (s0 : St) :
    let s1 := run env s0 switch_with_call_fcontext_save
    s1.mem (s0.reg .rcx) = s0.reg .rsp - 56 ∧
    ((s0.reg .rsp + 8) % 16 = 0 → s1.mem (s0.reg .rcx) % 16 = 0) ∧
    s1.reg .rsp = s0.reg .rsp - 56 ∧ (∀ r, r ≠ .rsp → s1.reg r = s0.reg r) ∧
    OnlyFrameWritten s0.mem s1.mem s0.mem32 s1.mem32 s0.mem16 s1.mem16 (s0.reg .rsp) (s0.reg .rcx) :=
  saveHalf_facts env s0 .rcx

theorem fctx_saved_sp_aligned_init_and_switch (env : Env) (s0 : St) :
    let s1 := run env s0 init_and_switch_fcontext_save
    s1.mem (s0.reg .rcx) = s0.reg .rsp - 56 ∧
    ((s0.reg .rsp + 8) % 16 = 0 → s1.mem (s0.reg .rcx) % 16 = 0) ∧
    s1.reg .rsp = s0.reg .rsp - 56 ∧ (∀ r, r ≠ .rsp → s1.reg r = s0.reg r) ∧
    OnlyFrameWritten s0.mem s1.mem s0.mem32 s1.mem32 s0.mem16 s1.mem16 (s0.reg .rsp) (s0.reg .rcx) :=
  saveHalf_facts env s0 .rcx

theorem fctx_saved_sp_aligned_init_and_switch_with_call (env : Env) (s0 : St) :
    let s1 := run env s0 init_and_switch_with_call_fcontext_save
    s1.mem (s0.reg .r9) = s0.reg .rsp - 56 ∧
    ((s0.reg .rsp + 8) % 16 = 0 → s1.mem (s0.reg .r9) % 16 = 0) ∧
    s1.reg .rsp = s0.reg .rsp - 56 ∧ (∀ r, r ≠ .rsp → s1.reg r = s0.reg r) ∧
    OnlyFrameWritten s0.mem s1.mem s0.mem32 s1.mem32 s0.mem16 s1.mem16 (s0.reg .rsp) (s0.reg .r9) :=
  saveHalf_facts env s0 .r9

theorem fctx_footprint_switch : SaveFootprint switch_fcontext_save .rsi := footprint_saveHalf

theorem fctx_footprint_switch_with_call : SaveFootprint switch_with_call_fcontext_save .rcx := footprint_saveHalf

/-- non-vacuity: `exSt0` is an ABI-conformant call site, the saved stack pointer is `0x6FC0` -/
example : (exSt0.reg .rsp + 8) % 16 = 0 ∧
    (run retEnv exSt0 switch_fcontext_save).mem (exSt0.reg .rsi) = 0x6FC0 ∧ (0x6FC0 : Int) % 16 = 0 := by
  decide

/-! ### round trips: every saving routine × every restoring routine -/

/-- saved by `switch_fcontext`, resumed by `switch_fcontext` -/
theorem fctx_roundtrip_switch_switch :
    RoundTrip switch_fcontext_save .rsi switch_fcontext_restore .rdi :=
  roundTrip_of_restores (restores_plain _)
/-- saved by `switch_fcontext`, resumed by `jump_fcontext` -/
theorem fctx_roundtrip_switch_jump :
    RoundTrip switch_fcontext_save .rsi jump_fcontext_restore .rdi :=
  roundTrip_of_restores (restores_plain _)
/-- saved by `switch_fcontext`, resumed by `switch_with_call_fcontext` (callback runs first,
on the resumed stack just below the frame) -/
theorem fctx_roundtrip_switch_switch_with_call :
    RoundTrip switch_fcontext_save .rsi switch_with_call_fcontext_restore .rdx :=
  roundTrip_of_restores (restores_call _)
/-- saved by `switch_fcontext`, resumed by `jump_with_call_fcontext` -/
theorem fctx_roundtrip_switch_jump_with_call :
    RoundTrip switch_fcontext_save .rsi jump_with_call_fcontext_restore .rdx :=
  roundTrip_of_restores (restores_call _)

/-- saved by `switch_with_call_fcontext`, resumed by `switch_fcontext` -/
theorem fctx_roundtrip_switch_with_call_switch :
    RoundTrip switch_with_call_fcontext_save .rcx switch_fcontext_restore .rdi :=
  roundTrip_of_restores (restores_plain _)
theorem fctx_roundtrip_switch_with_call_jump :
    RoundTrip switch_with_call_fcontext_save .rcx jump_fcontext_restore .rdi :=
  roundTrip_of_restores (restores_plain _)
theorem fctx_roundtrip_switch_with_call_switch_with_call :
    RoundTrip switch_with_call_fcontext_save .rcx switch_with_call_fcontext_restore .rdx :=
  roundTrip_of_restores (restores_call _)
theorem fctx_roundtrip_switch_with_call_jump_with_call :
    RoundTrip switch_with_call_fcontext_save .rcx jump_with_call_fcontext_restore .rdx :=
  roundTrip_of_restores (restores_call _)

/-- saved by `init_and_switch_fcontext` (the caller starts a fresh ULT), resumed by
`switch_fcontext` -/
theorem fctx_roundtrip_init_and_switch_switch :
    RoundTrip init_and_switch_fcontext_save .rcx switch_fcontext_restore .rdi :=
  roundTrip_of_restores (restores_plain _)
theorem fctx_roundtrip_init_and_switch_jump :
    RoundTrip init_and_switch_fcontext_save .rcx jump_fcontext_restore .rdi :=
  roundTrip_of_restores (restores_plain _)
theorem fctx_roundtrip_init_and_switch_switch_with_call :
    RoundTrip init_and_switch_fcontext_save .rcx switch_with_call_fcontext_restore .rdx :=
  roundTrip_of_restores (restores_call _)
theorem fctx_roundtrip_init_and_switch_jump_with_call :
    RoundTrip init_and_switch_fcontext_save .rcx jump_with_call_fcontext_restore .rdx :=
  roundTrip_of_restores (restores_call _)

/-- saved by `init_and_switch_with_call_fcontext`, resumed by `switch_fcontext` -/
theorem fctx_roundtrip_init_and_switch_with_call_switch :
    RoundTrip init_and_switch_with_call_fcontext_save .r9 switch_fcontext_restore .rdi :=
  roundTrip_of_restores (restores_plain _)
theorem fctx_roundtrip_init_and_switch_with_call_jump :
    RoundTrip init_and_switch_with_call_fcontext_save .r9 jump_fcontext_restore .rdi :=
  roundTrip_of_restores (restores_plain _)
theorem fctx_roundtrip_init_and_switch_with_call_switch_with_call :
    RoundTrip init_and_switch_with_call_fcontext_save .r9 switch_with_call_fcontext_restore .rdx :=
  roundTrip_of_restores (restores_call _)
theorem fctx_roundtrip_init_and_switch_with_call_jump_with_call :
    RoundTrip init_and_switch_with_call_fcontext_save .r9 jump_with_call_fcontext_restore .rdx :=
  roundTrip_of_restores (restores_call _)

/-- non-vacuity of `RoundTrip`: the hypotheses hold for the concrete states `exSt0` (saver,
`rsp = 0x6FF8`, context word at `0x9000`) and `exSt1` (resumer with every register
different and default FP state) with a callback that trashes all caller-saved registers and
the stack below it — and the restore half really brings back `rbx = 0xB1`, `r15 = 0xC15`,
MXCSR `0xFF80`, CW `0x027F`, `rsp = 0x7000`, `pc = 0x401000`. -/
example :
    AbiEnv trashEnv 64 ∧ CtxOutsideFrame (exSt0.reg .rcx) (exSt0.reg .rsp) ∧
    (exSt1 switch_with_call_fcontext_save).reg .rdx = exSt0.reg .rcx ∧
    (exSt1 switch_with_call_fcontext_save).reg .rbx ≠ exSt0.reg .rbx ∧
    (exSt1 switch_with_call_fcontext_save).mxcsr ≠ exSt0.mxcsr ∧
    (let s2 := run trashEnv (exSt1 switch_with_call_fcontext_save) switch_with_call_fcontext_restore
     s2.reg .rbx = 0xB1 ∧ s2.reg .r15 = 0xC15 ∧ s2.mxcsr = 0xFF80 ∧ s2.fpucw = 0x027F ∧
     s2.reg .rsp = 0x7000 ∧ s2.pc = some 0x401000 ∧ s2.reg .rcx = 0xA1A1) :=
  ⟨trashEnv_abi 64, by unfold CtxOutsideFrame; decide, by decide, by decide, by decide, by decide⟩

/-! ### round trips through a whole resuming routine

`switch_fcontext` and `switch_with_call_fcontext` first save the *resumer's* context (on the
resumer's stack, into the resumer's context word) and then restore the target.  The theorems
above start at the restore half; the ones below start at the routine's entry and add what
C15 provides: the resumer's own frame and context word are disjoint from the target's. -/

/-- byte ranges `[a, a+n)` and `[b, b+m)` do not overlap -/
def Disjoint (a n b m : Int) : Prop := a + n ≤ b ∨ b + m ≤ a

/-- as `RoundTrip`, but `s1` is the state at the ENTRY of the whole resuming routine
`resumer` (a different thread, `rsp = s1.rsp`, its own old-context pointer in `rold`) -/
def RoundTripWhole (save : List Instr) (old : Reg) (resumer : List Instr) (new rold : Reg) : Prop :=
  ∀ (env : Env) (s0 s1 : St), AbiEnv env 64 →
    CtxOutsideFrame (s0.reg old) (s0.reg .rsp) →
    s1.reg new = s0.reg old →
    s1.mem (s0.reg old) = (run env s0 save).mem (s0.reg old) →
    Agree s1 (run env s0 save) (s0.reg .rsp - 56) (s0.reg .rsp + 8) →
    Disjoint (s1.reg .rsp - 56) 56 (s0.reg .rsp - 56) 64 →     -- the two threads' frames
    Disjoint (s1.reg .rsp - 56) 56 (s0.reg old) 8 →            -- resumer's frame / target's context word
    Disjoint (s1.reg rold) 8 (s0.reg .rsp - 56) 64 →           -- resumer's context word / target's frame
    Disjoint (s1.reg rold) 8 (s0.reg old) 8 →                  -- the two context words
    Resumed (run env s1 resumer) s0

/-- composition: a restore-half round trip extends over any save half with that footprint -/
theorem roundtrip_whole_of_halves {S Rs Rr : List Instr} {old new rold : Reg}
    (hrt : RoundTrip S old Rr new) (hfp : SaveFootprint Rs rold) (hne : new ≠ .rsp) :
    RoundTripWhole S old (Rs ++ Rr) new rold := by
  intro env s0 s1 habi hfar hnew hctx hk hd1 hd2 hd3 hd4
  rw [run_append]
  obtain ⟨hregs, hofw⟩ := hfp env s1
  unfold Disjoint at hd1 hd2 hd3 hd4
  unfold OnlyFrameWritten at hofw
  apply hrt env s0 (run env s1 Rs) habi hfar <;> grind [Agree]

/-- a context saved by `switch_fcontext` is restored by a complete `switch_fcontext` call of
another thread -/
theorem fctx_roundtrip_whole_switch_switch :
    RoundTripWhole switch_fcontext_save .rsi switch_fcontext .rdi .rsi :=
  fctx_split.1 ▸ roundtrip_whole_of_halves fctx_roundtrip_switch_switch fctx_footprint_switch (by decide)
theorem fctx_roundtrip_whole_switch_switch_with_call :
    RoundTripWhole switch_fcontext_save .rsi switch_with_call_fcontext .rdx .rcx :=
  fctx_split.2.1 ▸ roundtrip_whole_of_halves fctx_roundtrip_switch_switch_with_call
    fctx_footprint_switch_with_call (by decide)
theorem fctx_roundtrip_whole_switch_with_call_switch :
    RoundTripWhole switch_with_call_fcontext_save .rcx switch_fcontext .rdi .rsi :=
  fctx_split.1 ▸ roundtrip_whole_of_halves fctx_roundtrip_switch_with_call_switch fctx_footprint_switch (by decide)
theorem fctx_roundtrip_whole_switch_with_call_switch_with_call :
    RoundTripWhole switch_with_call_fcontext_save .rcx switch_with_call_fcontext .rdx .rcx :=
  fctx_split.2.1 ▸ roundtrip_whole_of_halves fctx_roundtrip_switch_with_call_switch_with_call
    fctx_footprint_switch_with_call (by decide)
theorem fctx_roundtrip_whole_init_and_switch_switch :
    RoundTripWhole init_and_switch_fcontext_save .rcx switch_fcontext .rdi .rsi :=
  fctx_split.1 ▸ roundtrip_whole_of_halves fctx_roundtrip_init_and_switch_switch fctx_footprint_switch (by decide)
theorem fctx_roundtrip_whole_init_and_switch_switch_with_call :
    RoundTripWhole init_and_switch_fcontext_save .rcx switch_with_call_fcontext .rdx .rcx :=
  fctx_split.2.1 ▸ roundtrip_whole_of_halves fctx_roundtrip_init_and_switch_switch_with_call
    fctx_footprint_switch_with_call (by decide)
theorem fctx_roundtrip_whole_init_and_switch_with_call_switch :
    RoundTripWhole init_and_switch_with_call_fcontext_save .r9 switch_fcontext .rdi .rsi :=
  fctx_split.1 ▸ roundtrip_whole_of_halves fctx_roundtrip_init_and_switch_with_call_switch fctx_footprint_switch (by decide)
theorem fctx_roundtrip_whole_init_and_switch_with_call_switch_with_call :
    RoundTripWhole init_and_switch_with_call_fcontext_save .r9 switch_with_call_fcontext .rdx .rcx :=
  fctx_split.2.1 ▸ roundtrip_whole_of_halves fctx_roundtrip_init_and_switch_with_call_switch_with_call
    fctx_footprint_switch_with_call (by decide)

/-- non-vacuity of `RoundTripWhole`: a resumer entering `switch_fcontext` at `rsp = 0x3000` with
its own context word at `0x9010` satisfies all four disjointness hypotheses w.r.t. `exSt0`'s
frame `[0x6FC0, 0x7000)` and context word `0x9000`, and the whole routine brings `exSt0` back -/
example :
    let s1 : St := { exSt1 switch_fcontext_save with
      reg := fun r => if r = .rsi then 0x9010 else (exSt1 switch_fcontext_save).reg r }
    Disjoint (s1.reg .rsp - 56) 56 (exSt0.reg .rsp - 56) 64 ∧ Disjoint (s1.reg .rsp - 56) 56 (exSt0.reg .rsi) 8 ∧
    Disjoint (s1.reg .rsi) 8 (exSt0.reg .rsp - 56) 64 ∧ Disjoint (s1.reg .rsi) 8 (exSt0.reg .rsi) 8 ∧
    (run trashEnv s1 switch_fcontext).reg .r13 = 0xC13 ∧ (run trashEnv s1 switch_fcontext).mxcsr = 0xFF80 ∧
    (run trashEnv s1 switch_fcontext).pc = some 0x401000 ∧
    (run trashEnv s1 switch_fcontext).mem 0x9010 = 0x3000 - 56 := by
  refine ⟨by unfold Disjoint; decide, by unfold Disjoint; decide, by unfold Disjoint; decide,
    by unfold Disjoint; decide, by decide, by decide, by decide, by decide⟩

/-! ### the restore half: the callback runs on the saved stack pointer; without a callback no memory is written -/

/-- The callback of the restoring `_with_call` routines and of `peek_fcontext` is entered on
exactly the stack pointer saved in the target context (16-byte aligned by
`fctx_saved_sp_aligned_*`, i.e. `rsp % 16 = 0` at the `callq`, as the ABI requires), before
the routine has written anything. -/
theorem fctx_call_on_saved_sp (env : Env) (s : St) (habi : AbiEnv env 64) (hc : s.calls = []) :
    OneCall (run env s switch_with_call_fcontext_restore) (fun c =>
      c.sp = s.mem (s.reg .rdx) ∧ c.target = s.reg .rsi ∧ c.arg = s.reg .rdi ∧ c.mem = s.mem) ∧
    OneCall (run env s jump_with_call_fcontext) (fun c =>
      c.sp = s.mem (s.reg .rdx) ∧ c.target = s.reg .rsi ∧ c.arg = s.reg .rdi ∧ c.mem = s.mem) := by
  simp [OneCall, fctx_restore_shape.2.2.1, fctx_restore_shape.2.2.2, run, run_popFrame, exec, setReg, setMem, habi.calls, hc]

/-- The restore halves without a callback write no memory at all (the resumed ULT's stack
contents are exactly what they were when the restore began); in the `_with_call` variants the
only writes are the callback's return address and the callback's own (`fctx_call_on_saved_sp`:
memory at the `callq` is the memory at entry). -/
theorem fctx_restore_writes_nothing (env : Env) (s : St) :
    (run env s switch_fcontext_restore).mem = s.mem ∧ (run env s switch_fcontext_restore).mem32 = s.mem32 ∧
    (run env s switch_fcontext_restore).mem16 = s.mem16 ∧
    (run env s jump_fcontext).mem = s.mem ∧ (run env s jump_fcontext).mem32 = s.mem32 ∧
    (run env s jump_fcontext).mem16 = s.mem16 := by
  simp [fctx_restore_shape.1, fctx_restore_shape.2.1, run, run_popFrame, exec, setReg]

/-! ### a fresh ULT starts on an ABI-aligned stack below `p_stacktop` -/

/-- `init_and_switch_fcontext(p_new, f_thread, p_stacktop, p_old)`: for EVERY `p_stacktop`
(aligned or not) `f_thread` is entered with `(rsp + 8) % 16 = 0` (the ABI's function-entry
alignment), `rsp + 8 ≤ p_stacktop` and less than 16 bytes are lost to alignment; it receives
`p_new` as its argument; no external call is made; and nothing is written except the
caller's own frame and `*p_old` — in particular nothing at or above `p_stacktop`. -/
theorem fctx_init_aligned_init_and_switch (env : Env) (s0 : St) :
    let s2 := run env s0 init_and_switch_fcontext
    (s2.reg .rsp + 8) % 16 = 0 ∧ s2.reg .rsp + 8 ≤ s0.reg .rdx ∧ s0.reg .rdx - 16 < s2.reg .rsp + 8 ∧
    s2.pc = some (s0.reg .rsi) ∧ s2.reg .rdi = s0.reg .rdi ∧ s2.calls = s0.calls ∧
    OnlyFrameWritten s0.mem s2.mem s0.mem32 s2.mem32 s0.mem16 s2.mem16 (s0.reg .rsp) (s0.reg .rcx) := by
  rw [fctx_split.2.2.1, run_append, fctx_save_shape.2.2.1, run_saveHalf env s0 .rcx]
  simp only [init_and_switch_fcontext_init, run, exec, setReg, andNegPow2, OnlyFrameWritten, ↓reduceIte, reduceCtorEq,
    Int.neg_neg]
  grind

/-- `init_and_jump_fcontext(p_new, f_thread, p_stacktop)`: `f_thread` is entered under the same
conditions; no memory is written at all -/
theorem fctx_init_aligned_init_and_jump (env : Env) (s0 : St) :
    let s2 := run env s0 init_and_jump_fcontext
    (s2.reg .rsp + 8) % 16 = 0 ∧ s2.reg .rsp + 8 ≤ s0.reg .rdx ∧ s0.reg .rdx - 16 < s2.reg .rsp + 8 ∧
    s2.pc = some (s0.reg .rsi) ∧ s2.reg .rdi = s0.reg .rdi ∧ s2.calls = s0.calls ∧
    s2.mem = s0.mem ∧ s2.mem32 = s0.mem32 ∧ s2.mem16 = s0.mem16 := by
  simp only [init_and_jump_fcontext, run, exec, setReg, andNegPow2, ↓reduceIte, reduceCtorEq, Int.neg_neg, and_true]
  omega

/-- `init_and_jump_with_call_fcontext(cb_arg, f_cb, p_new, f_thread, p_stacktop)` -/
theorem fctx_init_aligned_init_and_jump_with_call (env : Env) (s0 : St) (habi : AbiEnv env 64)
    (hc : s0.calls = []) :
    let s2 := run env s0 init_and_jump_with_call_fcontext
    (s2.reg .rsp + 8) % 16 = 0 ∧ s2.reg .rsp + 8 ≤ s0.reg .r8 ∧ s0.reg .r8 - 16 < s2.reg .rsp + 8 ∧
    s2.pc = some (s0.reg .rcx) ∧ s2.reg .rdi = s0.reg .rdx ∧
    OneCall s2 (fun c => c.sp % 16 = 0 ∧ c.sp ≤ s0.reg .r8 ∧ s0.reg .r8 - 16 < c.sp ∧
      c.sp = s2.reg .rsp + 8 ∧ c.target = s0.reg .rsi ∧ c.arg = s0.reg .rdi ∧
      c.mem = s0.mem ∧ c.mem32 = s0.mem32 ∧ c.mem16 = s0.mem16) := by
  simp [init_and_jump_with_call_fcontext, run, exec, setReg, setMem, andNegPow2, OneCall, habi.rsp, habi.r12, habi.r13,
    habi.pc, habi.calls, hc]
  omega

/-- `init_and_switch_with_call_fcontext(cb_arg, f_cb, p_new, f_thread, p_stacktop, p_old)`:
for every `p_stacktop` the callback `f_cb(cb_arg)` is called with `rsp % 16 = 0` at the `callq`
and `rsp ≤ p_stacktop` (its return address is the first thing written on the new stack, below
the top), then `f_thread(p_new)` is entered with `(rsp + 8) % 16 = 0`, `rsp + 8 ≤ p_stacktop`. -/
theorem fctx_init_aligned_init_and_switch_with_call (env : Env) (s0 : St) (habi : AbiEnv env 64)
    (hc : s0.calls = []) :
    let s2 := run env s0 init_and_switch_with_call_fcontext
    (s2.reg .rsp + 8) % 16 = 0 ∧ s2.reg .rsp + 8 ≤ s0.reg .r8 ∧ s0.reg .r8 - 16 < s2.reg .rsp + 8 ∧
    s2.pc = some (s0.reg .rcx) ∧ s2.reg .rdi = s0.reg .rdx ∧
    OneCall s2 (fun c => c.sp % 16 = 0 ∧ c.sp ≤ s0.reg .r8 ∧ s0.reg .r8 - 16 < c.sp ∧
      c.sp = s2.reg .rsp + 8 ∧ c.target = s0.reg .rsi ∧ c.arg = s0.reg .rdi ∧
      OnlyFrameWritten s0.mem c.mem s0.mem32 c.mem32 s0.mem16 c.mem16 (s0.reg .rsp) (s0.reg .r9)) := by
  rw [fctx_split.2.2.2.1, run_append, fctx_save_shape.2.2.2, run_saveHalf env s0 .r9]
  simp [init_and_switch_with_call_fcontext_init, run, exec, setReg, setMem, andNegPow2, OneCall, OnlyFrameWritten,
    habi.rsp, habi.r12, habi.r13, habi.pc, habi.calls, hc]
  grind

/-- non-vacuity: an unaligned `p_stacktop = 0x5555` gives callback `rsp = 0x5550`, wrapper entry
`rsp = 0x5548` -/
example :
    let s2 := run trashEnv exSt0 init_and_switch_with_call_fcontext
    s2.reg .rsp = 0x5548 ∧ s2.pc = some 0x9000 ∧ s2.reg .rdi = 0x9008 ∧
    s2.calls.map (·.sp) = [0x5550] := by decide

/-! ### the context is saved before the callback runs -/

/-- `switch_with_call_fcontext(cb_arg, f_cb, p_new, p_old)`: exactly one external call is made;
it is `f_cb(cb_arg)`, on the stack pointer stored in `*p_new`, and the memory at that moment
is exactly the memory the save half produced — the old context (frame and `*p_old`) is
completely saved when the callback starts, so the callback may publish the old ULT (push it
to a pool, unlock a mutex…) and another stream may resume it at once (`fctx_roundtrip_*`). -/
theorem fctx_save_before_call_switch_with_call (env : Env) (s0 : St) (habi : AbiEnv env 64)
    (hc : s0.calls = []) :
    let sv := run env s0 switch_with_call_fcontext_save
    OneCall (run env s0 switch_with_call_fcontext) (fun c =>
      c.target = s0.reg .rsi ∧ c.arg = s0.reg .rdi ∧ c.sp = sv.mem (s0.reg .rdx) ∧
      c.mem = sv.mem ∧ c.mem32 = sv.mem32 ∧ c.mem16 = sv.mem16) := by
  rw [fctx_split.2.1, run_append, fctx_restore_shape.2.2.1, fctx_save_shape.2.1]
  simp [OneCall, run, run_popFrame, exec, setReg, setMem, habi.calls, run_saveHalf env s0 .rcx, hc]

/-- same for `init_and_switch_with_call_fcontext(cb_arg, f_cb, p_new, f_thread, p_stacktop,
p_old)`: the callback runs on the fresh stack after the old context is completely saved -/
theorem fctx_save_before_call_init_and_switch_with_call (env : Env) (s0 : St) (habi : AbiEnv env 64)
    (hc : s0.calls = []) :
    let sv := run env s0 init_and_switch_with_call_fcontext_save
    OneCall (run env s0 init_and_switch_with_call_fcontext) (fun c =>
      c.target = s0.reg .rsi ∧ c.arg = s0.reg .rdi ∧
      c.mem = sv.mem ∧ c.mem32 = sv.mem32 ∧ c.mem16 = sv.mem16) := by
  rw [fctx_split.2.2.2.1, run_append, fctx_save_shape.2.2.2, run_saveHalf env s0 .r9]
  simp [init_and_switch_with_call_fcontext_init, run, exec, setReg, setMem, OneCall, habi.calls, hc]

/-- structural form of the same fact: no save half contains a `callq`, every `_with_call`
routine does contain one (after the save half, by `fctx_split`) -/
theorem fctx_save_before_call :
    hasCall switch_with_call_fcontext_save = false ∧ hasCall switch_with_call_fcontext_restore = true ∧
    hasCall init_and_switch_with_call_fcontext_save = false ∧
    hasCall init_and_switch_with_call_fcontext_init = true ∧
    hasCall switch_fcontext_save = false ∧ hasCall init_and_switch_fcontext_save = false ∧
    hasCall jump_with_call_fcontext = true ∧ hasCall init_and_jump_with_call_fcontext = true := by decide

/-- non-vacuity: on `exSt0` the callback is `0x9000(0x9008)`, and at that moment `*p_old` already
holds `0x6FC0` and the frame already holds `rbp` -/
example :
    let s2 := run trashEnv exSt0 switch_with_call_fcontext
    s2.calls.map (fun c => (c.target, c.arg, c.mem 0x9000, c.mem (0x6FF8 - 8))) =
      [(0x9000, 0x9008, 0x6FC0, 0xB2)] := by decide

/-! ### peek -/

/-- `peek_fcontext(arg, f_peek, p_target)`: `f_peek(arg)` runs on the target's saved stack
pointer (so with an aligned stack, `fctx_saved_sp_aligned_*`) before anything but the caller's
own `r12` slot is written; afterwards the caller continues as after an ordinary call
(`Resumed`: callee-saved registers, FP control state, `rsp`, return address), and the
target's 0x40-byte frame is exactly as before, so it can still be resumed.
Hypotheses besides the ABI: `f_peek` does not write the two words of the peeking thread's own
stack that `peek_fcontext` uses (it runs on a different stack — C15's disjointness). -/
theorem fctx_peek_restores (env : Env) (s0 : St) (habi : AbiEnv env 64) (hc : s0.calls = [])
    (hown : ∀ t s, (env.cb t s).mem (s0.reg .rsp - 8) = s.mem (s0.reg .rsp - 8) ∧
                   (env.cb t s).mem (s0.reg .rsp) = s.mem (s0.reg .rsp))
    (hdisj : s0.reg .rsp + 8 ≤ s0.mem (s0.reg .rdx) - 8 ∨ s0.mem (s0.reg .rdx) + 64 ≤ s0.reg .rsp - 8)
    (hctx : s0.reg .rdx ≠ s0.reg .rsp - 8) :
    let s2 := run env s0 peek_fcontext
    let t := s0.mem (s0.reg .rdx)
    Resumed s2 s0 ∧
    OneCall s2 (fun c => c.sp = t ∧ c.target = s0.reg .rsi ∧ c.arg = s0.reg .rdi ∧
      ∀ a, a ≠ s0.reg .rsp - 8 → c.mem a = s0.mem a) ∧
    Agree s2 s0 t (t + 64) := by
  dsimp only
  simp only [peek_fcontext, run, exec, setReg, setMem, ↓reduceIte, reduceCtorEq, Int.add_zero]
  cases habi
  refine ⟨?_, ?_, ?_⟩
  · unfold Resumed; grind
  · simp only [OneCall, *]; grind
  · unfold Agree; grind

/-- non-vacuity: peeking (from `rsp = 0x6FF8`) at a context whose saved stack pointer is
`0x3000`, with the trashing callback -/
example :
    let s0 : St := { exSt0 with mem := fun a => if a = 0x9008 then 0x3000 else exSt0.mem a }
    let s2 := run trashEnv s0 peek_fcontext
    s2.reg .rsp = 0x7000 ∧ s2.reg .r12 = 0xC12 ∧ s2.pc = some 0x401000 ∧
    s2.calls.map (fun c => (c.sp, c.arg)) = [(0x3000, 0x9008)] := by decide

/-! ## Protocol half: one runner at a time, publication only after the context is saved

`Model.Sched`'s event `cb e u k` is the entry of a context-switch callback.  By `fctx_save_before_call_*` above the
callback of the `*_with_call` routines is called after the old context has been stored, and `fctx_call_on_saved_sp`
shows it runs on the *new* stack; the controlled-scheduler runs additionally check at every callback that the stack
pointer is outside the switched-away unit's stack.  So "location `cb`" means "context completely saved". -/

open ArgoVerif.Model.Sched in
/-- **single runner**: a run slice of u starts on stream e only when u is on no stream (not running, no callback
pending) — in every state u has one location, so it executes on at most one execution stream -/
theorem ctx_single_runner (s s' : ArgoVerif.Model.Sched.St) (e : Nat) (u : Nat)
    (hs : ArgoVerif.Model.Sched.step s (.run e u) = some s') :
    (∀ e', s.loc u ≠ .running e') ∧ (∀ e', s.loc u ≠ .cb e') ∧ s'.loc u = .running e :=
  let ⟨_, hr, hc, _, hl⟩ := step_run_loc s s' e u hs; ⟨hr, hc, hl⟩

open ArgoVerif.Model.Sched in
/-- **publish after save**: every step that makes a unit reachable by another stream — a push to a pool, the BLOCKED
store that lets a resumer act, the READY store — happens only when the unit is not running: its context has been saved
(`cb`), or it has never run / is exclusively held by a scheduler / is blocked and resumed -/
theorem ctx_publish_after_save (s s' : ArgoVerif.Model.Sched.St) (ev : ArgoVerif.Model.Sched.Ev) (u : Nat)
    (hev : (∃ p, ev = .push p u) ∨ ev = .setSt u .blocked ∨ ev = .setSt u .ready)
    (hs : ArgoVerif.Model.Sched.step s ev = some s') : ∀ e, s.loc u ≠ .running e := by
  intro e hl
  rcases hev with ⟨p, rfl⟩ | rfl | rfl <;>
    simp only [ArgoVerif.Model.Sched.step, stepPush, stepSetSt, hl, pushable] at hs <;>
    (repeat' (split at hs)) <;> simp_all

open ArgoVerif.Model.Sched in
/-- a unit whose state reads BLOCKED is fully suspended in every reachable state: nobody who acts on the BLOCKED state
(resume, join hand-off, wait-list wake-up) can reach a unit that is still switching -/
theorem ctx_blocked_means_saved (s : ArgoVerif.Model.Sched.St) (h : ArgoVerif.Model.Sched.machine.Reachable s) (u : Nat)
    (hb : s.st u = .blocked) : s.loc u = .blocked :=
  (ArgoVerif.Model.Sched.inv_reachable s h).stBlockedLoc u hb

end ArgoVerif.Props.C02
