import ArgoVerif.Proofs.KTableRace
import ArgoVerif.Proofs.KTableConc
import ArgoVerif.Proofs.KeyId
import ArgoVerif.Gen.Consts
/-
Props.C16 — work-unit-local storage behaves as an independent key→value map per
work unit.  Property theorems only; lemmas live in Proofs/KTable.lean (sequential
core), Proofs/KTableRace.lean (lazy creation / concurrent setters), Proofs/KTableConc.lean
(interleaved set / get on one table) and Proofs/KeyId.lean (key-id allocation).

Table sizes: the environment loader (`ABTD_env_key_table_size`) yields
`roundup_pow2(clamp(ABT_KEY_TABLE_SIZE, 1, UINT32_MAX))`, i.e. one of 2^0 … 2^31
(default 4).  The theorems below need only `size ≥ 1`: `key_id & (size-1) ≤ size-1`
holds for every size, so every element lands in a bucket that `ABTI_ktable_free`
visits; the power-of-two assertion of the C code is not needed for correctness of
the map (only for an even spread).
-/
namespace ArgoVerif.Props.C16
open ArgoVerif ArgoVerif.Model.KTable

/-- abstract state of one work unit: total map key id → value, `0` = NULL -/
abbrev Spec := Nat → Val

/-- the destructor calls a map `m` prescribes for key id `k` when the unit is freed:
exactly one call `kd k (m k)` iff both the value and the key's destructor are non-NULL -/
def specCalls (kd : Nat → Nat) (m : Spec) (k : Nat) : List DCall :=
  if m k ≠ 0 ∧ kd k ≠ 0 then [{ keyId := k, dtor := kd k, val := m k }] else []

def specStep (m : Spec) : Op → Out → Spec
  | .set k v _ _, .setR true => fun x => if x = k.id then v else m x
  | .free, _ => fun _ => 0
  | _, _ => m

/-- what an operation may report given the abstract map before it.  A set may fail
only when an allocation it needs fails; a failed set changes nothing (`specStep`). -/
def specOut (kd : Nat → Nat) (m : Spec) : Op → Out → Prop
  | .set _ _ mT mE, .setR ok => (mT = true → mE = true → ok = true)
  | .get kid, .getR v => v = m kid
  | .revive, .reviveR => True
  | .free, .freeR calls _ => ∀ k, calls.filter (fun d => d.keyId == k) = specCalls kd m k
  | _, _ => False

def specRun (kd : Nat → Nat) (m : Spec) : List Op → List Out → Prop
  | [], [] => True
  | op :: ops, o :: os => specOut kd m op o ∧ specRun kd (specStep m op o) ops os
  | _, _ => False

/-- every set uses a key whose destructor is the one registered for its id
(`ABT_key_create` hands out each id once, so an id determines its destructor) -/
def KeysOk (kd : Nat → Nat) : List Op → Prop
  | [] => True
  | .set k _ _ _ :: ops => k.dtor = kd k.id ∧ KeysOk kd ops
  | _ :: ops => KeysOk kd ops

theorem ktable_step_refines (kd : Nat → Nat) (g : Geom) (size : Nat) (hsz : 0 < size) (s : Slot) (op : Op)
    (hw : SlotWF kd size s) (hk : KeysOk kd [op]) :
    SlotWF kd size (step g size s op).1 ∧ specOut kd (slotGet s) op (step g size s op).2 ∧
    ∀ k, slotGet (step g size s op).1 k = specStep (slotGet s) op (step g size s op).2 k := by
  cases op with
  | set k v mT mE =>
    have hk' : k.dtor = kd k.id := hk.1
    have h := slotSet_spec kd g size hsz s k v mT mE hw hk'
    refine ⟨h.1, h.2.2, ?_⟩
    intro k'
    have := h.2.1 k'
    simp only [step]
    rw [this]
    cases hok : (slotSet g size s k v mT mE).2 <;> simp [specStep]
  | get kid => exact ⟨hw, rfl, fun _ => rfl⟩
  | revive => exact ⟨hw, trivial, fun _ => rfl⟩
  | free => exact ⟨trivial, slotFree_filter kd size s hw, fun _ => rfl⟩

/-- **C16 (per-unit map)**.  For every table size ≥ 1, every number of keys (colliding
in a bucket or not) and *every* sequence of set / get / revive / free on one work
unit's `p_keytable` — starting from NULL or from any well-formed table, with
allocation failures allowed at any set — each `get` returns the last value
successfully set for that key id (NULL if none), `thread_revive` keeps all values,
and `thread_free` calls, for each key id, its destructor exactly once with the stored
value iff both are non-NULL and not at all otherwise; the next work unit using the
descriptor starts from the empty map. -/
theorem ktable_refines_map (kd : Nat → Nat) (g : Geom) (size : Nat) (hsz : 0 < size) (ops : List Op) (s : Slot)
    (hw : SlotWF kd size s) (hk : KeysOk kd ops) :
    specRun kd (slotGet s) ops (runOps g size s ops).2 ∧ SlotWF kd size (runOps g size s ops).1 := by
  induction ops generalizing s with
  | nil => exact ⟨trivial, hw⟩
  | cons op ops ih =>
    have hk1 : KeysOk kd [op] := by cases op <;> simp_all [KeysOk]
    have hk2 : KeysOk kd ops := by cases op <;> simp_all [KeysOk]
    have hs := ktable_step_refines kd g size hsz s op hw hk1
    have ih' := ih (step g size s op).1 hs.1 hk2
    have heq : slotGet (step g size s op).1 = specStep (slotGet s) op (step g size s op).2 := funext hs.2.2
    rw [heq] at ih'
    simp only [runOps, specRun]
    exact ⟨⟨hs.2.1, ih'.1⟩, ih'.2⟩

/-! ### many work units -/

abbrev SysSpec := Nat → Spec

def sysSpecRun (kd : Nat → Nat) (M : SysSpec) : List (Nat × Op) → List Out → Prop
  | [], [] => True
  | (u, op) :: ops, o :: os =>
    specOut kd (M u) op o ∧ sysSpecRun kd (fun x => if x = u then specStep (M u) op o else M x) ops os
  | _, _ => False

def SysKeysOk (kd : Nat → Nat) : List (Nat × Op) → Prop
  | [] => True
  | (_, op) :: ops => KeysOk kd [op] ∧ SysKeysOk kd ops

/-- **C16 (independence)**.  Any interleaved sequence of operations on any number of
work units (ULTs, tasklets, the primary ULT — each is one `p_keytable` slot; the caller
may be the owner or another work unit, `ABT_thread_set_specific`) behaves as one
independent map per unit: an operation on unit `u` reports what `u`'s own map says and
changes only `u`'s map; no value is visible under another unit or another key.
(Operations are atomic here; the concurrent case is `ktable_create_race`.) -/
theorem ktable_units_independent (kd : Nat → Nat) (g : Geom) (size : Nat) (hsz : 0 < size)
    (ops : List (Nat × Op)) (S : Sys) (hw : ∀ u, SlotWF kd size (S u)) (hk : SysKeysOk kd ops) :
    sysSpecRun kd (fun u => slotGet (S u)) ops (sysRun g size S ops).2 ∧
    ∀ u, SlotWF kd size ((sysRun g size S ops).1 u) := by
  induction ops generalizing S with
  | nil => exact ⟨trivial, hw⟩
  | cons p ops ih =>
    obtain ⟨u, op⟩ := p
    have hs := ktable_step_refines kd g size hsz (S u) op (hw u) hk.1
    have hw' : ∀ x, SlotWF kd size ((sysStep g size S u op).1 x) := by
      intro x
      simp only [sysStep, updS]
      split
      · exact hs.1
      · exact hw x
    have ih' := ih (sysStep g size S u op).1 hw' hk.2
    have heq : (fun x => slotGet ((sysStep g size S u op).1 x)) =
        (fun x => if x = u then specStep (slotGet (S u)) op (step g size (S u) op).2 else slotGet (S x)) := by
      funext x
      simp only [sysStep, updS]
      split
      · exact funext hs.2.2
      · rfl
    rw [heq] at ih'
    simp only [sysRun, sysSpecRun]
    exact ⟨⟨hs.2.1, ih'.1⟩, ih'.2⟩

/-- an operation on unit `u` leaves every other unit's slot literally untouched -/
theorem ktable_other_units_untouched (g : Geom) (size : Nat) (S : Sys) (u u' : Nat) (op : Op) (h : u' ≠ u) :
    (sysStep g size S u op).1 u' = S u' := by
  simp [sysStep, updS, h]

/-- **C16 (destructors)**.  For the table reached by any operation sequence from an empty
slot, `ABTI_ktable_free` invokes, for every key id `k`: nothing if the stored value or the
key's destructor is NULL, and otherwise exactly one call of that destructor with exactly the
stored value (which by `ktable_refines_map` is the last value set). -/
theorem ktable_destructor_once (kd : Nat → Nat) (g : Geom) (size : Nat) (hsz : 0 < size) (ops : List Op)
    (hk : KeysOk kd ops) (k : Nat) :
    let s := (runOps g size none ops).1
    (slotFree s).1.filter (fun d => d.keyId == k) = specCalls kd (slotGet s) k :=
  slotFree_filter kd size _ (ktable_refines_map kd g size hsz ops none trivial hk).2 k

/-- **C16 (storage blocks)**.  For the table reached by any operation sequence, the blocks
`ABTI_ktable_free` releases are exactly the blocks obtained for this table (the block holding
the table and every element block), each once, each with the deallocator matching its
allocator; and every element's storage lies inside one of them. -/
theorem ktable_blocks_freed_once (g : Geom) (size : Nat) (ops : List Op) (t : Table)
    (h : (runOps g size none ops).1 = some t) :
    (freeBlocks t).Perm t.ledger ∧ ((freeBlocks t).map Prod.fst).Nodup ∧
    (∀ i e, e ∈ t.b i → e.blk ∈ (freeBlocks t).map Prod.fst) := by
  have hb : BWF t := runOps_bwf g size ops none (fun _ h => nomatch h) t h
  have hperm : (freeBlocks t).Perm t.ledger := by
    simp only [freeBlocks, hb.used_eq]; exact List.reverse_perm _
  have hids := hperm.map Prod.fst
  refine ⟨hperm, ?_, fun i e he => ?_⟩
  · rw [hids.nodup_iff, hb.ids]; exact List.nodup_range
  · rw [hids.mem_iff, hb.ids, List.mem_range]; exact hb.elems_in i e he

/-- **C16 (revive)**.  `thread_revive` does not access `p_keytable`: whatever was stored
before a revive is returned after it (corollary of `ktable_refines_map`, stated explicitly). -/
theorem ktable_revive_keeps_values (g : Geom) (size : Nat) (s : Slot) (k : Nat) :
    slotGet (step g size s .revive).1 k = slotGet s k := rfl

/-! ### lazy creation race / concurrent setters -/

/-- **C16 (creation race)**.  `n` callers execute `ABTI_ktable_set(pp_ktable, key t, val t)`
concurrently on one empty slot (NULL); a key id determines its key (`hkey`: `ABT_key_create`
hands out every id once).  For *every* interleaving of their atomic steps
(weak CAS with spurious failures, spinning on LOCKED, lock-free chain walk, lock, re-walk,
publish, unlock), without allocation failures, in every reachable state:
* at most one table has been created, exactly one once the slot is valid, and the slot never
  leaves the valid state;
* chains hold pairwise distinct key ids in the right buckets (no duplicate element even when
  several callers insert the same new key);
* every caller that has returned reported success and its key is in the table with the value
  of the caller that stored last for that key (itself if nobody else uses that key). -/
theorem ktable_create_race (P : Params) (hsz : 0 < P.size) (hf : P.faults = false)
    (hkey : ∀ a b, (P.key a).id = (P.key b).id → P.key a = P.key b)
    (tr : List (Nat × Act)) (s : CSt) (h : Star (Step P) CSt.init tr s) :
    s.created ≤ 1 ∧ (s.slot = .valid → s.created = 1) ∧
    (∀ t, s.pc t ≠ .crashed ∧ s.pc t ≠ .done false) ∧
    (s.slot = .valid → WF (fun k => (P.key (s.lastw k)).dtor) s.tbl ∧ s.tbl.size = P.size) ∧
    (∀ t, s.pc t = .done true →
        s.slot = .valid ∧ (P.key (s.lastw (P.key t).id)).id = (P.key t).id ∧
        tget s.tbl (P.key t).id = P.val (s.lastw (P.key t).id) ∧
        ((∀ t', t' < P.n → (P.key t').id = (P.key t).id → t' = t) → tget s.tbl (P.key t).id = P.val t)) := by
  obtain ⟨hp, ht, hl⟩ := race_inv P hf hkey tr s h
  refine ⟨?_, ?_, ?_, ?_, ?_⟩
  · rw [hp.created]; split <;> omega
  · intro hv; rw [hp.created]; simp [hv]
  · intro t; exact ⟨(hp.nofail t).1, (hp.nofail t).2.1⟩
  · intro hv
    have hs := ht.size hv
    refine ⟨⟨by rw [hs]; exact hsz, ?_, ht.nodup, ?_⟩, hs⟩
    · intro i e he; rw [hs]; exact ht.idx i e he
    · intro i e he; rw [(ht.val i e he).2]
  · intro t hd
    have hv : s.slot = .valid := hp.tbl t (by rw [hd]; rfl)
    obtain ⟨e, he, hek, hget⟩ := chainGet_mem _ _ (ht.present t (by rw [hd]; rfl))
    have hval := ht.val _ e he
    have htg : tget s.tbl (P.key t).id = e.val := by simp only [tget, ht.size hv]; exact hget
    have hid : (P.key (s.lastw (P.key t).id)).id = (P.key t).id := by rw [← hek, hval.2]
    refine ⟨hv, hid, ?_, fun huniq => ?_⟩ <;> rw [htg, hval.1, hek]
    rcases hl (P.key t).id with hlt | h0
    · rw [huniq _ hlt hid]
    · -- `lastw` still has its initial value 0: caller 0 has the same key id, so it is `t` when `0 < n`;
      -- with `n = 0` nobody ever moves
      rw [h0] at hid ⊢
      by_cases hn : 0 < P.n
      · rw [huniq 0 hn hid]
      · have : ∀ t, s.pc t = .start := by
          refine Star.invariant (fun s => ∀ t, s.pc t = .start) ?_ h (fun _ => rfl)
          intro s e s' hi hs
          cases hs <;> omega
        rw [this t] at hd; cases hd

/-- the failure path the theorem above excludes: when the creator's allocation fails it
stores NULL; a caller spinning on LOCKED leaves its loop with NULL and passes it to
`ABTI_ktable_set_impl` (NULL dereference).  Reachable with two callers. -/
theorem ktable_create_race_failure_path :
    ∃ tr s, Star (Step { g := ⟨108, 32, 8, 16, 32⟩, size := 4, n := 2, key := fun t => ⟨2 + t, 0⟩,
                         val := fun t => t + 1, faults := true }) CSt.init tr s ∧ s.pc 1 = .crashed :=
  race_failure_example

/-! ### non-vacuity -/

/-- 3 keys colliding in one bucket of a 2-bucket table (ids 2,4,6) plus id 3, update in
place, NULL value, key without destructor, revive, then free -/
example :
    (runOps ⟨108, 32, 8, 16, 32⟩ 2 none
      [.set ⟨2, 7⟩ 20 true true, .set ⟨4, 7⟩ 40 true true, .set ⟨6, 0⟩ 60 true true, .set ⟨3, 9⟩ 30 true true,
       .set ⟨4, 7⟩ 41 true true, .set ⟨2, 7⟩ 0 true true, .get 4, .get 2, .get 8, .revive, .get 6, .free, .get 4]).2
      = [.setR true, .setR true, .setR true, .setR true, .setR true, .setR true, .getR 41, .getR 0, .getR 0,
         .reviveR, .getR 60,
         .freeR [⟨4, 7, 41⟩, ⟨3, 9, 30⟩] [(1, .mempool), (0, .mempool)], .getR 0] := by decide

example : KeysOk (fun k => if k = 6 then 0 else if k = 3 then 9 else 7)
    [.set ⟨2, 7⟩ 20 true true, .set ⟨6, 0⟩ 60 true true, .set ⟨3, 9⟩ 30 true true, .free] := by
  simp [KeysOk]

/-- a complete race of two callers with different keys: both end in `done true` -/
example : ∃ tr s, Star (Step { g := ⟨108, 32, 8, 16, 32⟩, size := 1, n := 2, key := fun t => ⟨2 + t, 0⟩,
                               val := fun t => t + 1, faults := false }) CSt.init tr s ∧
    s.pc 0 = .done true ∧ s.pc 1 = .done true ∧ tget s.tbl 2 = 1 ∧ tget s.tbl 3 = 2 :=
  race_success_example

/-! ### concurrent `ABTI_ktable_set` / `ABTI_ktable_get` on one table (Model.KTableConc)

Any number of actors (the owner and other work units / external threads), each repeatedly
calling set (safe variant: lock-free walk, lock, re-walk, append, unlock; or the non-safe variant
on a private table) and get (lock-free walk, plain read), interleaved at the granularity of the
atomic operations of abti_key.h plus the plain `value` accesses.  All theorems quantify over
every accepted run of `machine c` (equivalently, by `Model.KTableConc.run_inv` of Proofs/KTableConc.lean,
every run of the relational `Step`), i.e. over all interleavings, table sizes ≥ 1, keys and values. -/
section conc
open ArgoVerif.Model.KTableConc

theorem ktconc_reach (c : Cfg) (tr : List Ev) (s : St) (h : (machine c).run (init c) tr = some s) :
    Star (Step c) (init c) tr s ∧ PInv s ∧ TInv c s :=
  run_inv c tr (init c) s (pinv_init c) (tinv_init c) h

/-- **C16 (concurrent: chains stay well formed, one element per key)**.  In every reachable state
every element sits in the bucket its key id selects, carries its key's destructor, and no chain
holds two elements with the same key id — also when several callers insert the same new key, or
different new keys of one bucket, at the same time. -/
theorem ktconc_chains_well_formed (c : Cfg) (hsz : 0 < c.size) (tr : List Ev) (s : St)
    (h : (machine c).run (init c) tr = some s) :
    WF c.kd s.tbl ∧ s.tbl.size = c.size ∧ ∀ b, ((s.tbl.b b).map (·.keyId)).Nodup := by
  obtain ⟨_, _, ht⟩ := ktconc_reach c tr s h
  exact ⟨tinv_wf c s hsz ht, ht.size, ht.nodup⟩

/-- **C16 (concurrent: nothing is ever unlinked or overwritten)**.  Once an element is linked at
position `i` of a chain it stays exactly there in every later state of the run (same key id,
destructor and storage; only `value` may change): elements are only ever added at the tail. -/
theorem ktconc_append_only (c : Cfg) (tr1 tr2 : List Ev) (s1 s2 : St)
    (h1 : (machine c).run (init c) tr1 = some s1) (h2 : (machine c).run s1 tr2 = some s2) :
    ∀ (b i : Nat) (x : Elem), (s1.tbl.b b)[i]? = some x →
      ∃ x', (s2.tbl.b b)[i]? = some x' ∧ sameElem x x' := by
  obtain ⟨_, hp, ht⟩ := ktconc_reach c tr1 s1 h1
  obtain ⟨hst, _, _⟩ := run_inv c tr2 s1 s2 hp ht h2
  exact star_append_only c tr2 s1 s2 hp ht hst

/-- **C16 (concurrent: the publishing store hits the tail)**.  Whenever a caller is about to
release-store its new element into link `j`, that link is the current tail (`j` = chain length,
i.e. the link is NULL) and the key is not in the chain: the re-walk under the lock makes the
remembered `pp_elem` current again.  (So the tail guard of the executable `exec` never rejects a
behaviour of the model; it only rejects observed traces that are not behaviours.) -/
theorem ktconc_publish_at_tail (c : Cfg) (tr : List Ev) (s : St) (h : (machine c).run (init c) tr = some s)
    (a : Actor) (k : Key) (v : Val) (sf : Bool) (j blk : Nat) (hpc : s.pc a = .pub k v sf j blk) :
    j = (chain c s k.id).length ∧ k.id ∉ (chain c s k.id).map (·.keyId) ∧
    (sf = true → s.lock = some a) ∧ (sf = false → s.priv = some a) := by
  obtain ⟨_, hp, ht⟩ := ktconc_reach c tr s h
  have := ht.pubc a k.id j (by rw [hpc]; rfl)
  refine ⟨by rw [this.1, ks, List.length_map]; rfl, this.2, ?_, ?_⟩
  · intro hs; subst hs; exact hp.lock1 a (by rw [hpc]; rfl)
  · intro hs; subst hs; exact hp.priv1 a (by rw [hpc]; rfl)

/-- **C16 (concurrent: get is linearizable)**.  `hist kid` lists every value stored under `kid`
in store order (each entry is written by a set that is in progress at that moment); the abstract
value of the key is its last entry (NULL if empty).  A get that is about to return `r` was
called when the history had `h0` entries and read `value` when it had `hr`: either it found no
element and the key had never been set when it was called (`r = NULL`), or `r` is entry `hr-1`
with `h0 ≤ hr`: the value that was current at the call (stored by the latest set whose store
preceded the call) or a value stored by an overlapping set — the abstract value at some moment
inside the get's own interval. -/
theorem ktconc_get_linearizable (c : Cfg) (tr : List Ev) (s : St) (h : (machine c).run (init c) tr = some s)
    (a : Actor) (kid h0 : Nat) (r : Val) (hr : Nat) (hpc : s.pc a = .gret kid h0 r hr) :
    (hr = 0 ∧ r = 0 ∧ h0 = 0) ∨
    (h0 ≤ hr ∧ 1 ≤ hr ∧ hr ≤ (s.hist kid).length ∧ (s.hist kid)[hr - 1]? = some r) := by
  obtain ⟨_, _, ht⟩ := ktconc_reach c tr s h
  rcases ht.gret a kid h0 r hr hpc with h1 | ⟨h1, h2, h3⟩
  · exact Or.inl h1
  · have := (List.getElem?_eq_some_iff.mp h3).1
    exact Or.inr ⟨h1, h2, by omega, h3⟩

/-- **C16 (concurrent: last-writer map)**.  In every reachable state — in particular once all sets
have returned — a lookup of any key id yields the value stored last under it (NULL if none):
no set is lost, whatever raced with it. -/
theorem ktconc_last_writer_map (c : Cfg) (tr : List Ev) (s : St) (h : (machine c).run (init c) tr = some s)
    (k : Nat) : tget s.tbl k = absVal s k := by
  obtain ⟨_, _, ht⟩ := ktconc_reach c tr s h
  exact tinv_tget c s ht k

/-- **C16 (concurrent: destructors)**.  Whatever interleaving built the table, `ABTI_ktable_free`
(run when no access is in progress: the `free` event requires every actor idle) calls, for each
key id, its destructor exactly once with the last value stored iff both are non-NULL, and not at
all otherwise. -/
theorem ktconc_destructor_once (c : Cfg) (hsz : 0 < c.size) (tr : List Ev) (s : St)
    (h : (machine c).run (init c) tr = some s) (k : Nat) :
    (freeCalls s.tbl).filter (fun d => d.keyId == k) = specCalls c.kd (absVal s) k := by
  obtain ⟨_, _, ht⟩ := ktconc_reach c tr s h
  rw [freeCalls_filter c.kd s.tbl (tinv_wf c s hsz ht) k, tinv_tget c s ht k]
  rfl

/-- the free event itself is only accepted when nobody is inside the table -/
theorem ktconc_free_when_quiescent (c : Cfg) (tr : List Ev) (s s' : St) (h : (machine c).run (init c) tr = some s)
    (hf : (machine c).step s .free = some s') : (∀ a, s.pc a = .idle) ∧ s'.tbl = s.tbl ∧ s'.live = false := by
  obtain ⟨_, hp, _⟩ := ktconc_reach c tr s h
  have hst := exec_sound c s .free s' hp hf
  cases hst with
  | free hall _ => exact ⟨hall, rfl, rfl⟩

def exCfg : Cfg := { g := ⟨108, 32, 8, 16, 32⟩, size := 2, kd := fun k => if k = 4 then 7 else 0 }

/-- non-vacuity: actors 0 and 1 insert the colliding new keys 2 and 4 (bucket 0 of a 2-bucket
table); both finish their lock-free walk at the empty bucket head before either appends; actor 1's
re-walk under the lock finds actor 0's element and appends behind it; actor 2's get of key 2
overlaps; afterwards both keys are present. -/
def okRun : List Ev :=
  [.startSet 0 ⟨2, 0⟩ 20 true, .startSet 1 ⟨4, 7⟩ 40 true, .startGet 2 2,
   .load 0 0 0 false, .load 1 0 0 false, .load 2 0 0 false, .endGet 2 0,
   .acquire 0, .load 0 0 0 false, .storeLink 0 0 0, .release 0, .endSet 0 true,
   .acquire 1, .load 1 0 0 true, .load 1 0 1 false, .storeLink 1 0 1, .release 1, .endSet 1 true,
   .startGet 2 4, .load 2 0 0 true, .load 2 0 1 true, .readVal 2, .endGet 2 40,
   .startSet 0 ⟨4, 7⟩ 41 true, .load 0 0 0 true, .load 0 0 1 true, .storeVal 0, .endSet 0 true, .free]

example : ((machine exCfg).run (init exCfg) okRun).isSome = true := by decide

example : (((machine exCfg).run (init exCfg) okRun).map fun s =>
    (tget s.tbl 2, tget s.tbl 4, freeCalls s.tbl, s.hist 4)) = some (20, 41, [⟨4, 7, 41⟩], [40, 41]) := by decide

/-- rejected trace: the same race without the re-walk — actor 1 stores its element into the link
it remembered from the lock-free walk (link 0), which is no longer the tail.  Not a run. -/
example : (machine exCfg).run (init exCfg)
    [.startSet 0 ⟨2, 0⟩ 20 true, .startSet 1 ⟨4, 7⟩ 40 true, .load 0 0 0 false, .load 1 0 0 false,
     .acquire 0, .load 0 0 0 false, .storeLink 0 0 0, .release 0, .endSet 0 true,
     .acquire 1, .storeLink 1 0 0] = none := by decide

/-- and even with the load: a publishing store into a non-tail link is rejected by the tail guard
(here the state is forged by hand: actor 1 about to publish at link 0 of a chain of length 1) -/
example :
    let s0 := ((machine exCfg).run (init exCfg)
      [.startSet 0 ⟨2, 0⟩ 20 true, .load 0 0 0 false, .acquire 0, .load 0 0 0 false, .storeLink 0 0 0,
       .release 0, .endSet 0 true])
    (s0.bind fun s => (machine exCfg).step { s with pc := upd s.pc 1 (.pub ⟨4, 7⟩ 40 true 0 1), lock := some 1 }
      (.storeLink 1 0 0)) = none := by decide

end conc

/-! ### key ids (Model.KeyId): `ABT_key_create` on any number of streams -/
section keyid
open ArgoVerif.Model.KeyId

/-- **C16 (key ids are unique)**.  Whatever the interleaving of concurrent `ABT_key_create` calls
(each takes its id with one atomic fetch-and-add on `g_key_id`): the ids returned to callers are
pairwise distinct, all at least `start` (= `ABTI_KEY_ID_END_`, so none collides with the ids of the
runtime's static keys), and below the counter.  Two keys therefore never share an element of any
key table ("values never leak between keys").  (The counter is unbounded here: fewer than
2^32 − 2 creations per process is an assumption.) -/
theorem keyid_distinct (start : Nat) (tr : List Ev) (s : St) (h : (machine start).run (init start) tr = some s) :
    s.returned.Nodup ∧ (∀ id, id ∈ s.returned → start ≤ id ∧ id < s.g) ∧
    (∀ a a' id, s.pc a = .got id → s.pc a' = .got id → a = a') ∧
    (∀ a id, s.pc a = .got id → id ∉ s.returned) := by
  have hi := inv_run start tr s h
  have hs := start_const start tr s h
  refine ⟨hi.rnodup, ?_, hi.uniq, fun a id hp => (hi.got a id hp).2⟩
  intro id hid
  have := hi.range id (hi.rsub id hid)
  rw [hs] at this; exact this

/-- the static keys of thread.c use ids below the start of the counter (generated from the headers) -/
theorem keyid_static_ids_reserved :
    ArgoVerif.Gen.Consts.keyIdStackableSched < ArgoVerif.Gen.Consts.keyIdEnd ∧
    ArgoVerif.Gen.Consts.keyIdMigration < ArgoVerif.Gen.Consts.keyIdEnd ∧
    ArgoVerif.Gen.Consts.keyIdStackableSched ≠ ArgoVerif.Gen.Consts.keyIdMigration := by decide

/-- non-vacuity: three creators interleaved; ids 2, 3, 4 -/
example : ((machine 2).run (init 2)
    [.call 0, .call 1, .call 2, .fetchAdd 1 2, .fetchAdd 0 3, .ret 0 3, .fetchAdd 2 4, .ret 2 4, .ret 1 2]).map
      (fun s => (s.returned, s.g)) = some ([2, 4, 3], 5) := by decide

/-- rejected: an observed read-modify-write that did not see the current counter is not a run -/
example : (machine 2).run (init 2) [.call 0, .call 1, .fetchAdd 0 2, .fetchAdd 1 2] = none := by decide

/-- what the atomicity buys: with the read-modify-write split into load and store two creators get
the same id (this is NOT the model of the code; its events are not in `Ev`, so a trace containing a
separate load or store of the counter is rejected by the driver as not being a run) -/
example : (([SplitEv.load 0, .load 1, .store 0, .store 1].foldl splitExec ⟨2, fun _ => none, []⟩).ids) = [2, 2] := by
  decide

end keyid

end ArgoVerif.Props.C16
