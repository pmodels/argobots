import ArgoVerif.Proofs.Mutex
import ArgoVerif.Gen.Consts
import ArgoVerif.Proofs.FutexGen
/-
Props.C04 — ABT_mutex: mutual exclusion, recursion, trylock, no lost wake-up.
All theorems quantify over every trace accepted by the mutex model, i.e. over every
interleaving of the atomic steps of any number of ULT / tasklet / external callers.
-/
namespace ArgoVerif.Props.C04
open ArgoVerif ArgoVerif.Model.Mutex

theorem inv_step (s s' : St) (e : Ev) (h : Inv s) (hs : step s e = some s') : Inv s' := by
  cases e with
  | call a op => exact inv_stepCall s s' a op h hs
  | ret a op ok => exact inv_stepRet s s' a op ok h hs
  | tasLock a old => exact inv_stepTasLock s s' a old h hs
  | clearLock a => exact inv_stepClearLock s s' a h hs
  | tasW a old => exact inv_stepTasW s s' a old h hs
  | clearW a =>
    simp only [step] at hs
    split at hs
    · rename_i s1 hb
      exact inv_stepClearW s1 s' a (inv_bcastDone s s1 a h hb) hs
    · exact inv_stepClearW s s' a h hs
  | enq a => exact inv_stepEnq s s' a h hs
  | storeBlocked a => exact inv_stepStoreBlocked s s' a h hs
  | loadState a r => exact inv_stepLoadState s s' a r h hs
  | deq a n => exact inv_stepDeq s s' a n h hs
  | storeReady a n => exact inv_stepStoreReady s s' a n h hs
  | obsLock v => simp only [step] at hs; split at hs <;> close_tac h hs
  | obsW v => simp only [step] at hs; split at hs <;> close_tac h hs

theorem inv_reachable (r : Bool) (u : Actor → Bool) (s : St) (h : (machine r u).Reachable s) : Inv s :=
  Machine.invariant_reachable (machine r u) Inv (inv_init r u) (fun s e s' hi hs => inv_step s s' e hi hs) s h

/-- **mutual exclusion**: in every reachable state at most one caller holds the mutex
(`Holding` = between the successful test-and-set of the lock word and its clearing). -/
theorem mutex_excl (r : Bool) (u : Actor → Bool) (s : St) (h : (machine r u).Reachable s)
    (a b : Actor) (ha : Holding (s.pc a)) (hb : Holding (s.pc b)) : a = b :=
  (inv_reachable r u s h).holder_unique ha hb

/-- **trylock succeeds iff the mutex is free**: the test-and-set performed by any caller
returns "was clear" exactly when no caller holds the mutex. -/
theorem mutex_trylock_iff_free (r : Bool) (u : Actor → Bool) (s s' : St) (h : (machine r u).Reachable s)
    (a : Actor) (old : Bool) (hs : step s (.tasLock a old) = some s') :
    old = false ↔ ∀ b, ¬ Holding (s.pc b) := by
  have hi := inv_reachable r u s h
  have ho : old = s.lockW := tasLock_old s a old s' hs
  constructor
  · intro hf b hb
    have := (hi.holderIff b).mpr hb
    have hl := hi.lockIff.mpr (by rw [this]; simp)
    rw [← ho, hf] at hl; cases hl
  · intro hn
    cases hold : old with
    | false => rfl
    | true =>
      obtain ⟨b, hb⟩ := hi.holding_of_locked (by rw [← ho, hold])
      exact absurd hb (hn b)

/-- **no lost wake-up (safety form)**: whenever a waiter is queued and nobody is inside a
critical section of the waiter lock, the mutex is held — so an unlock, which always
broadcasts, is still to come. -/
theorem mutex_no_lost_wakeup_safety (r : Bool) (u : Actor → Bool) (s : St) (h : (machine r u).Reachable s)
    (hq : s.q ≠ []) (hw : s.wl = false) : s.lockW = true ∧ ∃ b, Holding (s.pc b) := by
  have hi := inv_reachable r u s h
  have hl : s.lockW = true := by
    cases hlw : s.lockW with
    | true => rfl
    | false =>
      have hb := hi.noLost hq hlw
      have hno : s.wlOwner = none := by
        cases ho : s.wlOwner with
        | none => rfl
        | some b => have := hi.wlBool.mpr (by rw [ho]; simp); rw [hw] at this; cases this
      exact absurd hno hb.1
  exact ⟨hl, hi.holding_of_locked hl⟩

/-- a fully suspended ULT waiter is still in the wait-list (or is the node the broadcaster is
waking right now): it cannot have been forgotten -/
theorem mutex_blocked_is_queued (r : Bool) (u : Actor → Bool) (s : St) (h : (machine r u).Reachable s)
    (a : Actor) (ha : s.pc a = .lWait) : a ∈ s.q ∨ s.pending = some a :=
  (inv_reachable r u s h).ultWait a ha

/-- **broadcast wakes everybody**: the unlocker releases the waiter lock only with an empty wait-list -/
theorem mutex_broadcast_wakes_all (r : Bool) (u : Actor → Bool) (s s' : St) (h : (machine r u).Reachable s)
    (a : Actor) (hs : step s (.clearW a) = some s') (hp : s.pc a = .uBcast) : s.q = [] ∧ s.pending = none := by
  have hi := inv_reachable r u s h
  simp only [step, bcastDone] at hs
  by_cases hq : s.q = []
  · refine ⟨hq, ?_⟩
    cases hpd : s.pending with
    | none => rfl
    | some n =>
      have := (hi.pendIff a).mpr ⟨(hi.wlIff a).mpr (by rw [hp]; trivial), by rw [hpd]; simp⟩
      rw [hp] at this; cases this
  · simp only [hp, hq, and_false, if_false] at hs
    simp [stepClearW, hp] at hs

/-- a ULT is dequeued only after its BLOCKED state was stored and the waiter lock released by
its scheduler context (its context is saved): it is at `lWait`, never half-way -/
theorem mutex_wake_only_suspended (r : Bool) (u : Actor → Bool) (s s' : St) (h : (machine r u).Reachable s)
    (a n : Actor) (hs : step s (.deq a n) = some s') (hu : s.isUlt n = true) : s.pc n = .lWait := by
  have hi := inv_reachable r u s h
  simp only [step, stepDeq] at hs
  split at hs
  · rename_i hd tl hpc hq
    split at hs
    · rename_i hn
      subst hn
      have hmem : hd ∈ s.q := by rw [hq]; simp
      have hw := (hi.inQ hd hmem).1
      have h3 := hi.ultPc hd hu hw
      have haW : s.wlOwner = some a := (hi.wlIff a).mpr (by rw [hpc]; trivial)
      rcases h3 with h3 | h3 | h3
      · have : s.wlOwner = some hd := (hi.wlIff hd).mpr (by rw [h3]; trivial)
        rw [haW] at this; have := Option.some.inj this; subst this; rw [hpc] at h3; cases h3
      · have : s.wlOwner = some hd := (hi.wlIff hd).mpr (by rw [h3]; trivial)
        rw [haW] at this; have := Option.some.inj this; subst this; rw [hpc] at h3; cases h3
      · exact h3
    · cases hs
  · cases hs

/-- **recursion**: the lock word of a recursive mutex is cleared only when the nesting count is
zero, i.e. after as many unlocks as locks by the owner -/
theorem mutex_recursive_release_at_zero (r : Bool) (u : Actor → Bool) (s s' : St) (h : (machine r u).Reachable s)
    (a : Actor) (hs : step s (.clearLock a) = some s') : s.nest = 0 := by
  have hi := inv_reachable r u s h
  simp only [step, stepClearLock] at hs
  split at hs
  · rename_i hp; exact hi.relNest a (Or.inr hp)
  · cases hs

/-- non-vacuity: a contended history is accepted by the model and ends in the initial control state:
actor 1 (ULT) locks; actor 2 (ULT) fails twice, enqueues and blocks; 1 unlocks and wakes 2; 2 acquires. -/
example :
    ((machine false (fun _ => true)).run (init false (fun _ => true))
      [.call 1 .lock, .tasLock 1 false, .ret 1 .lock true,
       .call 2 .lock, .tasLock 2 true, .tasW 2 false, .tasLock 2 true, .enq 2, .storeBlocked 2, .clearW 2,
       .call 1 .unlock, .tasW 1 false, .clearLock 1, .deq 1 2, .storeReady 1 2, .clearW 1, .ret 1 .unlock true,
       .tasLock 2 false, .ret 2 .lock true]).map (fun s => (s.pc 1, s.pc 2, s.lockW, s.q))
      = some (.idle, .cs, true, []) := by decide


/-! ## widths of the counters modelled as unbounded numbers (generated from the headers on every run) -/
/-- `nesting_cnt` of a recursive mutex is 4 bytes wide in this tree: Model.Mutex counts the depth in `Nat`, which agrees with
the C field for depths below 2^31 -/
example : ArgoVerif.Gen.Consts.bytesMutexNestingCnt = 4 := by decide
/-- the generation word of the wait-list futex is 4 bytes wide in this tree: the unbounded model agrees with the C field below 2^31 -/
example : ArgoVerif.Gen.Consts.bytesFutexVal = 4 := by decide


/-! ## the generation word of the wait-list futex (non-yieldable waiters: external threads, tasklets) -/
/-- the width of the word, generated from the header on every run -/
def futexBits : Nat := (8 * ArgoVerif.Gen.Consts.bytesFutexVal).toNat

/-- **no lost wake-up of a sleeping caller**: a waiter that sampled the word under the wait-list lock and is then delayed
for `k` broadcasts (any `0 < k < 2^bits`) before the kernel compares the word — or before it re-reads the word after a
wake-up — finds it changed: it does not go (back) to sleep after the broadcast that took it off the wait list -/
theorem futex_no_lost_wake (v k : Nat) (hv : v < 2 ^ futexBits) (hk : 0 < k) (hk2 : k < 2 ^ futexBits) :
    ArgoVerif.Model.FutexGen.lostWake futexBits v k = false := by
  cases h : ArgoVerif.Model.FutexGen.lostWake futexBits v k with
  | false => rfl
  | true => have := (ArgoVerif.Model.FutexGen.lostWake_iff futexBits v k hv hk2).1 h; omega

/-- the word with which `lostWake` compares the sample, `after`, is the word after `k` single broadcasts `val := val + 1` on
that width -/
theorem futex_after_is_k_broadcasts (v k : Nat) (hv : v < 2 ^ futexBits) :
    ArgoVerif.Model.FutexGen.after futexBits v k = ArgoVerif.Model.FutexGen.iter futexBits v k :=
  ArgoVerif.Model.FutexGen.after_eq_iter futexBits v k hv

/-- the waiter sleeps when nothing has been broadcast since its sample (it is still on the wait list) -/
theorem futex_sleeps_without_broadcast (v : Nat) (hv : v < 2 ^ futexBits) :
    ArgoVerif.Model.FutexGen.lostWake futexBits v 0 = true :=
  (ArgoVerif.Model.FutexGen.lostWake_iff futexBits v 0 hv (Nat.two_pow_pos _)).2 rfl

/-- non-vacuity / why the width matters: on a 3-bit word the 8th broadcast restores the sampled value -/
example : ArgoVerif.Model.FutexGen.lostWake 3 5 8 = true ∧ ArgoVerif.Model.FutexGen.lostWake 3 5 7 = false := by decide
example : futexBits = 32 := by decide

end ArgoVerif.Props.C04
