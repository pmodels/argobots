import ArgoVerif.Proofs.Eventual
import ArgoVerif.Gen.Consts
import ArgoVerif.Proofs.Future
/-
Props.C09 — eventuals and futures become ready exactly once and wake every waiter.
All theorems quantify over every trace accepted by the models, i.e. over every interleaving of the steps
(call, lock acquisition, counter load/store, callback, enqueue, wake-ups, lock release, return) of any
number of ULT / tasklet / external callers, any number of resets, any compartment count.
-/
namespace ArgoVerif.Props.C09
open ArgoVerif ArgoVerif.Model

/-! ## ABT_eventual -/

theorem ev_inv_step (s s' : Eventual.St) (e : Eventual.Ev) (h : Eventual.Inv s) (hs : Eventual.step s e = some s') :
    Eventual.Inv s' := by
  cases e with
  | call a op v => exact Eventual.inv_stepCall s s' a op v h hs
  | ret a op rc r v => exact Eventual.inv_stepRet s s' a op rc r v h hs
  | acq a old => exact Eventual.inv_stepAcq s s' a old h hs
  | enq a => exact Eventual.inv_stepEnq s s' a h hs
  | wake a n => exact Eventual.inv_stepWake s s' a n h hs
  | rel a r e => exact Eventual.inv_stepRel s s' a r e h hs
  | obsLock v => simp only [Eventual.step] at hs; split at hs <;> simp_all
  | obs r => simp only [Eventual.step] at hs; split at hs <;> simp_all

theorem ev_inv_reachable (k : Eventual.Actor → Eventual.Kind) (nb : Nat) (v0 : Eventual.Val) (s : Eventual.St)
    (h : (Eventual.machine k nb v0).Reachable s) : Eventual.Inv s :=
  Machine.invariant_reachable (Eventual.machine k nb v0) Eventual.Inv (Eventual.inv_init k nb v0)
    (fun s e s' hi hs => ev_inv_step s s' e hi hs) s h

/-- **ready exactly once per epoch**: in every reachable state at most one ABT_eventual_set has succeeded
since creation / the last reset, and the eventual is ready iff one has. -/
theorem ev_ready_once (k : Eventual.Actor → Eventual.Kind) (nb : Nat) (v0 : Eventual.Val) (s : Eventual.St)
    (h : (Eventual.machine k nb v0).Reachable s) :
    s.sets s.epoch ≤ 1 ∧ (s.ready = true ↔ s.sets s.epoch = 1) :=
  ⟨(ev_inv_reachable k nb v0 s h).setsLe, (ev_inv_reachable k nb v0 s h).readyIff⟩

/-- **the first set makes it ready**: a set that gets the lock while the eventual is not ready copies its
value (when there is a buffer), marks it ready and is the one successful set of the epoch. -/
theorem ev_first_set_makes_ready (s s' : Eventual.St) (a : Eventual.Actor)
    (hs : Eventual.step s (.acq a false) = some s') (hp : s.pc a = .setCalled) (hr : s.ready = false) :
    s'.ready = true ∧ s'.pc a = .setOkCS ∧ s'.sets s.epoch = s.sets s.epoch + 1 ∧ s'.setVal s.epoch = s.arg a ∧
    (s.nbytes ≠ 0 → s'.value = s.arg a) := by
  simp [Eventual.step, Eventual.stepAcq, Eventual.acq_f_free s s' a hs, hp, hr] at hs
  subst hs
  refine ⟨rfl, by simp [Eventual.doSet, Eventual.setPc], by simp [Eventual.doSet, Eventual.setPc],
    by simp [Eventual.doSet, Eventual.setPc], ?_⟩
  intro hn; simp [Eventual.doSet, Eventual.setPc, hn]

/-- **a second set fails and changes nothing**: a set that gets the lock while the eventual is ready leaves
`ready`, the value, the wait-list and the ghost set count untouched, and the only return the model allows
from there is ABT_ERR_EVENTUAL. -/
theorem ev_second_set_err_nochange (s s1 s2 s3 : Eventual.St) (a : Eventual.Actor) (r e rr : Bool) (rc : Eventual.Rc)
    (v : Eventual.Val) (hp : s.pc a = .setCalled) (hr : s.ready = true)
    (h1 : Eventual.step s (.acq a false) = some s1) (h2 : Eventual.step s1 (.rel a r e) = some s2)
    (h3 : Eventual.step s2 (.ret a .set rc rr v) = some s3) :
    rc = .errEventual ∧ s3.ready = true ∧ s3.value = s.value ∧ s3.q = s.q ∧ s3.sets = s.sets ∧ s3.lock = none ∧
    v = s.value := by
  simp [Eventual.step, Eventual.stepAcq, Eventual.acq_f_free s s1 a h1, hp, hr] at h1
  subst h1
  simp only [Eventual.step, Eventual.stepRel, Eventual.lockAs, Eventual.setPc, upd_same] at h2
  obtain ⟨rfl, _, _⟩ := Eventual.chk_some _ _ _ _ h2
  obtain ⟨hpc, hv, rfl⟩ := Eventual.ret_set _ _ _ _ _ _ h3
  simp only [Eventual.unlockAs, Eventual.setPc, upd_same] at hpc hv
  rcases hpc with ⟨hpc, _⟩ | ⟨_, hrc⟩
  · cases hpc
  · exact ⟨hrc, by simpa [Eventual.unlockAs, Eventual.setPc] using hr, by simp [Eventual.unlockAs, Eventual.setPc],
      by simp [Eventual.unlockAs, Eventual.setPc], by simp [Eventual.unlockAs, Eventual.setPc],
      by simp [Eventual.unlockAs, Eventual.setPc], hv⟩

/-- in every reachable state, a set that is failing (or has failed and not yet returned) observed a state in
which another set of that epoch had succeeded -/
theorem ev_failed_set_means_other_succeeded (k : Eventual.Actor → Eventual.Kind) (nb : Nat) (v0 : Eventual.Val)
    (s : Eventual.St) (h : (Eventual.machine k nb v0).Reachable s) (a : Eventual.Actor)
    (hp : s.pc a = .setErrCS ∨ s.pc a = .setErrDone) : s.sets (s.relEpoch a) = 1 := by
  have hi := ev_inv_reachable k nb v0 s h
  rcases hp with hp | hp <;> exact (hi.sawOK a (by rw [hp]; trivial)).1

/-- **a waiter returns only after the eventual became ready, and reads the value that was set**: when
ABT_eventual_wait returns successfully, a set had succeeded in the epoch in which the waiter was let
through (found ready under the lock, or woken by the setter's broadcast); and if no reset intervened,
the eventual is still ready and the buffer content the waiter reads (`v`) is the value passed by that
first set (for a non-empty buffer). -/
theorem ev_wait_returns_after_ready_with_value (k : Eventual.Actor → Eventual.Kind) (nb : Nat) (v0 : Eventual.Val)
    (s s' : Eventual.St) (h : (Eventual.machine k nb v0).Reachable s) (a : Eventual.Actor) (r : Bool) (v : Eventual.Val)
    (hs : Eventual.step s (.ret a .wait .ok r v) = some s') :
    s.sets (s.relEpoch a) = 1 ∧ s.relEpoch a ≤ s.epoch ∧
    (s.relEpoch a = s.epoch → s.ready = true ∧ (s.nbytes ≠ 0 → v = s.setVal s.epoch)) := by
  have hi := ev_inv_reachable k nb v0 s h
  obtain ⟨hpc, hv⟩ := Eventual.ret_wait_ok s s' a r v hs
  have hsaw : Eventual.SawReady (s.pc a) := by rcases hpc with hpc | hpc <;> rw [hpc] <;> trivial
  have h1 := hi.sawOK a hsaw
  refine ⟨h1.1, h1.2, ?_⟩
  intro he
  have hr : s.ready = true := hi.readyIff.mpr (by rw [← he]; exact h1.1)
  exact ⟨hr, fun hn => by rw [hv]; exact hi.valOK hr hn⟩

/-- a waiter can only be woken by a setter inside the critical section in which it made the eventual ready -/
theorem ev_wake_only_when_ready (k : Eventual.Actor → Eventual.Kind) (nb : Nat) (v0 : Eventual.Val)
    (s s' : Eventual.St) (h : (Eventual.machine k nb v0).Reachable s) (a n : Eventual.Actor)
    (hs : Eventual.step s (.wake a n) = some s') : s.ready = true ∧ s.pc a = .setOkCS ∧ s'.pc n = .woken := by
  have hi := ev_inv_reachable k nb v0 s h
  obtain ⟨hpc, t, hq, rfl⟩ := Eventual.wake_cases s s' a n hs
  exact ⟨hi.okCS a hpc, hpc, by simp [Eventual.setPc]⟩

/-- **test never reports ready before the set**: the flag ABT_eventual_test returns is the value of `ready`
it read under the lock, and it is TRUE only if a set had succeeded in that epoch. -/
theorem ev_test_not_early (k : Eventual.Actor → Eventual.Kind) (nb : Nat) (v0 : Eventual.Val)
    (s s' : Eventual.St) (h : (Eventual.machine k nb v0).Reachable s) (a : Eventual.Actor) (v : Eventual.Val)
    (hs : Eventual.step s (.ret a .test .ok true v) = some s') :
    s.sets (s.relEpoch a) = 1 ∧ s.relEpoch a ≤ s.epoch := by
  have hi := ev_inv_reachable k nb v0 s h
  have hpc := (Eventual.ret_test_true s s' a v hs).1
  exact hi.sawOK a (by rw [hpc]; trivial)

/-- the test's critical section reports exactly the current `ready` -/
theorem ev_test_reads_ready (s s' : Eventual.St) (a : Eventual.Actor)
    (hs : Eventual.step s (.acq a false) = some s') (hp : s.pc a = .testCalled) :
    s'.pc a = (if s.ready then .testCS1 else .testCS0) ∧ s'.ready = s.ready ∧ s'.value = s.value := by
  simp [Eventual.step, Eventual.stepAcq, Eventual.acq_f_free s s' a hs, hp] at hs
  subst hs
  simp [Eventual.lockAs, Eventual.setPc]

/-- **reset**: the critical section of ABT_eventual_reset clears `ready`, starts a new epoch with no successful
set, and leaves the buffer and the wait-list alone; the next set therefore succeeds (`ev_first_set_makes_ready`)
and waiters arriving afterwards block until then. -/
theorem ev_reset (k : Eventual.Actor → Eventual.Kind) (nb : Nat) (v0 : Eventual.Val)
    (s s' : Eventual.St) (h : (Eventual.machine k nb v0).Reachable s) (a : Eventual.Actor)
    (hs : Eventual.step s (.acq a false) = some s') (hp : s.pc a = .resetCalled) :
    s'.ready = false ∧ s'.epoch = s.epoch + 1 ∧ s'.sets s'.epoch = 0 ∧ s'.value = s.value ∧ s'.q = s.q := by
  have hi := ev_inv_reachable k nb v0 s h
  simp [Eventual.step, Eventual.stepAcq, Eventual.acq_f_free s s' a hs, hp] at hs
  subst hs
  refine ⟨rfl, rfl, ?_, rfl, rfl⟩
  simpa [Eventual.setPc] using (hi.setsFut (s.epoch + 1) (by omega))

/-- **no lost wake-up**: whenever waiters are queued and nobody is inside a critical section, the eventual is
not ready (so a set that will succeed and broadcast is still to come); and the successful setter leaves its
critical section only with an empty wait-list. -/
theorem ev_no_lost_wakeup (k : Eventual.Actor → Eventual.Kind) (nb : Nat) (v0 : Eventual.Val)
    (s : Eventual.St) (h : (Eventual.machine k nb v0).Reachable s) :
    (s.q ≠ [] → s.lock = none → s.ready = false) ∧
    (∀ a r e s', Eventual.step s (.rel a r e) = some s' → s.pc a = .setOkCS → s.q = [] ∧ ∀ b, ¬ Eventual.InQ (s'.pc b)) := by
  have hi := ev_inv_reachable k nb v0 s h
  constructor
  · intro hq hl
    cases hr : s.ready with
    | false => rfl
    | true => exact absurd hl (hi.noLost hq hr).1
  · intro a r e s' hs hp
    have hi' := ev_inv_step s s' _ hi hs
    simp only [Eventual.step, Eventual.stepRel, hp] at hs
    split at hs
    · rename_i hq
      obtain ⟨rfl, _, _⟩ := Eventual.chk_some _ _ _ _ hs
      refine ⟨hq, fun b hb => ?_⟩
      have := (hi'.inQ b).mpr hb
      simp [Eventual.unlockAs, Eventual.setPc, hq] at this
    · cases hs

/-- **free only after the set is done** (ABT_eventual_free takes the lock — and never gives it back): the free
proceeds only at a moment when nobody holds the eventual lock, i.e. when no setter (the one that woke the freeing
waiter included) is between its lock acquisition and its lock release, and nobody is queued; and once the free holds
the lock nobody else is ever inside a critical section of this object again.  So the idiom "wait, then free" by a
woken waiter cannot pull the object away from under the setter that is still broadcasting. -/
theorem ev_free_after_set_done (k : Eventual.Actor → Eventual.Kind) (nb : Nat) (v0 : Eventual.Val) (s : Eventual.St)
    (h : (Eventual.machine k nb v0).Reachable s) :
    (∀ a s', Eventual.step s (.acq a false) = some s' → s.pc a = .freeCalled →
        s.lock = none ∧ (∀ b, ¬ Eventual.HoldsLock (s.pc b)) ∧ s.q = [] ∧ s'.pc a = .freeCS ∧ s'.lock = some a) ∧
    (∀ a, (s.pc a = .freeCS ∨ s.pc a = .freed) →
        s.lock = some a ∧ (∀ b, b ≠ a → ¬ Eventual.HoldsLock (s.pc b)) ∧
        ∀ b s', Eventual.step s (.acq b false) ≠ some s') := by
  have hi := ev_inv_reachable k nb v0 s h
  constructor
  · intro a s' hs hp
    have hl := Eventual.acq_f_free s s' a hs
    have hno : ∀ b, ¬ Eventual.HoldsLock (s.pc b) := by
      intro b hb
      have := (hi.lockIff b).mpr hb
      rw [hl] at this; cases this
    simp [Eventual.step, Eventual.stepAcq, hl, hp] at hs
    obtain ⟨hq, rfl⟩ := hs
    exact ⟨hl, hno, hq, by simp [Eventual.setPc], by simp [Eventual.setPc]⟩
  · intro a hp
    have hh : Eventual.HoldsLock (s.pc a) := by rcases hp with hp | hp <;> rw [hp] <;> trivial
    have hl := (hi.lockIff a).mpr hh
    refine ⟨hl, ?_, ?_⟩
    · exact fun b hne hb => hne (hi.holder_unique hb hh)
    · intro b s' hs
      have := Eventual.acq_f_free s s' b hs
      rw [hl] at this; cases this

/-- a tasklet calling ABT_eventual_wait is rejected (1.x API) and never takes part in the protocol -/
theorem ev_tasklet_wait_rejected (k : Eventual.Actor → Eventual.Kind) (nb : Nat) (v0 : Eventual.Val)
    (s : Eventual.St) (h : (Eventual.machine k nb v0).Reachable s) (a : Eventual.Actor) (hk : s.kind a = .task) :
    ¬ Eventual.InWait (s.pc a) :=
  (ev_inv_reachable k nb v0 s h).taskPc a hk

/-- non-vacuity: 8-byte eventual; ULT 1 waits and blocks, external thread 2 tests (not ready), tasklet 3 sets 0xAB and
wakes 1, ULT 4's set fails and leaves the value, 1 returns reading 0xAB, 2 tests (ready), reset, test again (not ready). -/
example :
    ((Eventual.machine (fun a => if a = 2 then .ext else if a = 3 then .task else .ult) 8 0).run
        (Eventual.init (fun a => if a = 2 then .ext else if a = 3 then .task else .ult) 8 0)
      [.call 1 .wait 0, .acq 1 false, .enq 1, .rel 1 false false,
       .call 2 .test 0, .acq 2 false, .rel 2 false false, .ret 2 .test .ok false 0,
       .call 3 .set 0xAB, .acq 3 false, .call 4 .set 0xCD, .acq 4 true, .wake 3 1, .rel 3 true true, .ret 3 .set .ok false 0xAB,
       .acq 4 false, .rel 4 true true, .ret 4 .set .errEventual false 0xAB,
       .ret 1 .wait .ok false 0xAB,
       .call 2 .test 0, .acq 2 false, .rel 2 true true, .ret 2 .test .ok true 0xAB,
       .call 1 .reset 0, .acq 1 false, .rel 1 false true, .ret 1 .reset .ok false 0,
       .call 2 .test 0, .acq 2 false, .rel 2 false true, .ret 2 .test .ok false 0]).map
      (fun s => ([s.epoch, s.sets 0, s.sets 1, s.value], s.ready, s.q)) = some ([1, 1, 0, 0xAB], false, []) := by decide

/-- the model rejects a waiter that returns before any set -/
example :
    (Eventual.machine (fun _ => .ult) 8 0).run (Eventual.init (fun _ => .ult) 8 0)
      [.call 1 .wait 0, .acq 1 false, .enq 1, .rel 1 false false, .ret 1 .wait .ok false 0] = none := by decide

/-- the model rejects a second successful set -/
example :
    (Eventual.machine (fun _ => .ult) 8 0).run (Eventual.init (fun _ => .ult) 8 0)
      [.call 1 .set 5, .acq 1 false, .rel 1 true true, .ret 1 .set .ok false 5,
       .call 2 .set 6, .acq 2 false, .rel 2 true true, .ret 2 .set .ok false 6] = none := by decide

/-- the model rejects a free by the woken waiter while the setter is still inside its critical section; after the setter's release
the free is accepted and nobody gets the lock any more -/
example :
    ((Eventual.machine (fun _ => .ult) 8 0).run (Eventual.init (fun _ => .ult) 8 0)
      [.call 1 .wait 0, .acq 1 false, .enq 1, .rel 1 false false, .call 2 .set 5, .acq 2 false, .wake 2 1,
       .ret 1 .wait .ok false 5, .call 1 .free 0, .acq 1 true, .acq 1 false]) = none ∧
    ((Eventual.machine (fun _ => .ult) 8 0).run (Eventual.init (fun _ => .ult) 8 0)
      [.call 1 .wait 0, .acq 1 false, .enq 1, .rel 1 false false, .call 2 .set 5, .acq 2 false, .wake 2 1,
       .ret 1 .wait .ok false 5, .call 1 .free 0, .acq 1 true, .rel 2 true true, .acq 1 false, .ret 1 .free .ok false 0,
       .ret 2 .set .ok false 5, .call 2 .test 0, .acq 2 true]).map (fun s => (s.pc 1, s.lock)) = some (.freed, some 1) ∧
    ((Eventual.machine (fun _ => .ult) 8 0).run (Eventual.init (fun _ => .ult) 8 0)
      [.call 1 .free 0, .acq 1 false, .ret 1 .free .ok false 0, .call 2 .test 0, .acq 2 false]) = none := by decide

/-! ## ABT_future -/

theorem fut_inv_step (s s' : Future.St) (e : Future.Ev) (h : Future.Inv s) (hs : Future.step s e = some s') :
    Future.Inv s' := by
  cases e with
  | call a op v => exact Future.inv_stepCall s s' a op v h hs
  | ret a op rc r => exact Future.inv_stepRet s s' a op rc r h hs
  | acq a old => exact Future.inv_stepAcq s s' a old h hs
  | ldCnt a v => exact Future.inv_stepLdCnt s s' a v h hs
  | cbBegin a => exact Future.inv_stepCbBegin s s' a h hs
  | cb a vs => exact Future.inv_stepCb s s' a vs h hs
  | stCnt a v => exact Future.inv_stepStCnt s s' a v h hs
  | enq a => exact Future.inv_stepEnq s s' a h hs
  | wake a n => exact Future.inv_stepWake s s' a n h hs
  | rel a c n e => exact Future.inv_stepRel s s' a c n e h hs
  | tload a v => exact Future.inv_stepTload s s' a v h hs
  | obsCnt v => simp only [Future.step] at hs; split at hs <;> simp_all
  | obsLock v => simp only [Future.step] at hs; split at hs <;> simp_all
  | arr vs => simp only [Future.step] at hs; split at hs <;> simp_all

theorem fut_inv_reachable (k : Future.Actor → Future.Kind) (n : Nat) (c : Bool) (s : Future.St)
    (h : (Future.machine k n c).Reachable s) : Future.Inv s ∧ Future.Fill s :=
  Machine.invariant_reachable (Future.machine k n c) (fun s => Future.Inv s ∧ Future.Fill s)
    ⟨Future.inv_init k n c, Future.fill_init k n c⟩
    (fun s e s' hi hs => ⟨fut_inv_step s s' e hi.1 hs, Future.fill_step s s' e hi.1 hi.2 hs⟩) s h

/-- **ready exactly at the n-th set**: the counter is the number of sets that have stored it in this epoch,
never exceeds num_compartments, and ABT_future_test answers TRUE exactly when the value it loads is
num_compartments — i.e. when the num_compartments-th set of the epoch has completed its counter store. -/
theorem fut_ready_at_nth (k : Future.Actor → Future.Kind) (n : Nat) (c : Bool) (s : Future.St)
    (h : (Future.machine k n c).Reachable s) :
    s.counter = s.sets s.epoch ∧ s.counter ≤ s.n ∧
    (∀ a v s', Future.step s (.tload a v) = some s' →
        v = s.sets s.epoch ∧ (s'.pc a = .testDone1 ↔ s.sets s.epoch = s.n) ∧ (s'.pc a = .testDone0 ↔ s.sets s.epoch ≠ s.n)) := by
  have hi := (fut_inv_reachable k n c s h).1
  refine ⟨hi.cntSets, hi.cntLe, ?_⟩
  intro a v s' hs
  obtain ⟨hc, hpc⟩ := Future.tload_cases s s' a v hs
  have hv : v = s.sets s.epoch := hc.trans hi.cntSets
  refine ⟨hv, ?_, ?_⟩ <;> by_cases hvn : v = s.n <;> simp [hpc, hvn, ← hv]

/-- a test answers TRUE / a waiter is let through only in an epoch in which num_compartments sets completed -/
theorem fut_through_means_all_set (k : Future.Actor → Future.Kind) (n : Nat) (c : Bool) (s : Future.St)
    (h : (Future.machine k n c).Reachable s) (a : Future.Actor) (hp : Future.SawReady (s.pc a)) :
    s.sets (s.relEpoch a) = s.n ∧ s.relEpoch a ≤ s.epoch :=
  ⟨((fut_inv_reachable k n c s h).1.sawOK a hp).1, ((fut_inv_reachable k n c s h).1.sawOK a hp).2.1⟩

/-- **the callback runs exactly once, before any waiter returns**: in every epoch the callback runs at most
once; and when ABT_future_wait returns successfully (likewise when a test reported ready), then — provided
the future has a callback and at least one compartment — the callback has already run exactly once in the
epoch in which the waiter was let through. -/
theorem fut_callback_once_before_any_return (k : Future.Actor → Future.Kind) (n : Nat) (c : Bool) (s : Future.St)
    (h : (Future.machine k n c).Reachable s) :
    (∀ e, s.cbRuns e ≤ 1) ∧
    (∀ a r s', Future.step s (.ret a .wait .ok r) = some s' → s.hasCb = true → 0 < s.n → s.cbRuns (s.relEpoch a) = 1) ∧
    (∀ a s', Future.step s (.ret a .test .ok true) = some s' → s.hasCb = true → 0 < s.n → s.cbRuns (s.relEpoch a) = 1) := by
  have hi := (fut_inv_reachable k n c s h).1
  refine ⟨hi.cbLe, ?_, ?_⟩
  · intro a r s' hs hc hn
    have key : Future.SawReady (s.pc a) := by
      rcases Future.ret_wait_ok s s' a r hs with hpc | hpc <;> rw [hpc] <;> trivial
    exact (hi.sawOK a key).2.2 hc hn
  · intro a s' hs hc hn
    have key : Future.SawReady (s.pc a) := by
      rw [Future.ret_test_true s s' a hs]; trivial
    exact (hi.sawOK a key).2.2 hc hn

/-- the callback is called by the setter that fills the last compartment and has *returned* (`cb`) before that
setter stores the counter: at that moment the counter is still num_compartments − 1, so no test can have reported
ready and no waiter can have been let through in this epoch on account of this set -/
theorem fut_callback_before_counter_store (k : Future.Actor → Future.Kind) (n : Nat) (c : Bool) (s s' : Future.St)
    (h : (Future.machine k n c).Reachable s) (a : Future.Actor) (vs : List Future.Val)
    (hs : Future.step s (.cb a vs) = some s') :
    s.counter + 1 = s.n ∧ s.cbRuns s.epoch = 0 ∧ s'.cbRuns s.epoch = 1 ∧ s'.counter = s.counter := by
  have hi := (fut_inv_reachable k n c s h).1
  simp only [Future.step, Future.stepCb] at hs
  split at hs
  · rename_i hc
    cases hs
    have h1 := hi.cbRunStage a hc.1
    have h2 := hi.staged a (by rw [hc.1]; trivial)
    refine ⟨by omega, h1.2.2.1, by simp [Future.setPc, h1.2.2.1], rfl⟩
  · cases hs

/-- **ready is not observable before the callback has completed** (lock-free ABT_future_test): when the acquire
load of ABT_future_test reads num_compartments — so the test will answer TRUE — the callback of the epoch (if the
future has one and at least one compartment) has been invoked exactly once *and has returned*, and nobody is about to
call it or inside it.  Conversely, while some setter is about to call the callback or inside it, the counter is
still below num_compartments: every test answers FALSE and no waiter passes. -/
theorem fut_test_ready_after_callback (k : Future.Actor → Future.Kind) (n : Nat) (c : Bool) (s : Future.St)
    (h : (Future.machine k n c).Reachable s) :
    (∀ a v s', Future.step s (.tload a v) = some s' → v = s.n → s.hasCb = true → 0 < s.n →
        s'.pc a = .testDone1 ∧ s.cbBeg s.epoch = 1 ∧ s.cbRuns s.epoch = 1 ∧
        ∀ b, s.pc b ≠ .setCbCS ∧ s.pc b ≠ .setCbRun) ∧
    (∀ b, (s.pc b = .setCbCS ∨ s.pc b = .setCbRun) → s.counter < s.n ∧ s.cbRuns s.epoch = 0 ∧
        ∀ a v s', Future.step s (.tload a v) = some s' → s'.pc a = .testDone0) := by
  have hi := (fut_inv_reachable k n c s h).1
  have hcs := hi.cbStage; have hcr := hi.cbRunStage; have hst := hi.staged
  constructor
  · intro a v s' hs hv hc hn
    obtain ⟨hcc, hpc⟩ := Future.tload_cases s s' a v hs
    have hr := hi.cbFull (hcc ▸ hv) hc hn
    have hno : ∀ b, s.pc b ≠ .setCbCS ∧ s.pc b ≠ .setCbRun :=
      fun b => ⟨fun hb => by have := (hcs b hb).2.2.1; omega, fun hb => by have := (hcr b hb).2.2.1; omega⟩
    exact ⟨by simp [hpc, hv], (hi.beg_eq_runs fun b => (hno b).2).trans hr, hr, hno⟩
  · intro b hb
    have hlt : s.counter < s.n ∧ s.cbRuns s.epoch = 0 := by
      rcases hb with hb | hb
      · have h1 := hcs b hb; have h2 := hst b (by rw [hb]; trivial); exact ⟨by omega, h1.2.2.1⟩
      · have h1 := hcr b hb; have h2 := hst b (by rw [hb]; trivial); exact ⟨by omega, h1.2.2.1⟩
    refine ⟨hlt.1, hlt.2, ?_⟩
    intro a v s' hs
    obtain ⟨hcc, hpc⟩ := Future.tload_cases s s' a v hs
    have : v ≠ s.n := by rw [hcc]; omega
    simp [hpc, this]

/-- **reset is linearizable with the sets** (no lost update on the counter): ABT_future_reset stores 0 while it
holds the future lock, hence at that step no set is between its load of the counter and its store (nobody is
`Staged`), and the new epoch starts with counter 0 and no set counted; and whenever a set stores the counter it
holds the lock and the value it stores is exactly the current counter plus one — the counter has not been changed
(in particular not reset) since that set loaded it.  Together: the counter always equals the number of sets that
completed since the last reset (`fut_ready_at_nth`). -/
theorem fut_reset_linearizable (k : Future.Actor → Future.Kind) (n : Nat) (c : Bool) (s : Future.St)
    (h : (Future.machine k n c).Reachable s) :
    (∀ a v s', Future.step s (.stCnt a v) = some s' → s.pc a = .resetCS →
        v = 0 ∧ s.lock = some a ∧ (∀ b, ¬ Future.Staged (s.pc b)) ∧ s'.counter = 0 ∧ s'.epoch = s.epoch + 1 ∧
        s'.sets s'.epoch = 0 ∧ s'.vals = []) ∧
    (∀ a v s', Future.step s (.stCnt a v) = some s' → s.pc a = .setStCS →
        v = s.counter + 1 ∧ s.lock = some a ∧ s'.epoch = s.epoch ∧ s'.sets s.epoch = s.sets s.epoch + 1 ∧
        s'.counter = s'.sets s'.epoch) := by
  have hi := (fut_inv_reachable k n c s h).1
  constructor
  · intro a v s' hs hp
    have hl := (hi.lockIff a).mpr (by rw [hp]; trivial)
    simp only [Future.step, Future.stepStCnt, hp] at hs
    split at hs
    · rename_i hv
      cases hs
      refine ⟨hv, hl, ?_, rfl, rfl, ?_, rfl⟩
      · intro b hb
        have := hi.holder_unique (Future.holdsLock_of_cs_pc _ (.inl hb)) (b := a) (by rw [hp]; trivial)
        subst this
        rw [hp] at hb; exact hb
      · simpa [Future.setPc] using (hi.fut (s.epoch + 1) (by omega)).1
    · cases hs
  · intro a v s' hs hp
    have hi' := fut_inv_step s s' _ hi hs
    have hl := (hi.lockIff a).mpr (by rw [hp]; trivial)
    have hst := hi.staged a (by rw [hp]; trivial)
    have hc' := hi'.cntSets
    simp only [Future.step, Future.stepStCnt, hp] at hs
    split at hs
    · rename_i hv
      cases hs
      refine ⟨by omega, hl, rfl, by simp [Future.setPc], ?_⟩
      simpa [Future.setPc] using hc'
    · cases hs

/-- **free only after every set is done** (ABT_future_free takes the lock — and never gives it back): the free
proceeds only at a moment when nobody holds the future lock, i.e. when no setter (the one that woke the freeing
waiter included) is between its lock acquisition and its lock release, and nobody is queued; and once the free
holds the lock nobody else is ever inside a critical section of this object again. -/
theorem fut_free_after_set_done (k : Future.Actor → Future.Kind) (n : Nat) (c : Bool) (s : Future.St)
    (h : (Future.machine k n c).Reachable s) :
    (∀ a s', Future.step s (.acq a false) = some s' → s.pc a = .freeCalled →
        s.lock = none ∧ (∀ b, ¬ Future.HoldsLock (s.pc b)) ∧ s.q = [] ∧ s'.pc a = .freeCS ∧ s'.lock = some a) ∧
    (∀ a, (s.pc a = .freeCS ∨ s.pc a = .freed) →
        s.lock = some a ∧ (∀ b, b ≠ a → ¬ Future.HoldsLock (s.pc b)) ∧ ∀ b s', Future.step s (.acq b false) ≠ some s') := by
  have hi := (fut_inv_reachable k n c s h).1
  constructor
  · intro a s' hs hp
    have hl := Future.acq_f_free s s' a hs
    simp only [Future.step, Future.stepAcq, hp] at hs
    split at hs
    · cases hs
    · simp only [Bool.false_eq_true, if_false] at hs
      split at hs
      · rename_i hq
        cases hs
        refine ⟨hl, ?_, hq, by simp [Future.lockAs, Future.setPc], by simp [Future.lockAs, Future.setPc]⟩
        intro b hb
        have := (hi.lockIff b).mpr hb
        rw [hl] at this; cases this
      · cases hs
  · intro a hp
    have hh : Future.HoldsLock (s.pc a) := by rcases hp with hp | hp <;> rw [hp] <;> trivial
    have hl := (hi.lockIff a).mpr hh
    refine ⟨hl, ?_, ?_⟩
    · intro b hne hb
      exact hne (hi.holder_unique hb hh)
    · intro b s' hs
      have := Future.acq_f_free s s' b hs
      rw [hl] at this; cases this

/-- **further sets fail**: a set whose load of the counter finds it ≥ num_compartments (all compartments
taken — or a future without compartments) changes nothing and can only return ABT_ERR_FUTURE; and never
more than num_compartments sets succeed in an epoch. -/
theorem fut_extra_set_err (k : Future.Actor → Future.Kind) (n : Nat) (c : Bool) (s : Future.St)
    (h : (Future.machine k n c).Reachable s) :
    s.sets s.epoch ≤ s.n ∧
    (∀ a v s1, Future.step s (.ldCnt a v) = some s1 → s.pc a = .setCS → s.n ≤ s.counter →
        s1.pc a = .setErrCS ∧ s1.counter = s.counter ∧ s1.arr = s.arr ∧ s1.vals = s.vals ∧ s1.cbRuns = s.cbRuns ∧ s1.q = s.q) ∧
    (∀ a rc r s', Future.step s (.ret a .set rc r) = some s' → s.pc a = .setErrDone → rc = .errFuture) := by
  have hi := (fut_inv_reachable k n c s h).1
  refine ⟨by rw [← hi.cntSets]; exact hi.cntLe, ?_, ?_⟩
  · intro a v s1 hs hp hfull
    rcases (Future.ldCnt_cases s s1 a v hs).2 with ⟨_, rfl⟩ | ⟨hp', _⟩
    · simp [hfull, Future.setPc]
    · rw [hp] at hp'; cases hp'
  · intro a rc r s' hs hp
    simp only [Future.step, Future.stepRet, hp] at hs
    cases rc <;> simp at hs
    rfl

/-- **what the code does for zero compartments**: with
num_compartments = 0 the counter stays 0 = num_compartments, so the future is ready from creation:
every wait passes without ever enqueuing, every test answers TRUE, every set takes the error branch,
and **the callback never runs** (`cbRuns k = 0` for every epoch).  This is the documented behaviour
("cb_func() is never called if num_compartments is zero"), but it does not match the literal property
text "the callback runs exactly once, before any waiter returns" for the compartment count 0 that the
quantifier includes: waiters return and the callback has run zero times. -/
theorem fut_zero_compartments (k : Future.Actor → Future.Kind) (c : Bool) (s : Future.St)
    (h : (Future.machine k 0 c).Reachable s) (hn : s.n = 0) :
    s.counter = 0 ∧ s.q = [] ∧ (∀ e, s.cbRuns e = 0) ∧ (∀ a, ¬ Future.NeedsComp (s.pc a)) ∧
    (∀ a v s', Future.step s (.ldCnt a v) = some s' → s.pc a = .waitLdCS → s'.pc a = .passCS) ∧
    (∀ a v s', Future.step s (.ldCnt a v) = some s' → s.pc a = .setCS → s'.pc a = .setErrCS) ∧
    (∀ a v s', Future.step s (.tload a v) = some s' → s'.pc a = .testDone1) := by
  have hi := (fut_inv_reachable k 0 c s h).1
  have hz := hi.zero hn
  have hc : s.counter = 0 := by have := hi.cntLe; omega
  refine ⟨hc, hz.2.1, hz.2.2.2, hz.1, ?_, ?_, ?_⟩
  · intro a v s' hs hp
    have h1 : ¬ s.counter < s.n := by omega
    rcases (Future.ldCnt_cases s s' a v hs).2 with ⟨hp', _⟩ | ⟨_, rfl⟩
    · rw [hp] at hp'; cases hp'
    · simp [h1, Future.setPc]
  · intro a v s' hs hp
    have h1 : s.n ≤ s.counter := by omega
    rcases (Future.ldCnt_cases s s' a v hs).2 with ⟨_, rfl⟩ | ⟨hp', _⟩
    · simp [h1, Future.setPc]
    · rw [hp] at hp'; cases hp'
  · intro a v s' hs
    obtain ⟨hcc, hpc⟩ := Future.tload_cases s s' a v hs
    have : v = s.n := by rw [hcc, hc, hn]
    simp [hpc, this]

/-- **the callback sees all set values**: the argument array the callback receives is exactly the list of
the values passed by the num_compartments successful sets of the epoch, compartment i holding the value of
the (i+1)-th of them (`vals` is extended by each successful set when it writes its compartment). -/
theorem fut_values_all_passed (k : Future.Actor → Future.Kind) (n : Nat) (c : Bool) (s s' : Future.St)
    (h : (Future.machine k n c).Reachable s) (a : Future.Actor) (vs : List Future.Val)
    (hs : Future.step s (.cb a vs) = some s') : vs = s.vals ∧ vs.length = s.n := by
  obtain ⟨hi, hf⟩ := fut_inv_reachable k n c s h
  simp only [Future.step, Future.stepCb] at hs
  split at hs
  · rename_i hc
    have h1 := hi.cbRunStage a hc.1
    have h2 := hi.staged a (by rw [hc.1]; trivial)
    have hl : s.vals.length = s.n := by omega
    have := Future.fill_full s hf s.n hl
    rw [hc.2, this]
    exact ⟨rfl, hl⟩
  · cases hs

/-- each successful set appends exactly its own argument to that list, at the compartment index it loaded -/
theorem fut_set_appends (s s' : Future.St) (a : Future.Actor) (v : Nat) (hs : Future.step s (.ldCnt a v) = some s')
    (hp : s.pc a = .setCS) (hlt : s.counter < s.n) :
    s'.vals = s.vals ++ [s.arg a] ∧ s'.arr s.counter = s.arg a ∧ v = s.counter := by
  have h1 : ¬ s.n ≤ s.counter := by omega
  obtain ⟨hv, ⟨_, rfl⟩ | ⟨hp', _⟩⟩ := Future.ldCnt_cases s s' a v hs
  · exact ⟨by simp [h1, Future.store, Future.setPc], by simp [h1, Future.store, Future.setPc], hv⟩
  · rw [hp] at hp'; cases hp'

/-- **no lost wake-up**: whenever waiters are queued and nobody is inside a critical section, the counter is
below num_compartments; the setter that completes the future leaves its critical section only with an empty
wait-list. -/
theorem fut_no_lost_wakeup (k : Future.Actor → Future.Kind) (n : Nat) (c : Bool) (s : Future.St)
    (h : (Future.machine k n c).Reachable s) :
    (s.q ≠ [] → s.lock = none → s.counter < s.n) ∧
    (∀ a cc nn e s', Future.step s (.rel a cc nn e) = some s' → s.pc a = .setBcCS → s.q = [] ∧ ∀ b, ¬ Future.InQ (s'.pc b)) := by
  have hi := (fut_inv_reachable k n c s h).1
  constructor
  · intro hq hl
    by_cases hc : s.counter = s.n
    · exact absurd hl (hi.noLost hq hc).1
    · have := hi.cntLe; omega
  · intro a cc nn e s' hs hp
    have hi' := fut_inv_step s s' _ hi hs
    simp only [Future.step, Future.stepRel, hp] at hs
    split at hs
    · rename_i hq
      obtain ⟨rfl, _, _⟩ := Future.chk_some _ _ _ _ _ hs
      refine ⟨hq, fun b hb => ?_⟩
      have := (hi'.inQ b).mpr hb
      simp [Future.unlockAs, Future.setPc, hq] at this
    · cases hs

/-- non-vacuity: 2 compartments with callback; external thread 1 waits and blocks; ULT 2 sets 7; tasklet 3 tests (not
ready); ULT 4 sets 9: callback sees [7, 9], counter stored, 1 woken; test ready; a third set fails; 1 returns; reset. -/
example :
    ((Future.machine (fun a => if a = 1 then .ext else if a = 3 then .task else .ult) 2 true).run
        (Future.init (fun a => if a = 1 then .ext else if a = 3 then .task else .ult) 2 true)
      [.call 1 .wait 0, .acq 1 false, .ldCnt 1 0, .enq 1, .rel 1 0 2 false,
       .call 2 .set 7, .acq 2 false, .ldCnt 2 0, .stCnt 2 1, .rel 2 1 2 false, .ret 2 .set .ok false,
       .call 3 .test 0, .tload 3 1, .ret 3 .test .ok false,
       .call 4 .set 9, .acq 4 false, .ldCnt 4 1, .cbBegin 4, .cb 4 [7, 9], .stCnt 4 2, .call 3 .test 0, .tload 3 2, .wake 4 1,
       .rel 4 2 2 true, .ret 4 .set .ok false, .ret 3 .test .ok true,
       .call 2 .set 11, .acq 2 false, .ldCnt 2 2, .rel 2 2 2 true, .ret 2 .set .errFuture false,
       .ret 1 .wait .ok false, .arr [7, 9],
       .call 2 .reset 0, .acq 2 false, .stCnt 2 0, .rel 2 0 2 true, .ret 2 .reset .ok false]).map
      (fun s => ([s.epoch, s.counter, s.cbRuns 0, s.cbRuns 1, s.sets 0], s.q, s.vals)) = some ([1, 0, 1, 0, 2], [], []) := by
  decide

/-- the model rejects a callback that runs after the counter store -/
example :
    (Future.machine (fun _ => .ult) 1 true).run (Future.init (fun _ => .ult) 1 true)
      [.call 1 .set 7, .acq 1 false, .ldCnt 1 0, .stCnt 1 1, .cbBegin 1] = none := by decide

/-- the model rejects a counter store (which a lock-free test could see) while the callback is still running -/
example :
    (Future.machine (fun _ => .ult) 1 true).run (Future.init (fun _ => .ult) 1 true)
      [.call 1 .set 7, .acq 1 false, .ldCnt 1 0, .cbBegin 1, .stCnt 1 1] = none := by decide

/-- the model rejects a reset that stores the counter without holding the lock -/
example :
    (Future.machine (fun _ => .ult) 2 false).run (Future.init (fun _ => .ult) 2 false)
      [.call 1 .set 7, .acq 1 false, .ldCnt 1 0, .call 2 .reset 0, .stCnt 2 0] = none := by decide

/-- the model rejects a free while the setter that woke the waiter is still inside its critical section; after the setter's
release the free is accepted, and from then on nobody gets the lock -/
example :
    ((Future.machine (fun _ => .ult) 1 false).run (Future.init (fun _ => .ult) 1 false)
      [.call 1 .wait 0, .acq 1 false, .ldCnt 1 0, .enq 1, .rel 1 0 1 false,
       .call 2 .set 7, .acq 2 false, .ldCnt 2 0, .stCnt 2 1, .wake 2 1, .ret 1 .wait .ok false,
       .call 1 .free 0, .acq 1 true, .acq 1 false]) = none ∧
    ((Future.machine (fun _ => .ult) 1 false).run (Future.init (fun _ => .ult) 1 false)
      [.call 1 .wait 0, .acq 1 false, .ldCnt 1 0, .enq 1, .rel 1 0 1 false,
       .call 2 .set 7, .acq 2 false, .ldCnt 2 0, .stCnt 2 1, .wake 2 1, .ret 1 .wait .ok false,
       .call 1 .free 0, .acq 1 true, .rel 2 1 1 true, .acq 1 false, .ret 2 .set .ok false, .ret 1 .free .ok false,
       .call 2 .set 9, .acq 2 true]).map (fun s => (s.pc 1, s.lock)) = some (.freed, some 1) ∧
    ((Future.machine (fun _ => .ult) 1 false).run (Future.init (fun _ => .ult) 1 false)
      [.call 1 .free 0, .acq 1 false, .ret 1 .free .ok false, .call 2 .set 9, .acq 2 false]) = none := by decide

/-- a waiter of a 0-compartment future returns at once, no callback (the documented behaviour) -/
example :
    ((Future.machine (fun _ => .ult) 0 true).run (Future.init (fun _ => .ult) 0 true)
      [.call 1 .wait 0, .acq 1 false, .ldCnt 1 0, .rel 1 0 0 true, .ret 1 .wait .ok false,
       .call 2 .set 5, .acq 2 false, .ldCnt 2 0, .rel 2 0 0 true, .ret 2 .set .errFuture false,
       .call 1 .test 0, .tload 1 0, .ret 1 .test .ok true]).map (fun s => (s.cbRuns 0, s.counter)) = some (0, 0) := by
  decide


/-! ## widths of the counters modelled as unbounded numbers (generated from the headers on every run) -/
/-- `counter` of ABT_future is 8 bytes wide in this tree: the unbounded model agrees with the C field below 2^63 -/
example : ArgoVerif.Gen.Consts.bytesFutureCounter = 8 := by decide
/-- `num_compartments` is 8 bytes wide in this tree: the unbounded model agrees with the C field below 2^63 -/
example : ArgoVerif.Gen.Consts.bytesFutureNumCompartments = 8 := by decide

end ArgoVerif.Props.C09
