import ArgoVerif.Proofs.HTable
import ArgoVerif.Proofs.Env
import ArgoVerif.Proofs.Affinity
import ArgoVerif.Proofs.Config
/-
Props.C20 — configuration objects are exact maps.  Five parts: the hashtable underneath (top of the file),
the textual settings — numbers (`Atoi`), environment variables (`Env`), ABT_SET_AFFINITY (`Affinity`) — and
the typed `ABT_pool_config` / `ABT_sched_config` objects built on the hashtable (`Config`).
Property theorems only; helper lemmas live in Proofs/.
-/
namespace ArgoVerif.Props.C20
open ArgoVerif.Model.HTable

/-- the abstract specification: a finite map from integer keys to values -/
abbrev Spec := Int → Option Val

def specStep (m : Spec) : Op → Spec
  | .set k v => fun x => if x = k then some v else m x
  | .get _ => m
  | .del k => fun x => if x = k then none else m x

/-- what an operation may report, given the abstract map before the operation.
`delR none` (out-parameter left untouched) is allowed only when the key is absent. -/
def specOut (m : Spec) : Op → Out → Prop
  | .set k _, .setR o => o = (m k).isSome
  | .get k, .getR r => r = m k
  | .del k, .delR r => r = some (m k).isSome ∨ (r = none ∧ m k = none)
  | _, _ => False

def specRun (m : Spec) : List Op → List Out → Prop
  | [], [] => True
  | op :: ops, o :: os => specOut m op o ∧ specRun (specStep m op) ops os
  | _, _ => False

/-- one step: the table stays well formed, reports what the map says, and its
lookup function afterwards is the updated map -/
theorem htable_step_refines (h : HT) (op : Op) (hw : WF h) :
    WF (step h op).1 ∧ specOut (get h) op (step h op).2 ∧
    ∀ k, get (step h op).1 k = specStep (get h) op k := by
  cases op with
  | set k v => simpa only [step, specOut, specStep] using set_spec h k v hw
  | get k => exact ⟨hw, rfl, fun _ => rfl⟩
  | del k => simpa only [step, specOut, specStep] using delete_spec h k hw

/-- **C20 (config objects are exact maps)**: from any well-formed table, *every*
sequence of set/get/delete — negative keys, keys colliding in a bucket, deletes of
the inline head with and without successor included — reports exactly what a map
`Int → Option Val` reports, for every bucket count `n > 0`. -/
theorem htable_refines_map (ops : List Op) (h : HT) (hw : WF h) :
    specRun (get h) ops (runOps h ops).2 ∧ WF (runOps h ops).1 := by
  induction ops generalizing h with
  | nil => simp [runOps, specRun, hw]
  | cons op ops ih =>
    obtain ⟨hw', hout, hget⟩ := htable_step_refines h op hw
    have ih' := ih (step h op).1 hw'
    rw [funext hget] at ih'
    exact ⟨⟨hout, ih'.1⟩, ih'.2⟩

/-- a freshly created table (any positive size) is the empty map -/
theorem htable_create_empty (n : Nat) (hn : 0 < n) :
    WF (create n) ∧ ∀ k, get (create n) k = none :=
  ⟨create_wf n hn, create_get n⟩

/-- bucket index is always inside the table (no out-of-bounds bucket access), for
every `int` key including negative ones -/
theorem htable_index_in_bounds (n : Nat) (hn : 0 < n) (k : Int) : idx n k < n := idx_lt n hn k

/-- non-vacuity: a concrete history with a collision chain, head deletion with a
successor, and a negative key, run on a 4-bucket table -/
example :
    (runOps (create 4) [.set 1 10, .set 5 50, .set (-3) 30, .del 1, .get 5, .get (-3), .del 9, .get 1]).2
      = [.setR false, .setR false, .setR false, .delR (some true), .getR (some 50),
         .getR (some 30), .delR (some false), .getR none] := by decide

/-! ## Textual settings: numbers (atoi.c), environment (abtd_env.c), ABT_SET_AFFINITY
(abtd_affinity_parser.c).  Specification vocabulary: Props/C20Spec.lean. -/

namespace Atoi
open ArgoVerif.Model.Atoi ArgoVerif.Gen.EnvTable
open ArgoVerif.Props.C20Spec (expected numberOf)

/-- what the specification demands, in the model's result type:
`expected lo hi s = none` ↦ `ABT_ERR_INV_ARG`, `some (v, flag)` ↦ success -/
def want (lo hi : Int) (s : List UInt8) : Res :=
  match expected lo hi s with
  | none => .err errInvArg
  | some (v, f) => .ok v f

/-- **C20 (numeric strings)**: for EVERY NUL-terminated byte string, each of
`ABTU_atoi / ABTU_atoui32 / ABTU_atoui64 / ABTU_atosz` returns the mathematical
decimal value of the first digit run after the optional leading blanks and the
sign run (`C20Spec.numberOf`, computed over ℕ/ℤ, independent of the code),
**saturated** — never wrapped — at the limits of its type (`[INT_MIN, INT_MAX]`,
`[0, UINT32_MAX]`, `[0, UINT64_MAX]`, `[0, SIZE_MAX]`), with the overflow flag set
exactly when the mathematical value lies outside these limits (so `"-0"` is not an
overflow for the unsigned types), and returns `ABT_ERR_INV_ARG` iff there is no
digit.  Covers any number of signs, leading zeros, junk suffixes and digit runs of
any length (the 64-bit accumulator's overflow test is shown exact). -/
theorem atoi_spec (s : List UInt8) (h0 : (0 : UInt8) ∈ s) :
    abtuAtoi s = want cIntMin cIntMax s ∧ abtuAtoui32 s = want 0 cUint32Max s ∧
    abtuAtoui64 s = want 0 cUint64Max s ∧ abtuAtosz s = want 0 cSizeMax s := by
  have e (lo hi : Int) : want lo hi s = Proofs.Atoi.conv lo hi (numberOf s) := by
    unfold want expected; cases numberOf s <;> rfl
  simp only [e]
  exact ⟨Proofs.Atoi.abtuAtoi_eq s h0, Proofs.Atoi.abtuAtoui32_eq s h0, Proofs.Atoi.abtuAtoui64_eq s h0,
    Proofs.Atoi.abtuAtosz_eq s h0⟩

/-- the error case spelled out: `ABT_ERR_INV_ARG` iff the string has no digit run -/
theorem atoi_error_iff_no_digit (s : List UInt8) (h0 : (0 : UInt8) ∈ s) :
    abtuAtoi s = .err errInvArg ↔ numberOf s = none := by
  rw [(atoi_spec s h0).1]; unfold want expected
  cases numberOf s <;> simp

/-- **C20 (no out-of-bounds read in atoi.c)**: `atoi_impl` never reads behind the
terminating NUL: started anywhere (any loop state) in an object that ends right
after its first NUL it does not fault, and in a larger object the bytes after the
NUL do not influence the result (i.e. they are not read). -/
theorem atoi_reads_in_bounds (pre post : List UInt8) :
    atoiImpl (pre ++ [0]) ≠ .oob ∧ atoiImpl (pre ++ 0 :: post) = atoiImpl (pre ++ [0]) :=
  ⟨(Proofs.Atoi.loop_nul pre [] 0 false false false).1, (Proofs.Atoi.loop_nul pre post 0 false false false).2⟩

/-- C string for the examples: the characters followed by the terminating NUL -/
def cstr (l : List Char) : List UInt8 := l.map (fun c => UInt8.ofNat c.toNat) ++ [0]

example : abtuAtoi (cstr [' ', '-', '-', '+', '-', '2', '1', '4', '7', '4', '8', '3', '6', '4', '9', 'j', 'u', 'n', 'k']) = .ok (-2147483648) true := by decide
example : abtuAtoi (cstr ['-', '2', '1', '4', '7', '4', '8', '3', '6', '4', '8']) = .ok (-2147483648) false := by decide
example : abtuAtoui64 (cstr ['1', '8', '4', '4', '6', '7', '4', '4', '0', '7', '3', '7', '0', '9', '5', '5', '1', '6', '1', '6']) = .ok 18446744073709551615 true := by decide
example : abtuAtoui32 (cstr ['-', '0']) = .ok 0 false := by decide
example : abtuAtoi (cstr ['+', ' ', '2']) = .err 53 := by decide
example : (0 : UInt8) ∈ cstr ['1', '3', 'a', 'b', 'c'] := by decide
end Atoi

namespace Env
open ArgoVerif.Model.Env ArgoVerif.Model.Atoi ArgoVerif.Gen.EnvTable
open ArgoVerif.Props.C20Spec (RndChain RndPost numberOf)

/-- **C20 (environment settings are clamped and rounded)**: for EVERY row of the
table generated from abtd_env.c (`Gen.EnvTable.table`) whose bounds are constants of
the tree (all rows but one, see `env_clamped_dyn_min_partial`), every environment
(any strings, set under either name) and every value of the run-dependent
quantities (`ρ`: number of cores, page size, … — they only occur as defaults):
the value returned by the row's `load_env_*` call lies in the row's `[min, max]`,
and the setting is obtained from it by the row's rounding wrappers, each delivering
what it documents (`pow2`: the smallest power of two ≥ its input; `multiple m`: the
smallest multiple of `m` ≥ its input — m = 64 for the cache-line rows), without
wrap-around in the C type.  The numeric side conditions (min ≤ max ≤ TYPE_MAX/2,
default inside, wrappers cannot overflow on `[min, max]`) are decided on the table's
parameters (`Proofs.Env.table_rows_ok`), not on strings. -/
theorem env_clamped (e : Entry) (he : e ∈ table) (hconst : ∀ x, e.min ≠ .dyn x) (E : Environ)
    (ρ : String → Int) :
    valGet ρ e.min ≤ rawOf e E ρ ∧ rawOf e E ρ ≤ valGet ρ e.max ∧
    RndChain e.rnd (rawOf e E ρ) (settingOf e E ρ) :=
  Proofs.Env.row_clamped e (Proofs.Env.table_rows_ok e he) E ρ (fun x hx => absurd hx (hconst x))

/-- the rows `env_clamped` does not cover: exactly `MEM_STACK_PAGE_SIZE` -/
theorem env_dyn_min_rows : (table.filter fun e => match e.min with | .dyn _ => true | .const _ => false).map (·.suffix) =
    ["MEM_STACK_PAGE_SIZE"] := by decide

/-- **PARTIAL** — the row with a run-dependent minimum (`MEM_STACK_PAGE_SIZE`, minimum
`p_global->thread_stacksize * 4`): the same conclusion holds under the hypothesis
that this minimum is itself ≤ the row's maximum.  What is missing: abtd_env.c computes
`thread_stacksize * 4` in `size_t` without a check, and `thread_stacksize` may be as
large as SIZE_MAX/2, so the hypothesis can fail on the real code:
`ABT_THREAD_STACKSIZE=2305843009213694016` (2^61+64) gives
`mem_sp_size = 2^63+256 > ABTD_ENV_SIZE_MAX`, and `ABT_THREAD_STACKSIZE=4611686018427387904`
(2^62) makes the product wrap to 0 so that `mem_sp_size` stays 8 MiB, below
4·thread_stacksize (both confirmed with harness/wb_env.c; reported as a finding). -/
theorem env_clamped_dyn_min_partial (e : Entry) (he : e ∈ table) (E : Environ) (ρ : String → Int)
    (hdyn : ∀ x, e.min = .dyn x → 0 ≤ ρ x ∧ ρ x ≤ valGet ρ e.max) :
    valGet ρ e.min ≤ rawOf e E ρ ∧ rawOf e E ρ ≤ valGet ρ e.max ∧
    RndChain e.rnd (rawOf e E ρ) (settingOf e E ρ) :=
  Proofs.Env.row_clamped e (Proofs.Env.table_rows_ok e he) E ρ hdyn

/-- readable corollary for rows with a single wrapper: a `pow2` row is a power of two
≥ the clamped value (and < twice it); a `multiple 64` row is a multiple of 64 in
`[clamped, clamped + 64)` -/
theorem env_rounded (e : Entry) (he : e ∈ table) (E : Environ) (ρ : String → Int)
    (hdyn : ∀ x, e.min = .dyn x → 0 ≤ ρ x ∧ ρ x ≤ valGet ρ e.max) :
    (e.rnd = [.pow2] → (∃ k : Nat, settingOf e E ρ = 2 ^ k) ∧ rawOf e E ρ ≤ settingOf e E ρ ∧
        settingOf e E ρ < 2 * rawOf e E ρ) ∧
    (∀ m, e.rnd = [.multiple m] → settingOf e E ρ % (m : Int) = 0 ∧ rawOf e E ρ ≤ settingOf e E ρ ∧
        settingOf e E ρ < rawOf e E ρ + m) := by
  have h := (env_clamped_dyn_min_partial e he E ρ hdyn).2.2
  exact ⟨fun hr => (Proofs.Env.rndChain_single .pow2 _ _).mp (hr ▸ h),
    fun m hr => (Proofs.Env.rndChain_single (.multiple m) _ _).mp (hr ▸ h)⟩

/-- **C20 (unparsable ⇒ default)**: a numeric variable that is unset, or set to a
string without a digit run (`numberOf = none`), yields the row's default clamped to
`[min, max]`; and for every row whose default and bounds are constants of the tree
that is the default itself. -/
theorem env_unparsable_default (e : Entry) (he : e ∈ table) (E : Environ) (ρ : String → Int)
    (hk : e.kind ≠ .bool)
    (hun : getAbtEnv E e.names = none ∨
      ∃ s, getAbtEnv E e.names = some s ∧ (0 : UInt8) ∈ s ∧ numberOf s = none) :
    rawOf e E ρ = clamp (valGet ρ e.min) (valGet ρ e.max) (valGet ρ e.dflt) ∧
    ∀ d mn, e.dflt = .const d → e.min = .const mn → rawOf e E ρ = d := by
  have h1 := Proofs.Env.row_default e E ρ hk hun
  exact ⟨h1, fun d mn hd hmn => h1.trans (Proofs.Env.row_default_const e (Proofs.Env.table_rows_ok e he) ρ hk d mn hd hmn)⟩

/- non-vacuity: the table is not empty, and a concrete environment -/
example : table.length = 18 := by decide
set_option maxRecDepth 20000 in
example : (envInit [("ABT_ENV_KEY_TABLE_SIZE", Atoi.cstr ['5']), ("ABT_THREAD_STACKSIZE", Atoi.cstr ['1', '0', '0', '0', 'x'])] 16 4096).filter
    (fun kv => kv.1 == "KEY_TABLE_SIZE" || kv.1 == "THREAD_STACKSIZE") =
    [("KEY_TABLE_SIZE", 8), ("THREAD_STACKSIZE", 1024)] := by decide
end Env

namespace Affinity
open ArgoVerif.Model.Affinity ArgoVerif.Gen.EnvTable
open ArgoVerif.Props.C20Spec (Tok Lex GList Interval expandList wrapInt32)

/-- **C20 (ABT_SET_AFFINITY is accepted exactly when it matches the grammar)**: for
EVERY NUL-terminated byte string `b`, `parse_list` succeeds iff `b` lexes
(`C20Spec.Lex`: white space = space/TAB/CR/LF between tokens only;
`<integer> = sign* digit+`, longest match) into a token sequence derivable from
`<list>` of the documented BNF (`C20Spec.GList`, formalised production by production,
left-recursive as in the header comment of abtd_affinity.c) whose values respect
the parser's two limits.  Otherwise it returns `ABT_ERR_OTHER`; no other outcome
exists (no fault, no overflow, no divergence).

Where the accepted language is *narrower or more precise than the documented
grammar* (all made explicit in `C20Spec`, none silently copied):
 1. an integer literal whose magnitude exceeds INT_MAX is rejected — hence
    `-2147483648` (INT_MIN) cannot be written although it fits in `int`;
 2. `<num>` ≥ MAX_NUM_ELEMS (2^20) is rejected ("the input should be wrong");
 3. `<integer>` admits any number of leading signs, each `-` flipping the sign
    (`--3` = 3, `+-+-1` = 1); the documentation only says "<integer>";
 4. `<positive integer>` means an integer literal with positive *value* (`--3` is fine);
 5. white space is space, TAB, CR, LF only (not VT/FF) and is not allowed between
    the signs and the digits of an integer (`+ 1` is rejected);
 6. the string ends at the first NUL. -/
theorem aff_accept_iff_grammar (b : List UInt8) (h0 : (0 : UInt8) ∈ b) :
    ((∃ L rest, parseList b = .ok L rest) ↔
      ∃ ts ast, Lex b ts ∧ GList ts ast ∧ ∀ x ∈ ast, x.ok) ∧
    (parseList b = .fail ∨ ∃ L rest, parseList b = .ok L rest) := by
  have hs := Proofs.Affinity.parse_sound b h0
  refine ⟨⟨?_, ?_⟩, hs.cases.imp_right fun ⟨L, rest, h, _⟩ => ⟨L, rest, h⟩⟩
  · rintro ⟨L, rest, h⟩
    obtain ⟨ts, ast, hl, hg, hok, _⟩ := hs.of_eq h
    exact ⟨ts, ast, hl, hg, hok⟩
  · rintro ⟨ts, ast, hl, hg, hok⟩
    obtain ⟨rest, h⟩ := Proofs.Affinity.parse_complete b ts ast hl hg hok
    exact ⟨_, rest, h⟩

/-- **C20 (… and then expands to the documented CPU-id lists)**: whenever `b` is a
string of the grammar with abstract syntax `ast`, the lists `parse_list` returns are
the documented expansion (`C20Spec.expandList`: id-interval
`id, id+stride, …, id+stride*(num-1)`; interval = the es-id-list, then the same list
shifted by `stride*k`, k < num; omitted num/stride = 1), computed in ℤ and then
converted to `int` (`wrapInt32`: the C code computes `id + stride*i` in `unsigned`
and stores it in an `int`, so values outside `int` wrap — implementation-defined,
not UB).  When every documented id fits in `int` the result is the documented
lists themselves.  Conversely every accepted string arises this way. -/
theorem aff_expand_spec (b : List UInt8) (h0 : (0 : UInt8) ∈ b) :
    (∀ ts ast, Lex b ts → GList ts ast → (∀ x ∈ ast, x.ok) →
      (∃ rest, parseList b = .ok ((expandList ast).map (List.map wrapInt32)) rest) ∧
      ((∀ l ∈ expandList ast, ∀ v ∈ l, -2147483648 ≤ v ∧ v ≤ 2147483647) →
        ∃ rest, parseList b = .ok (expandList ast) rest)) ∧
    (∀ L rest, parseList b = .ok L rest →
      ∃ ts ast, Lex b ts ∧ GList ts ast ∧ (∀ x ∈ ast, x.ok) ∧ L = (expandList ast).map (List.map wrapInt32)) := by
  refine ⟨fun ts ast hl hg hok => ?_, fun L rest h => (Proofs.Affinity.parse_sound b h0).of_eq h⟩
  have h := Proofs.Affinity.parse_complete b ts ast hl hg hok
  refine ⟨h, fun hr => ?_⟩
  rw [Proofs.Affinity.map_wrap_id _ hr] at h
  exact h

/-- **C20 (the affinity parser never reads behind the terminating NUL)**: with a NUL
anywhere in the object, `parse_list` and the token-level functions never fault,
and appending arbitrary bytes `post` behind an object that already contains a NUL
changes nothing but the unread remainder (`ext post`) — for every fuel, every
accumulator and every position the functions are entered at.  In particular in an
object that ends right after its first NUL every index read is ≤ the NUL's. -/
theorem aff_reads_in_bounds (b post : List UInt8) (h0 : (0 : UInt8) ∈ b) :
    parseList b ≠ .oob ∧ consumeInt b ≠ .oob ∧ (∀ c, consumeSymbol c b ≠ .oob) ∧
    consumeInt (b ++ post) = Proofs.AffinityBounds.ext post (consumeInt b) ∧
    (∀ c, consumeSymbol c (b ++ post) = Proofs.AffinityBounds.ext post (consumeSymbol c b)) ∧
    (∀ f l, b.length < f →
      parseIntervals f (b ++ post) l = Proofs.AffinityBounds.ext post (parseIntervals f b l)) :=
  ⟨(Proofs.Affinity.parse_sound b h0).ne_oob, (Proofs.AffinityLex.int_sound b h0).ne_oob,
    fun c => (Proofs.AffinityLex.consumeSymbol_spec c b h0).1.ne_oob, Proofs.AffinityLex.int_ext b post h0,
    fun c => Proofs.AffinityLex.sym_ext c b post h0, fun f l hf => Proofs.Affinity.list_ext f b post l h0 hf⟩

/-- **C20 (no signed overflow in consume_int)**: on EVERY byte sequence (NUL-terminated
or not, digit runs of any length) every `int` operation of `consume_int` —
`val * 10`, `val * 10 + digit`, `-val_sign`, `val * val_sign` — has its mathematical
result in `[INT_MIN, INT_MAX]` (the model turns any other result into `ub`); in
particular the accumulator never exceeds INT_MAX.  This is what the guard
`val > (INT_MAX - digit) / 10 ⇒ return 0` established; and no parser function
built on it can overflow either. -/
theorem aff_no_int_overflow (b : List UInt8) :
    consumeInt b ≠ .ub ∧ consumePint b ≠ .ub ∧ ((0 : UInt8) ∈ b → parseList b ≠ .ub) :=
  ⟨Proofs.AffinityLex.consumeInt_no_ub b, Proofs.AffinityLex.consumePint_no_ub b,
    fun h0 => (Proofs.Affinity.parse_sound b h0).ne_ub⟩

/- non-vacuity: strings of the header comment and of the parser's own test list -/
set_option maxRecDepth 20000 in
example : parseList (Atoi.cstr ['{', '1', ':', '2', ':', '3', '}', ':', '3', ':', '-', '2', ',', '1']) = .ok [[1, 4], [-1, 2], [-3, 0], [1]] [] := by decide +kernel
set_option maxRecDepth 20000 in
example : parseList (Atoi.cstr [' ', '1', ' ', ':', ' ', ' ', '+', '2', ' ', ',', ' ', '{', ' ', '-', '1', ' ', ':', ' ', '\r', ' ', '2', '\n', ':', '2', '}', '\n']) = .ok [[1], [2], [-1, 1]] [] := by decide
set_option maxRecDepth 20000 in
example : parseList (Atoi.cstr ['1', ':', '0']) = .fail := by decide
set_option maxRecDepth 20000 in
example : parseList (Atoi.cstr ['9', '9', '9', '9', '9', '9', '9', '9', '9', '9', '9', '9', '9', '9']) = .fail := by decide
set_option maxRecDepth 20000 in
example : parseList (Atoi.cstr ['2', '1', '4', '7', '4', '8', '3', '6', '4', '7', ':', '2', ':', '1']) = .ok [[2147483647], [-2147483648]] [] := by decide
example : Lex (Atoi.cstr ['7']) [.int 7] :=
  Lex.int [] [] [55] [0] [] (by simp) (by simp) (by simp) (by decide) (by intro c r h; cases h; decide)
    (Lex.eos [] [] (by simp))
end Affinity

namespace Config
open ArgoVerif.Model ArgoVerif.Model.Config
open ArgoVerif.Gen.EnvTable (errSuccess errInvArg schedConfigVarEndIdx)

/-- the abstract object: a finite map from integer keys to typed values -/
abbrev TMap := Int → Option Elem

/-- `ABT_*_config_set` on a typed map: `val = NULL` removes the key (always
succeeds); a valid type tag stores (type, value) under the key, replacing whatever
was there; any other tag is `ABT_ERR_INV_ARG` and changes nothing -/
def tset (k : Config.Kind) (m : TMap) (idx tag : Int) (val : Option Nat) : TMap × Int :=
  match val with
  | none => (fun x => if x = idx then none else m x, errSuccess)
  | some bits =>
    match tyOfTag k tag with
    | none => (m, errInvArg)
    | some ty => (fun x => if x = idx then some ⟨ty, bits⟩ else m x, errSuccess)

/-- one operation on a typed map: new map and what the caller observes -/
def tstep (k : Config.Kind) (m : TMap) : Config.Op → TMap × Config.Out
  | .set idx tag val => ((tset k m idx tag val).1, .err (tset k m idx tag val).2)
  | .get idx => (m, .got (m idx))
  | .read ptrs => (m, .readR (ptrs.zipIdx.map fun (nonNull, i) => if nonNull then m (i : Int) else none))

def trun (k : Config.Kind) (m : TMap) : List Config.Op → List Config.Out
  | [] => []
  | op :: ops => (tstep k m op).2 :: trun k (tstep k m op).1 ops

/-- **C20 (config objects are typed maps)**: from any configuration object with a
well-formed table (in particular a freshly created one, `config_create_empty`,
`config_sched_create`), EVERY sequence of `ABT_*_config_set` (typed store, delete by
NULL value, invalid type tags), `ABT_*_config_get` / `ABTI_*_config_read` and
`ABT_sched_config_read` (any number of pointers, NULL or not) — over any `int`
keys: negative (the predefined variables), colliding modulo the table size,
INT_MIN/INT_MAX — observes exactly what the typed finite map `Int → Option (type ×
value)` yields: a get returns the type and the value bits of the last store to that
key (stores of a different type replace), `ABT_ERR_INV_ARG` iff the key is absent;
a store with an unknown type tag fails and changes nothing. -/
theorem config_typed_map (ops : List Config.Op) (c : Config.Config) (hw : HTable.WF c.table) :
    (Config.runOps c ops).2 = trun c.kind (Config.get c) ops ∧ HTable.WF (Config.runOps c ops).1.table ∧
      (Config.runOps c ops).1.kind = c.kind := by
  induction ops generalizing c with
  | nil => exact ⟨rfl, hw, rfl⟩
  | cons op ops ih =>
    cases op with
    | set idx tag val =>
      -- `Config.set` and `tset` branch alike; each branch is a table operation
      have hs : HTable.WF (Config.set c idx tag val).1.table ∧ (Config.set c idx tag val).1.kind = c.kind ∧
          (Config.set c idx tag val).2 = (tset c.kind (Config.get c) idx tag val).2 ∧
          Config.get (Config.set c idx tag val).1 = (tset c.kind (Config.get c) idx tag val).1 := by
        cases val with
        | none => exact ⟨(Proofs.Config.remove_spec c idx hw).1, rfl, rfl, (Proofs.Config.remove_spec c idx hw).2⟩
        | some bits =>
          simp only [Config.set, tset]
          cases tyOfTag c.kind tag with
          | none => exact ⟨hw, rfl, rfl, rfl⟩
          | some ty =>
            exact ⟨(Proofs.Config.store_spec c idx ⟨ty, bits⟩ hw).1, rfl, rfl, (Proofs.Config.store_spec c idx ⟨ty, bits⟩ hw).2⟩
      obtain ⟨h1, h2, h3, h4⟩ := hs
      obtain ⟨i1, i2, i3⟩ := ih (Config.set c idx tag val).1 h1
      simp only [Config.runOps, Config.step, trun, tstep]
      exact ⟨by rw [i1, h2, h3, h4], i2, by rw [i3, h2]⟩
    | get idx =>
      obtain ⟨i1, i2, i3⟩ := ih c hw
      simp only [Config.runOps, Config.step, trun, tstep]
      exact ⟨by rw [i1], i2, i3⟩
    | read ptrs =>
      obtain ⟨i1, i2, i3⟩ := ih c hw
      simp only [Config.runOps, Config.step, trun, tstep]
      exact ⟨by rw [i1]; rfl, i2, i3⟩

/-- a fresh `ABT_pool_config_create` / `ABT_sched_config_create(&c, ABT_sched_config_var_end)`
object is the empty map (with the table sizes of the tree) -/
theorem config_create_empty (k : Config.Kind) :
    HTable.WF (createEmpty k).table ∧ ∀ x, Config.get (createEmpty k) x = none :=
  Proofs.Config.createEmpty_spec k

/-- the varargs list of `ABT_sched_config_create` as typed-map stores: pairs are
stored in order until the first variable whose index is that of
`ABT_sched_config_var_end`; a variable with an invalid type makes the call fail -/
def tcreate (m : TMap) : List (Int × Int × Nat) → Option TMap
  | [] => some m
  | (idx, tag, bits) :: rest =>
    if idx = schedConfigVarEndIdx then some m
    else match tyOfTag .sched tag with
      | none => none
      | some ty => tcreate (fun x => if x = idx then some ⟨ty, bits⟩ else m x) rest

/-- `ABT_sched_config_create` with any list of (variable, value) pairs builds exactly
the typed map of the pairs before the end marker (later pairs win), or fails iff one
of them has an invalid type -/
theorem config_sched_create (args : List (Int × Int × Nat)) :
    match schedCreate args, tcreate (fun _ => none) args with
    | some c, some m => HTable.WF c.table ∧ c.kind = .sched ∧ Config.get c = m
    | none, none => True
    | _, _ => False := by
  -- by induction on the list, from any well-formed object in place of the empty one
  suffices h : ∀ (c : Config.Config), HTable.WF c.table →
      match createLoop c args, tcreate (Config.get c) args with
      | some c', some m => HTable.WF c'.table ∧ c'.kind = c.kind ∧ Config.get c' = m
      | none, none => True
      | _, _ => False by
    have := h (createEmpty .sched) (Proofs.Config.createEmpty_spec .sched).1
    rwa [funext (Proofs.Config.createEmpty_spec .sched).2] at this
  induction args with
  | nil => exact fun c hw => ⟨hw, rfl, rfl⟩
  | cons a rest ih =>
    intro c hw
    obtain ⟨idx, tag, bits⟩ := a
    simp only [createLoop, tcreate]
    by_cases he : idx = schedConfigVarEndIdx
    · simp only [he, if_true]; exact ⟨hw, trivial, trivial⟩
    · simp only [he, if_false]
      cases tyOfTag .sched tag with
      | none => trivial
      | some ty =>
        obtain ⟨hw', hget⟩ := Proofs.Config.store_spec c idx ⟨ty, bits⟩ hw
        have := ih { c with table := (HTable.set c.table idx (enc ⟨ty, bits⟩)).1 } hw'
        rwa [hget] at this

/- non-vacuity: predefined negative key, collision modulo 8, retyping, delete, invalid tag -/
example : (Config.runOps (createEmpty .sched)
    [.set (-4) 0 (some 50), .set 4 1 (some 7), .set 4 2 (some 9), .get 4, .get (-4), .set (-4) 0 none,
     .get (-4), .set 1 7 (some 3), .read [true, true, false, true, true]]).2 =
    [.err 0, .err 0, .err 0, .got (some ⟨.ptr, 9⟩), .got (some ⟨.int, 50⟩), .err 0, .got none, .err 53,
     .readR [none, none, none, none, some ⟨.ptr, 9⟩]] := by decide
end Config

end ArgoVerif.Props.C20
