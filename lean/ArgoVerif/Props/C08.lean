import ArgoVerif.Proofs.Barrier
import ArgoVerif.Gen.Consts
/-
Props.C08 — barriers release nobody early and everybody once the last waiter arrives.
All theorems quantify over every trace accepted by the barrier model, i.e. over every interleaving of
the steps (call, lock acquisition, enqueue, wake-ups, lock release, return, reinit) of any number of
ULT / tasklet / external callers over any number of rounds.  `num_waiters` is positive
(ABT_barrier_create and ABT_barrier_reinit refuse 0).
-/
namespace ArgoVerif.Props.C08
open ArgoVerif ArgoVerif.Model.Barrier

theorem inv_step (s s' : St) (e : Ev) (h : Inv s) (hs : step s e = some s') : Inv s' := by
  cases e with
  | call a => exact inv_stepCall s s' a h hs
  | ret a rc => exact inv_stepRet s s' a rc h hs
  | acq a old => exact inv_stepAcq s s' a old h hs
  | enq a => exact inv_stepEnq s s' a h hs
  | wake a n => exact inv_stepWake s s' a n h hs
  | rel a c nw e => exact inv_stepRel s s' a c nw e h hs
  | reinit n rc => exact inv_stepReinit s s' n rc h hs
  | obsLock v => simp only [step] at hs; split at hs <;> simp_all
  | obs c nw => simp only [step] at hs; split at hs <;> simp_all
  | fsamp a v => exact inv_stepFsamp s s' a v h hs
  | fbump a v => exact inv_stepFbump s s' a v h hs
  | obsF v => simp only [step] at hs; split at hs <;> simp_all

theorem inv_reachable (k : Actor → Kind) (n : Nat) (hn : 0 < n) (s : St) (h : (machine k n).Reachable s) : Inv s :=
  Machine.invariant_reachable (machine k n) Inv (inv_init k n hn) (fun s e s' hi hs => inv_step s s' e hi hs) s h

/-- **nobody returns early**: whenever a caller returns successfully from ABT_barrier_wait, the round
its call was counted into (`roundOf a`, fixed at the `counter++` of its critical section) has received
exactly `need` entries, where `need` is the value of `num_waiters` in effect for that round.  Every
entry is a distinct call (one `acq` step of a caller at `called`). -/
theorem barrier_none_early (k : Actor → Kind) (n : Nat) (hn : 0 < n) (s s' : St) (h : (machine k n).Reachable s)
    (a : Actor) (hs : step s (.ret a .ok) = some s') :
    s.entered (s.roundOf a) = s.need (s.roundOf a) ∧ 0 < s.need (s.roundOf a) := by
  have hi := inv_reachable k n hn s h
  have hrel : Released (s.pc a) := by
    simp only [step, stepRet] at hs
    split at hs <;> simp_all [Released]
  have h1 := hi.relRound a hrel; have h2 := hi.past; have h3 := hi.entNow; have h4 := hi.needNow; have h5 := hi.nwPos
  grind

/-- `need` of a round is the `num_waiters` in force when its entries are counted: the step that counts
an entry records it. -/
theorem barrier_entry_counts (s s' : St) (a : Actor) (hs : step s (.acq a false) = some s') (hp : s.pc a = .called) :
    s'.roundOf a = s.round ∧ s'.entered s.round = s.entered s.round + 1 ∧ s'.need s.round = s.nw ∧
    s'.counter = s.counter + 1 := by
  simp only [step, stepAcq] at hs
  split at hs
  · cases hs
  · simp only [Bool.false_eq_true, if_false, hp] at hs
    cases hs
    simp [enter, setPc]

/-- **the last arrival releases everybody and resets in the same critical section**: when the last
arrival of a round releases the barrier lock, the wait-list is empty, nobody is left waiting (every
waiter of the round has been made ready inside this critical section), the counter is 0 again and the
round number has advanced — all in one step, i.e. before any other caller can get the lock. -/
theorem barrier_all_released (k : Actor → Kind) (n : Nat) (hn : 0 < n) (s s' : St) (h : (machine k n).Reachable s)
    (a : Actor) (c nw : Nat) (e : Bool) (hs : step s (.rel a c nw e) = some s') (hp : s.pc a = .csLast) :
    s.q = [] ∧ (∀ b, ¬ InQ (s'.pc b)) ∧ s'.counter = 0 ∧ s'.round = s.round + 1 ∧ s'.lock = none ∧
    c = 0 ∧ e = true := by
  have hi := inv_reachable k n hn s h
  have hi' := inv_step s s' _ hi hs
  simp only [step, stepRel, hp] at hs
  split at hs
  · rename_i hqw
    have hq := hqw.1
    obtain ⟨h1, h2, _, h4⟩ := chk_some _ _ _ _ _ hs
    subst h1
    refine ⟨hq, ?_, rfl, rfl, rfl, h2, ?_⟩
    · intro b hb
      have := (hi'.inQ b).mpr hb
      simp [setPc, hq] at this
    · simp [h4, setPc, hq]
  · cases hs

/-- every waiter that is woken was waiting in the *current* round, and it is woken by a caller whose
own entry completed that round (counter = num_waiters) -/
theorem barrier_wake_current_round (k : Actor → Kind) (n : Nat) (hn : 0 < n) (s s' : St) (h : (machine k n).Reachable s)
    (a b : Actor) (hs : step s (.wake a b) = some s') :
    s.roundOf b = s.round ∧ s.counter = s.nw ∧ InQ (s.pc b) ∧ s'.pc b = .woken := by
  have hi := inv_reachable k n hn s h
  simp only [step, stepWake] at hs
  split at hs
  · rename_i hd tl hpc hq
    split at hs
    · rename_i hn'
      subst hn'
      cases hs
      have hm : hd ∈ s.q := by rw [hq]; simp
      exact ⟨hi.qRound hd hm, hi.cntLast a hpc, (hi.inQ hd).mp hm, by simp [setPc]⟩
    · cases hs
  · cases hs

/-- **round isolation**: a call that gets the lock is counted into the current round, and at that
moment the wait-list holds exactly the earlier arrivals of this same round (nobody of an earlier round
is still queued, nobody of this round is missing): `counter` = length of the list = entries of the
round so far < `num_waiters`.  Because the reset and the broadcast happen in the critical section that
completes a round (`barrier_all_released`), an entry after the reset belongs to round k+1. -/
theorem barrier_round_isolation (k : Actor → Kind) (n : Nat) (hn : 0 < n) (s s' : St) (h : (machine k n).Reachable s)
    (a : Actor) (hs : step s (.acq a false) = some s') (hp : s.pc a = .called) :
    s'.roundOf a = s.round ∧ (∀ b, b ∈ s.q → s.roundOf b = s.round) ∧
    s.counter = s.q.length ∧ s.entered s.round = s.counter ∧ s.counter < s.nw := by
  have hi := inv_reachable k n hn s h
  have hl := acq_f_free s s' a hs
  have hc := hi.cntFree hl
  exact ⟨(barrier_entry_counts s s' a hs hp).1, hi.qRound, hc.1, hi.entNow, hc.2⟩

/-- **no lost waiter**: a caller that is waiting is in the wait-list of the current round, so the
last arrival of this round will wake it (`barrier_all_released`) -/
theorem barrier_waiting_is_queued (k : Actor → Kind) (n : Nat) (hn : 0 < n) (s : St) (h : (machine k n).Reachable s)
    (a : Actor) (ha : s.pc a = .waiting) : a ∈ s.q ∧ s.roundOf a = s.round := by
  have hi := inv_reachable k n hn s h
  have hm : a ∈ s.q := (hi.inQ a).mpr (by rw [ha]; trivial)
  exact ⟨hm, hi.qRound a hm⟩

/-- a released caller can return (the return step is enabled) unless it is an external waiter that
still holds the lock in its wait loop -/
theorem barrier_released_can_return (s : St) (a : Actor) (ha : s.pc a = .woken ∨ s.pc a = .done) :
    ∃ s', step s (.ret a .ok) = some s' := by
  rcases ha with ha | ha <;> simp [step, stepRet, ha]

/-- **reinit**: ABT_barrier_reinit with a positive count (called, as documented, while nobody is inside
the barrier: counter = 0) only replaces `num_waiters`; the state is again that of a fresh barrier with
the new count as far as rounds are concerned — the invariant holds, so all round theorems apply, and
the next entries record the new count as their `need`. -/
theorem barrier_reinit (k : Actor → Kind) (n : Nat) (hn : 0 < n) (s s' : St) (h : (machine k n).Reachable s)
    (m : Nat) (hm : m ≠ 0) (rc : Rc) (hs : step s (.reinit m rc) = some s') :
    rc = .ok ∧ s.counter = 0 ∧ s'.nw = m ∧ s'.counter = 0 ∧ s'.q = s.q ∧ s'.round = s.round ∧ Inv s' := by
  have hi' := inv_step s s' _ (inv_reachable k n hn s h) hs
  simp only [step, stepReinit, hm, if_false] at hs
  split at hs
  · rename_i hc
    cases hs
    exact ⟨hc.1, hc.2, rfl, hc.2, rfl, rfl, hi'⟩
  · cases hs

/-- **re-initialisation does not disturb the waiters that are still leaving** — the futex generation word.
ABT_barrier_reinit changes `num_waiters` and nothing else: not the program counter of any caller, not the wait-list,
and in particular not the generation word `waitlist.futex.val` nor what any sleeper sampled from it. -/
theorem barrier_reinit_keeps_generation (s s' : St) (m : Nat) (rc : Rc) (hs : step s (.reinit m rc) = some s') :
    s'.fval = s.fval ∧ s'.samp = s.samp ∧ s'.wny = s.wny ∧ s'.pc = s.pc ∧ s'.q = s.q ∧ s'.lock = s.lock ∧
    s'.counter = s.counter := by
  simp only [step, stepReinit] at hs
  (repeat' (split at hs)) <;> first | (cases hs; done) | (cases hs; simp)

/-- **a woken external waiter leaves its futex loop**.  A non-ULT waiter sleeps in
`do futex_wait(val, original_val) while (val == original_val)` with `original_val` sampled under the barrier lock.
In every reachable state: the generation word never goes back below a sample (`samp a ≤ fval`); and once the last
arrival that dequeued a non-ULT waiter `a` has released the lock (more generally: whenever no increment is pending),
the word is strictly greater than what `a` sampled — so `a`'s re-check finds `val ≠ original_val` and `a` returns, no
matter how late it runs and whatever happened in between: further rounds, and ABT_barrier_reinit
(`barrier_reinit_keeps_generation`).  The only writer of the word is a broadcaster inside its critical section
(`fbump` is enabled at `csLast` only), each write increments it, and a broadcaster that woke a non-ULT waiter cannot
release the lock before it has incremented the word.
Not modelled: wrap-around of the 32-bit word (2^32 broadcasts while one waiter sleeps). -/
theorem barrier_ext_woken_leaves_futex_loop (k : Actor → Kind) (n : Nat) (hn : 0 < n) (s : St)
    (h : (machine k n).Reachable s) :
    (∀ a, s.samp a ≤ s.fval) ∧
    (∀ a, s.kind a ≠ .ult → s.pc a = .woken → (s.lock = none ∨ s.wny = false) → s.samp a < s.fval) ∧
    (∀ a v s', step s (.fbump a v) = some s' → s.pc a = .csLast ∧ s.lock = some a ∧ s'.fval = s.fval + 1) ∧
    (∀ a c nw e s', step s (.rel a c nw e) = some s' → s.pc a = .csLast → s.wny = false) := by
  have hi := inv_reachable k n hn s h
  refine ⟨hi.sampLe, ?_, ?_, ?_⟩
  · intro a hk hp hl
    have hw : s.wny = false := by
      rcases hl with hl | hl
      · cases hwn : s.wny with
        | false => rfl
        | true => exact absurd hl (hi.wnyCS hwn).1
      · exact hl
    rcases hi.wokenLt a hk (Or.inl hp) with h1 | h1
    · exact h1
    · rw [hw] at h1; cases h1
  · intro a v s' hs
    simp only [step, stepFbump] at hs
    split at hs
    · rename_i hc
      cases hs
      exact ⟨hc.1, (hi.lockIff a).mpr (by rw [hc.1]; trivial), hc.2.2.2⟩
    · cases hs
  · intro a c nw e s' hs hp
    simp only [step, stepRel, hp] at hs
    split at hs
    · rename_i hqw; exact hqw.2
    · cases hs

/-- ABT_barrier_reinit(0) fails with ABT_ERR_INV_ARG and changes nothing -/
theorem barrier_reinit_zero (s s' : St) (rc : Rc) (hs : step s (.reinit 0 rc) = some s') : rc = .errInvArg ∧ s' = s := by
  simp only [step, stepReinit, if_true] at hs
  split at hs
  · rename_i hc; cases hs; exact ⟨hc, rfl⟩
  · cases hs

/-- **a tasklet is rejected and nothing changes** (1.x API): a tasklet's ABT_barrier_wait can only
return ABT_ERR_BARRIER, it never takes the lock, and after its return every field of the barrier —
and the ghost round bookkeeping — is what it was before the call. -/
theorem barrier_tasklet_rejected_nochange (s s1 s2 : St) (a : Actor) (rc : Rc) (hk : s.kind a = .task)
    (h1 : step s (.call a) = some s1) (h2 : step s1 (.ret a rc) = some s2) :
    rc = .errBarrier ∧ s2.counter = s.counter ∧ s2.nw = s.nw ∧ s2.q = s.q ∧ s2.lock = s.lock ∧
    s2.round = s.round ∧ s2.entered = s.entered ∧ s2.pc a = .idle := by
  simp only [step, stepCall] at h1
  split at h1
  · cases h1
    simp only [step, stepRet, setPc, hk, if_true, upd_same] at h2
    cases rc <;> simp at h2
    cases h2
    simp
  · cases h1

/-- a tasklet never gets past the rejection: in every reachable state it is idle or about to return the error -/
theorem barrier_tasklet_never_waits (k : Actor → Kind) (n : Nat) (hn : 0 < n) (s : St) (h : (machine k n).Reachable s)
    (a : Actor) (hk : s.kind a = .task) : s.pc a = .idle ∨ s.pc a = .rejected :=
  (inv_reachable k n hn s h).taskPc a hk

/-- mutual exclusion of the critical sections and the counter bound: whoever holds the lock is unique,
and whenever the lock is free the counter is below `num_waiters` (so the assertion at the top of the
critical section of ABT_barrier_wait holds) -/
theorem barrier_counter_bound (k : Actor → Kind) (n : Nat) (hn : 0 < n) (s : St) (h : (machine k n).Reachable s) :
    (s.lock = none → s.counter < s.nw ∧ s.counter = s.q.length) ∧
    (∀ a b, HoldsLock (s.pc a) → HoldsLock (s.pc b) → a = b) := by
  have hi := inv_reachable k n hn s h
  refine ⟨fun hl => ⟨(hi.cntFree hl).2, (hi.cntFree hl).1⟩, ?_⟩
  exact fun a b => hi.holder_unique

/-- non-vacuity: num_waiters = 2, actors 1 (ULT) and 2 (external thread) do two rounds, actor 2 re-enters
fast: it is the first of round 1 while actor 1 (woken) has not yet returned from round 0; actor 3 (tasklet) is
rejected; then reinit to 1 and a one-waiter round. -/
example :
    ((machine (fun a => if a = 1 then .ult else if a = 2 then .ext else .task) 2).run
        (init (fun a => if a = 1 then .ult else if a = 2 then .ext else .task) 2)
      [.call 1, .acq 1 false, .enq 1, .call 3, .rel 1 1 2 false, .ret 3 .errBarrier,
       .call 2, .acq 2 false, .wake 2 1, .rel 2 0 2 true, .ret 2 .ok,
       .call 2, .acq 2 false, .enq 2, .fsamp 2 0, .rel 2 1 2 false, .acq 2 false, .fsamp 2 0, .rel 2 1 2 false,
       .ret 1 .ok, .call 1, .acq 1 false, .wake 1 2, .obsF 0, .fbump 1 1, .rel 1 0 2 true, .ret 1 .ok,
       .reinit 0 .errInvArg, .reinit 1 .ok, .obsF 1, .ret 2 .ok, .call 1, .acq 1 false, .rel 1 0 1 true, .ret 1 .ok]).map
      (fun s => ([s.round, s.entered 0, s.entered 1, s.entered 2, s.need 2, s.counter, s.fval, s.samp 2], s.q, s.pc 1, s.pc 2))
      = some ([3, 2, 2, 1, 1, 0, 1, 0], [], .idle, .idle) := by decide

/-- the model rejects an early return (actor 1 returns although the second waiter never came) -/
example :
    (machine (fun _ => .ult) 2).run (init (fun _ => .ult) 2)
      [.call 1, .acq 1 false, .enq 1, .rel 1 1 2 false, .ret 1 .ok] = none := by decide

/-- the model rejects a last arrival that wakes only the head of the list (signal instead of broadcast) -/
example :
    (machine (fun _ => .ult) 3).run (init (fun _ => .ult) 3)
      [.call 1, .acq 1 false, .enq 1, .rel 1 1 3 false, .call 2, .acq 2 false, .enq 2, .rel 2 2 3 false,
       .call 3, .acq 3 false, .wake 3 1, .rel 3 0 3 false] = none := by decide

/-- the model rejects a last arrival that woke an external waiter and releases the lock without having advanced the futex word, and
any write of that word outside a broadcast (e.g. by a re-initialisation) -/
example :
    (machine (fun a => if a = 1 then .ext else .ult) 2).run (init (fun a => if a = 1 then .ext else .ult) 2)
      [.call 1, .acq 1 false, .enq 1, .fsamp 1 0, .rel 1 1 2 false, .call 2, .acq 2 false, .wake 2 1, .rel 2 0 2 true] = none ∧
    (machine (fun a => if a = 1 then .ext else .ult) 2).run (init (fun a => if a = 1 then .ext else .ult) 2)
      [.call 1, .acq 1 false, .enq 1, .fsamp 1 0, .rel 1 1 2 false, .call 2, .acq 2 false, .wake 2 1, .fbump 2 1,
       .rel 2 0 2 true, .ret 2 .ok, .reinit 2 .ok, .fbump 2 0] = none := by decide

/-! ### ABT_xstream_barrier -/
open ArgoVerif.Model in
/-- the invariant of the xstream-barrier model holds in every reachable state -/
theorem xinv_reachable (n : Nat) (s : XBarrier.St) (h : (XBarrier.machine n).Reachable s) : XBarrier.Inv s :=
  Machine.invariant_reachable (XBarrier.machine n) XBarrier.Inv (XBarrier.inv_init n)
    (fun s e s' hi hs => by
      cases e with
      | call a => exact XBarrier.inv_stepCall s s' a hi hs
      | ret a => exact XBarrier.inv_stepRet s s' a hi hs) s h

open ArgoVerif.Model in
/-- **the guard of ABT_xstream_barrier_wait**.  What stream_barrier.c adds around the trusted
primitive `pthread_barrier_wait` (count = num_waiters) is the test `num_waiters > 1`:
(1) with num_waiters ≤ 1 a call does not touch the primitive and can return at once — correct, because
    a round of one caller is complete by that call alone;
(2) with num_waiters > 1 the call enters the primitive, and
(3) in both cases a return happens only when the round of that call has received
    max(num_waiters, 1) calls.
TRUSTED: the behaviour of pthread_barrier_wait (here: the virtual barrier of the controlled scheduler),
modelled as "callers collect in `arrived` until `num_waiters` are inside, then exactly those are released". -/
theorem xbarrier_guard (n : Nat) (s s' : XBarrier.St) (h : (XBarrier.machine n).Reachable s) (a : Actor) :
    (s.nw ≤ 1 → XBarrier.step s (.call a) = some s' → s'.arrived = s.arrived ∧ s'.pc a = .skipped ∧
        ∃ s'', XBarrier.step s' (.ret a) = some s'') ∧
    (1 < s.nw → XBarrier.step s (.call a) = some s' → (s'.pc a = .inPrim ∧ a ∈ s'.arrived) ∨ s'.pc a = .released) ∧
    (XBarrier.step s (.ret a) = some s' → s.entered (s.roundOf a) = (if 1 < s.nw then s.nw else 1)) := by
  have hi := xinv_reachable n s h
  refine ⟨?_, ?_, ?_⟩
  · intro hn hs
    have h1 : ¬ 1 < s.nw := by omega
    by_cases hp : s.pc a = .idle
    · simp [XBarrier.step, XBarrier.stepCall, hp, h1] at hs
      cases hs
      refine ⟨rfl, by simp, ?_⟩
      simp [XBarrier.step, XBarrier.stepRet]
    · simp [XBarrier.step, XBarrier.stepCall, hp] at hs
  · intro hn hs
    by_cases hp : s.pc a = .idle
    · by_cases hl : s.arrived.length + 1 < s.nw
      · simp [XBarrier.step, XBarrier.stepCall, hp, hn, hl] at hs
        cases hs; left; exact ⟨by simp, by simp⟩
      · simp [XBarrier.step, XBarrier.stepCall, hp, hn, hl] at hs
        cases hs; right; simp
    · simp [XBarrier.step, XBarrier.stepCall, hp] at hs
  · intro hs
    simp only [XBarrier.step, XBarrier.stepRet] at hs
    split at hs
    · rename_i hp
      exact hi.past _ (hi.relRound a hp)
    · cases hs

open ArgoVerif.Model in
/-- non-vacuity: three streams, two rounds; the third arrival releases the first two -/
example :
    ((XBarrier.machine 3).run (XBarrier.init 3)
      [.call 1, .call 2, .call 3, .ret 3, .call 3, .ret 1, .ret 2, .call 2, .call 1, .ret 1, .ret 2, .ret 3]).map
      (fun s => (s.round, s.entered 0, s.entered 1, s.arrived)) = some (2, 3, 3, []) := by decide

open ArgoVerif.Model in
/-- an early return is not a behaviour of the model -/
example : (XBarrier.machine 3).run (XBarrier.init 3) [.call 1, .call 2, .ret 1] = none := by decide


/-! ## widths of the counters modelled as unbounded numbers (generated from the headers on every run) -/
/-- `counter` of ABT_barrier is 8 bytes wide in this tree: the unbounded model agrees with the C field below 2^63 -/
example : ArgoVerif.Gen.Consts.bytesBarrierCounter = 8 := by decide
/-- `num_waiters` is 8 bytes wide in this tree: the unbounded model agrees with the C field below 2^63 -/
example : ArgoVerif.Gen.Consts.bytesBarrierNumWaiters = 8 := by decide

end ArgoVerif.Props.C08
