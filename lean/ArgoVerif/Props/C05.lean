import ArgoVerif.Proofs.Cond
import ArgoVerif.Proofs.FutexGen
import ArgoVerif.Gen.Consts
/-
Props.C05 — condition variables: atomic release-and-wait, exact wake-ups, no spurious wake-up.
Theorems hold for every trace of Model.Cond: any number of ULT / non-ULT callers of wait, timedwait,
signal and broadcast, every interleaving of their atomic steps.
-/
namespace ArgoVerif.Props.C05
open ArgoVerif ArgoVerif.Model ArgoVerif.Model.Cond

theorem cinv_step (s s' : St) (e : Ev) (h : CInv s) (hs : step s e = some s') : CInv s' := by
  cases e with
  | call a op => exact cinv_stepCall s s' a op h hs
  | ret a rc => exact cinv_stepRet s s' a rc h hs
  | mutexUnlock a m => exact cinv_stepMutex s s' a m h (.inl hs)
  | mutexLock a m => exact cinv_stepMutex s s' a m h (.inr hs)
  | wl e => exact cinv_stepWl s s' e h hs

theorem cinv_reachable (u : Actor → Bool) (s : St) (h : (machine u).Reachable s) : CInv s :=
  Machine.invariant_reachable (machine u) CInv (cinv_init u) (fun s e s' hi hs => cinv_step s s' e hi hs) s h

/-- **atomic release-and-wait**: from the moment a waiter has released the user mutex inside `wait` until it is
enqueued, it holds the condition variable's lock; a signaller or broadcaster needs that lock to touch the
wait-list, so no signal can fall between the release and the enqueue -/
theorem cond_atomic_release_wait (u : Actor → Bool) (s : St) (h : (machine u).Reachable s) (a : Actor)
    (ha : s.cpc a = .wEnq ∨ s.cpc a = .wUnlock) :
    s.wl.lOwner = some a ∧ ∀ b n, b ≠ a → WaitList.stepDeq s.wl b n = none := by
  have hi := cinv_reachable u s h
  have hpc : s.wl.pc a = .inCs := hi.csLink a (by rcases ha with h1 | h1 <;> simp [h1])
  refine ⟨(hi.wlInv.lIff a).mpr (by rw [hpc]; trivial), fun b n hne => ?_⟩
  unfold WaitList.stepDeq
  split
  · rename_i hb _
    exact absurd (hi.wlInv.excl (by rw [hb]; trivial) (by rw [hpc]; trivial)) hne
  · rfl

/-- **no lost signal**: a waiter that has released the mutex, is inside its (untimed or timed) wait and has not been
made READY is in the wait-list or is the node a waker is waking right now -/
theorem cond_waiter_queued_until_woken (u : Actor → Bool) (s : St) (h : (machine u).Reachable s) (a : Actor)
    (ha : s.cpc a = .wWaiting) (hr : s.wl.ready a = false) (hn : s.wl.pc a ≠ .tmoRel) :
    a ∈ s.wl.q ∨ s.wl.pending = some a := by
  have hi := cinv_reachable u s h
  rcases hi.waitLink a ha with hw | hw
  · exact hi.wlInv.waiter_queued hw hr
  · exact absurd hw hn

/-- **no spurious wake-up**: `wait` returns SUCCESS only after a signal/broadcast stored READY into the caller's node;
`timedwait` returns SUCCESS only in that case too, and ERR_COND_TIMEDOUT only if the node was never made READY -/
theorem cond_no_spurious (u : Actor → Bool) (s s' : St) (h : (machine u).Reachable s) (a : Actor) (rc : Rc)
    (hs : step s (.ret a rc) = some s') (hw : s.cpc a = .wDone) :
    (rc = .ok → s.wl.ready a = true) ∧ (rc = .timedout → s.wl.ready a = false ∧ isTimed (s.op a) = true) := by
  have hi := cinv_reachable u s h
  simp only [step, stepRet, hw] at hs
  constructor
  · intro hrc; subst hrc
    simp only at hs
    split at hs
    · rename_i hc; exact hi.wokenReady a (Or.inr hw) hc
    · cases hs
  · intro hrc; subst hrc
    simp only at hs
    split at hs
    · rename_i hc; exact ⟨hi.timedOutNotReady a (Or.inr hw) hc.2 hc.1, hc.2⟩
    · cases hs

/-- **returns holding the mutex**: whenever a wait or timedwait returns (any result) the caller holds the mutex again -/
theorem cond_returns_holding_mutex (u : Actor → Bool) (s s' : St) (h : (machine u).Reachable s) (a : Actor) (rc : Rc)
    (hs : step s (.ret a rc) = some s') (hw : s.cpc a = .wDone ∨ s.cpc a = .wBad) :
    s.mholder (opMutex (s.op a)) = some a := by
  have hi := cinv_reachable u s h
  exact hi.holdM a (by rcases hw with h1 | h1 <;> simp [h1])

/-- **signal wakes at most one, the head; broadcast wakes everybody**: a signal's critical section dequeues at most
one node and ends only when it has done so or the list is empty; a broadcast's ends only with an empty list -/
theorem cond_signal_broadcast_exact (s s' : St) (a : Actor) (hc : s.cpc a = .sCs)
    (hs : step s (.wl (.clearL a)) = some s') :
    s.wl.q = [] ∨ (s.op a = .signal ∧ s.sigDone a = true) := by
  simp only [step, stepWl, hc, if_true] at hs
  split at hs
  · rename_i h; exact h
  · cases hs

theorem cond_signal_at_most_one (s s' : St) (a n : Actor) (hs : step s (.wl (.deq a n)) = some s') :
    s.cpc a = .sCs ∧ (s.op a = .broadcast ∨ s.sigDone a = false) ∧ s'.sigDone a = true ∧ s.wl.q.head? = some n := by
  simp only [step, stepWl] at hs
  split at hs
  · rename_i h
    obtain ⟨w, hw, rfl⟩ := Option.map_eq_some_iff.mp hs
    refine ⟨h.1, h.2, by simp [upd], ?_⟩
    simp only [WaitList.step, WaitList.stepDeq] at hw
    split at hw
    · rename_i hd tl _ hq
      split at hw
      · rename_i he; subst he; simp [hq]
      · cases hw
    · cases hw
  · cases hs

/-- **wrong mutex rejected**: if the condition variable is already bound to another mutex, the call takes the error
branch and touches neither the wait-list nor any mutex -/
theorem cond_wrong_mutex_rejected (s s' : St) (a : Actor) (w : MutexId) (hc : s.cpc a = .wAcq)
    (hb : s.waiterMutex = some w) (hne : w ≠ opMutex (s.op a))
    (hs : step s (.wl (.tasL a false)) = some s') :
    s'.cpc a = .wBadRel ∧ s'.wl.q = s.wl.q ∧ s'.mholder = s.mholder ∧ s'.waiterMutex = s.waiterMutex := by
  simp only [step, stepWl, hc, if_true] at hs
  obtain ⟨w', hw, rfl⟩ := Option.map_eq_some_iff.mp hs
  simp only [WaitList.step, WaitList.stepTasL] at hw
  split at hw
  · cases hw
  · split at hw <;> (try cases hw) <;>
      simp [afterAcquire, hb, hne, upd, WaitList.takeL, WaitList.setPc, Ne.symm hne]

/-- non-vacuity: ULT 1 holds mutex 7 and waits; external thread 2 locks 7, signals, unlocks; 1 wakes and re-locks -/
example :
    ((machine (fun a => a = 1)).run (init (fun a => a = 1))
      [.mutexLock 1 7, .call 1 (.wait 7), .wl (.begin 1), .wl (.tasL 1 false), .mutexUnlock 1 7, .wl (.enq 1 false),
       .mutexLock 2 7, .wl (.storeBlocked 1), .wl (.clearL 1),
       .call 2 .signal, .wl (.begin 2), .wl (.tasL 2 false), .wl (.deq 2 1), .wl (.storeReady 2 1), .wl (.clearL 2),
       .ret 2 .ok, .mutexUnlock 2 7, .mutexLock 1 7, .ret 1 .ok]).map
        (fun s => decide (s.cpc 1 = .idle ∧ s.cpc 2 = .idle ∧ s.mholder 7 = some 1 ∧ s.wl.q = [] ∧ s.waiterMutex = some 7))
      = some true := by decide


/-! ## the generation word of the wait-list futex (non-yieldable waiters: external threads, tasklets) -/
/-- the width of the word, generated from the header on every run -/
def futexBits : Nat := (8 * ArgoVerif.Gen.Consts.bytesFutexVal).toNat

/-- **no lost wake-up of a sleeping caller**: a waiter that sampled the word under the wait-list lock and is then delayed
for `k` broadcasts (any `0 < k < 2^bits`) before the kernel compares the word — or before it re-reads the word after a
wake-up — finds it changed: it does not go (back) to sleep after the broadcast that took it off the wait list -/
theorem futex_no_lost_wake (v k : Nat) (hv : v < 2 ^ futexBits) (hk : 0 < k) (hk2 : k < 2 ^ futexBits) :
    ArgoVerif.Model.FutexGen.lostWake futexBits v k = false := by
  cases h : ArgoVerif.Model.FutexGen.lostWake futexBits v k with
  | false => rfl
  | true => have := (ArgoVerif.Model.FutexGen.lostWake_iff futexBits v k hv hk2).1 h; omega

/-- (`lostWake` compares the sample with the word after `k` single broadcasts `val := val + 1` on that width) -/
theorem futex_after_is_k_broadcasts (v k : Nat) (hv : v < 2 ^ futexBits) :
    ArgoVerif.Model.FutexGen.after futexBits v k = ArgoVerif.Model.FutexGen.iter futexBits v k :=
  ArgoVerif.Model.FutexGen.after_eq_iter futexBits v k hv

/-- a waiter does go to sleep when nothing has been broadcast since it sampled the word (it is still on the wait list) -/
theorem futex_sleeps_without_broadcast (v : Nat) (hv : v < 2 ^ futexBits) :
    ArgoVerif.Model.FutexGen.lostWake futexBits v 0 = true :=
  (ArgoVerif.Model.FutexGen.lostWake_iff futexBits v 0 hv (Nat.two_pow_pos _)).2 rfl

/-- non-vacuity / why the width matters: on a 3-bit word the 8th broadcast restores the sampled value -/
example : ArgoVerif.Model.FutexGen.lostWake 3 5 8 = true ∧ ArgoVerif.Model.FutexGen.lostWake 3 5 7 = false := by decide
example : futexBits = 32 := by decide

end ArgoVerif.Props.C05
