import ArgoVerif.Proofs.MemPool
import ArgoVerif.Proofs.StackGeom
import ArgoVerif.Proofs.SyncLifo
import ArgoVerif.Model.MemOwner
import ArgoVerif.Proofs.MemPoolConcX
/-
Props.C15 — descriptors and stacks: exclusive, conserved, any size.

  "Memory handed out for a work unit's descriptor or stack never overlaps that of another live
   work unit, is suitably aligned, and every block is returned exactly once so that ABT_finalize
   releases everything, across any interleaving of creations and frees on any execution streams
   or external threads and any memory-pool configuration.  A ULT may be created with any positive
   stack size or any 8-byte-aligned user-supplied stack, gets at least that much usable stack,
   and can be freed without corrupting the allocator."

Five models carry the statement:
  * Model.MemPool  — the pool allocator (header chains, local pools, global pool);
                     `mempool_*` theorems: all operation sequences, all parameters, all budgets of
                     page allocations (failure injection);
  * Model.StackGeom — where stack and descriptor sit for each provenance; `stack_geom_*`: all sizes,
                     all 8-byte aligned user stacks;
  * Model.SyncLifo — the lock-free LIFO the global pool is built on; `lifo_*`: all interleavings of
                     any number of threads;
  * Model.MemPoolConc — the global pool used by several callers at once (slow paths of take_bucket,
                     return_bucket, the partial bucket, page allocation and its failure) and its
                     tear-down; `mempool_conc_*`, `mempool_destroy_frees_all_pages`: all interleavings
                     of any number of actors at the granularity of the atomic steps;
  * Model.MemOwner — which thread uses which local pool, checked on traces; `local_pool_*`.
Property theorems only; lemmas are in Proofs/.
-/
namespace ArgoVerif.Props.C15
open ArgoVerif ArgoVerif.Model

/-! ## memory pool -/
section MemPool
open ArgoVerif.Model.MemPool

/- Vocabulary (defined in Proofs/MemPool.lean):
  `Place` = `out` (handed out: a live descriptor / stack) | `loc i j` (`buckets[j]` of local pool `i`) |
            `lifo b` (the bucket on the global `bucket_lifo` whose first header is `b`) | `part` (`partial_bucket`);
  `At P s w h`: header `h` is at place `w`, read off the *real* state — chains are followed along `p_next`
            for as many steps as the count stored in the first header says (`per_bucket` steps for a bucket on
            the LIFO, whose count field is overwritten by the LIFO link);
  `ChainOK s b n`: the first `n` headers from `b` exist, are pairwise distinct, and the `n`-th one's `p_next` is NULL. -/

/-- **C15, partition / conservation / returned-once.**  In every state reachable by ANY sequence of
`init_local_pool`, `alloc`, `free` (of a handed-out block), `destroy_local_pool` on any number of
local pools sharing the global pool, with page allocations failing at arbitrary points, for all
parameters the C code accepts:
  1. a header is carved iff it is at some place, and it is at exactly one place — so a block that
     is handed out is in no free chain (it cannot be handed out a second time), a freed block is in
     exactly one chain (returned exactly once), and no carved header is ever lost;
  2. every chain stores its true length, is NULL-terminated and repetition-free: full buckets below
     `bucket_index` and on the LIFO hold `per_bucket` headers, the current bucket between 1 and
     `per_bucket`, the partial bucket between 1 and `per_bucket - 1` (this is where F4 failed);
  3. `bucket_index` stays inside `buckets[]`;
  4. no block is handed out twice at the same time. -/
theorem mempool_partition (P : Params) (hP : P.OK) (budget : Nat) (s : St)
    (hr : (machine P budget).Reachable s) :
    (∀ h, h ∈ s.carved ↔ ∃ w, At P s w h) ∧
    (∀ h w w', At P s w h → At P s w' h → w = w') ∧
    (∀ i lp j, s.lp i = some lp → j ≤ lp.bidx →
        ChainOK s (lp.buckets j) (s.cnt (lp.buckets j)) ∧ 1 ≤ s.cnt (lp.buckets j) ∧
        s.cnt (lp.buckets j) ≤ P.perBucket ∧ (j < lp.bidx → s.cnt (lp.buckets j) = P.perBucket)) ∧
    (∀ b, b ∈ s.lifo → ChainOK s b P.perBucket) ∧ s.lifo.Nodup ∧
    (∀ p, s.part = some p → ChainOK s p (s.cnt p) ∧ 1 ≤ s.cnt p ∧ s.cnt p < P.perBucket) ∧
    (∀ i lp, s.lp i = some lp → lp.bidx < P.maxLocal) ∧
    s.out.Nodup ∧ s.carved.Nodup := by
  have h := reachable_inv hP budget s hr
  refine ⟨?_, ?_, ?_, ?_, h.lifoNd, ?_, h.lpBidx, h.outNd, h.carvedNd⟩
  · intro x
    rw [h.carvedOwn]
    constructor
    · intro hx
      cases ho : s.own x with
      | unused => exact absurd ho hx
      | out => exact ⟨.out, (h.outOwn x).mpr ho⟩
      | loc i j =>
        obtain ⟨lp, h1, _, h3⟩ := h.locOwn x i j ho
        exact ⟨.loc i j, lp, h1, h3, ((h.lpB i lp j h1 (Nat.zero_le _) h3).1.walk.1 x).mpr ho⟩
      | lifo b =>
        have hb := h.lifoOwn x b ho
        exact ⟨.lifo b, hb, ((h.lifoB b hb).walk.1 x).mpr ho⟩
      | part =>
        cases hp : s.part with
        | none => exact absurd ho (h.partOwn hp x)
        | some p => exact ⟨.part, p, hp, ((h.partB p hp).1.walk.1 x).mpr ho⟩
      | tmp => exact absurd ho (h.tmpOwn rfl x)
    · rintro ⟨w, hw⟩ e
      have := at_own h hw
      rw [e] at this; cases this
  · intro x w w' h1 h2
    have a := at_own h h1
    have b := at_own h h2
    rw [a] at b; exact Option.some.inj b
  · intro i lp j h1 h2
    obtain ⟨k1, k2, k3, k4⟩ := h.lpB i lp j h1 (Nat.zero_le _) h2
    exact ⟨k1.walk.2, k2, k3, k4⟩
  · intro b hb; exact (h.lifoB b hb).walk.2
  · intro p hp
    obtain ⟨k1, k2, k3⟩ := h.partB p hp
    exact ⟨k1.walk.2, k2, k3⟩

/-- **C15, no overlap, inside the page.**  Header `(p, off)` occupies bytes `[off, off + header_size)`
of page `p`.  In every reachable state every carved header lies inside the usable part of an
allocated page (below the `ABTI_mem_pool_page` descriptor at the page's end) at a multiple of
`header_size`, and two distinct carved headers of one page are at least `header_size` apart: the
memory of two blocks — handed out or free — never overlaps. -/
theorem mempool_no_overlap (P : Params) (hP : P.OK) (budget : Nat) (s : St)
    (hr : (machine P budget).Reachable s) :
    (∀ x, x ∈ s.carved → x.1 < s.npages ∧ x.2 + P.headerSize ≤ P.pageSize - P.pageStruct ∧ P.headerSize ∣ x.2) ∧
    (∀ x y, x ∈ s.carved → y ∈ s.carved → x ≠ y →
        x.1 ≠ y.1 ∨ x.2 + P.headerSize ≤ y.2 ∨ y.2 + P.headerSize ≤ x.2) := by
  have h := reachable_inv hP budget s hr
  constructor
  · intro x hx
    have hu := (h.carvedOwn x).mp hx
    have h1 := h.geo.pgIn x hu
    have h2 := h.geo.pgSum x.1 h1.1
    exact ⟨h1.1, by omega, h.geo.offDvd x hu⟩
  · intro x y hx hy hne
    by_cases e : x.1 = y.1
    · exact Or.inr (h.geo.sep x y ((h.carvedOwn x).mp hx) ((h.carvedOwn y).mp hy) e hne)
    · exact Or.inl e

/-- the same in address space: if the pages obtained from the OS are pairwise disjoint
(`base p` = address of page `p`, `page_size` bytes each — the `posix_memalign`/`mmap` contract),
the byte ranges of two distinct carved headers are disjoint; and if pages and `header_size` are
64-byte aligned (`ABTU_malloc`ed or `mmap`ed pages; descriptor elements are 128 bytes, stack
elements a multiple of 64) every block is 64-byte aligned. -/
theorem mempool_blocks_disjoint_aligned (P : Params) (hP : P.OK) (budget : Nat) (s : St)
    (hr : (machine P budget).Reachable s) (base : Nat → Nat)
    (hbase : ∀ p q, p ≠ q → base p + P.pageSize ≤ base q ∨ base q + P.pageSize ≤ base p) :
    (∀ x y, x ∈ s.carved → y ∈ s.carved → x ≠ y →
        base x.1 + x.2 + P.headerSize ≤ base y.1 + y.2 ∨ base y.1 + y.2 + P.headerSize ≤ base x.1 + x.2) ∧
    ((∀ p, base p % 64 = 0) → 64 ∣ P.headerSize → ∀ x, x ∈ s.carved → (base x.1 + x.2) % 64 = 0) := by
  obtain ⟨h1, h2⟩ := mempool_no_overlap P hP budget s hr
  constructor
  · intro x y hx hy hne
    have a := h1 x hx
    have b := h1 y hy
    by_cases e : x.1 = y.1
    · have := h2 x y hx hy hne
      rw [e] at this ⊢; omega
    · rcases hbase x.1 y.1 e with k | k <;> omega
  · intro hb hd x hx
    obtain ⟨k, hk⟩ := Nat.dvd_trans hd (h1 x hx).2.2
    have := hb x.1
    omega

/-- **C15, alloc is fresh.**  A block returned by `ABTI_mem_pool_alloc` in any reachable state was
not handed out at that moment (it was in a bucket of the caller's local pool), is a carved header,
and is handed out afterwards; `ABT_ERR_MEM` hands out nothing. -/
theorem mempool_alloc_fresh (P : Params) (hP : P.OK) (budget : Nat) (s s' : St) (i : Nat) (r : Option Hdr)
    (hr : (machine P budget).Reachable s) (hs : stepO P s (.alloc i) = some (s', .mem r)) :
    match r with
    | some c => c ∉ s.out ∧ (∃ j, At P s (.loc i j) c) ∧ c ∈ s.carved ∧ s'.out = c :: s.out
    | none => s'.out = s.out := by
  have h := reachable_inv hP budget s hr
  simp only [stepO, Option.map_eq_some_iff] at hs
  obtain ⟨⟨s1, r1⟩, h1, h2⟩ := hs
  simp only [Prod.mk.injEq, Res.mem.injEq] at h2
  obtain ⟨rfl, rfl⟩ := h2
  cases hlp : s.lp i with
  | none => simp [alloc, hlp] at h1
  | some lp =>
    obtain ⟨r, e, _, h4⟩ := alloc_inv hP h hlp
    cases e.symm.trans h1
    cases r1 with
    | none => exact h4
    | some c =>
      obtain ⟨⟨j, hj⟩, ho⟩ := h4
      simp only
      refine ⟨?_, ?_, ?_, ho⟩
      · intro hm; rw [(h.outOwn c).mp hm] at hj; cases hj
      · obtain ⟨lp', q1, _, q3⟩ := h.locOwn c i j hj
        exact ⟨j, lp', q1, q3, ((h.lpB i lp' j q1 (Nat.zero_le _) q3).1.walk.1 c).mpr hj⟩
      · rw [h.carvedOwn, hj]; simp

/-- **C15, free returns the block, once.**  `free` of a handed-out block removes exactly that block
from the handed-out set and keeps the set of carved headers; by `mempool_partition` the block is
then in exactly one chain. -/
theorem mempool_free_returns (P : Params) (hP : P.OK) (budget : Nat) (s s' : St) (i : Nat) (h : Hdr)
    (hr : (machine P budget).Reachable s) (hs : stepO P s (.free i h) = some (s', .unit)) :
    h ∈ s.out ∧ (∀ x, x ∈ s'.out ↔ x ≠ h ∧ x ∈ s.out) ∧ s'.carved = s.carved := by
  have hi := reachable_inv hP budget s hr
  simp only [stepO, Option.map_eq_some_iff] at hs
  obtain ⟨s1, h1, h2⟩ := hs
  simp only [Prod.mk.injEq, and_true] at h2
  subst h2
  obtain ⟨_, a, b, c⟩ := free_inv hP hi h1
  exact ⟨c, b, a⟩

/-- **The precondition of `free`, stated explicitly.**  `ABTI_mem_pool_free` performs no check; in
the model a `free` of a pointer that is not currently handed out (double free, foreign pointer) is
not a transition.  All theorems above are about callers that respect this. -/
theorem mempool_free_precondition (P : Params) (s : St) (i : Nat) (h : Hdr) (hn : h ∉ s.out) :
    stepO P s (.free i h) = none := by
  simp [stepO, free, hn]

/-- **C15, no assertion fires, no NULL link is followed.**  In every reachable state `alloc` on an
initialised pool and `init_local_pool` on a free slot are defined: `ABTI_ASSERT(num_headers >= 1)`,
`ABTI_ASSERT(num_provided != 0)` hold and `cur_bucket->p_next` is non-NULL whenever it is used. -/
theorem mempool_no_assert (P : Params) (hP : P.OK) (budget : Nat) (s : St) (i : Nat)
    (hr : (machine P budget).Reachable s) :
    (s.lp i ≠ none → ∃ r, stepO P s (.alloc i) = some r) ∧
    (s.lp i = none → ∃ r, stepO P s (.initLocal i) = some r) := by
  have h := reachable_inv hP budget s hr
  constructor
  · intro hne
    cases hlp : s.lp i with
    | none => exact absurd hlp hne
    | some lp =>
      obtain ⟨r, hr', _⟩ := alloc_inv hP h hlp
      exact ⟨(r.1, .mem r.2), by simp [stepO, hr']⟩
  · intro hlp
    obtain ⟨r, hr', _⟩ := initLocal_inv hP h hlp
    exact ⟨(r.1, .ok r.2), by simp [stepO, hr']⟩

/-- **C15, finalize releases everything.**  Once every local pool has been destroyed and nothing
is handed out, every header ever carved is in the global pool (a full bucket on the LIFO or the
partial bucket) and lies in a page the global pool knows; `ABTI_mem_pool_destroy_global_pool`
frees exactly those pages. -/
theorem mempool_destroy_returns_all (P : Params) (hP : P.OK) (budget : Nat) (s : St)
    (hr : (machine P budget).Reachable s) (hlp : ∀ i, s.lp i = none) (hout : s.out = []) :
    ∀ h, h ∈ s.carved → ((∃ b, At P s (.lifo b) h) ∨ At P s .part h) ∧ h.1 < s.npages := by
  obtain ⟨p1, _⟩ := mempool_partition P hP budget s hr
  obtain ⟨g1, _⟩ := mempool_no_overlap P hP budget s hr
  intro h hh
  refine ⟨?_, (g1 h hh).1⟩
  obtain ⟨w, hw⟩ := (p1 h).mp hh
  cases w with
  | out => simp [At, hout] at hw
  | loc i j => obtain ⟨lp, q, _⟩ := hw; rw [hlp i] at q; cases q
  | lifo b => exact Or.inl ⟨b, hw⟩
  | part => exact Or.inr hw

/-- `destroy_local_pool` keeps every handed-out block handed out and every carved header carved,
and empties the slot (so "every local pool destroyed" is reachable from any state) -/
theorem mempool_destroy_local (P : Params) (hP : P.OK) (budget : Nat) (s s' : St) (i : Nat)
    (hr : (machine P budget).Reachable s) (hs : stepO P s (.destroyLocal i) = some (s', .unit)) :
    s'.out = s.out ∧ s'.carved = s.carved ∧ s'.lp i = none ∧ ∀ k, k ≠ i → s'.lp k = s.lp k := by
  have hi := reachable_inv hP budget s hr
  simp only [stepO, Option.map_eq_some_iff] at hs
  obtain ⟨s1, h1, h2⟩ := hs
  simp only [Prod.mk.injEq, and_true] at h2
  subst h2
  exact (destroyLocal_inv hP hi h1).2

/-! non-vacuity: parameters as in the white-box harness (3 headers per bucket, 4 headers per page) -/
private def P0 : Params := ⟨3, 64, 56 + 64 * 4, 56, 2⟩

private def runOps (P : Params) (s : St) : List Op → Option (St × List Res)
  | [] => some (s, [])
  | op :: ops => match stepO P s op with
    | none => none
    | some (s', r) => (runOps P s' ops).map fun x => (x.1, r :: x.2)

example : P0.OK := by decide

/-- a history with two local pools, hand-over of a bucket through the global LIFO, a partial
bucket and a failed page allocation: the results -/
example :
    (runOps P0 (init 100)
      [.initLocal 0, .alloc 0, .alloc 0, .alloc 0, .alloc 0, .initLocal 1, .free 1 (0, 128), .free 1 (0, 64),
       .free 1 (0, 0), .free 1 (1, 64), .destroyLocal 1, .budget 0, .alloc 0, .alloc 0]).map (·.2)
      = some [.ok true, .mem (some (0, 128)), .mem (some (0, 64)), .mem (some (0, 0)), .mem (some (1, 64)), .ok true,
              .unit, .unit, .unit, .unit, .unit, .unit, .mem (some (1, 0)), .mem (some (0, 192))] := by decide

/-- the hypotheses of the theorems are satisfiable on that history: it is a run of the machine -/
example : ∃ s, (machine P0 100).Reachable s ∧ s.lifo.length = 2 ∧ s.part ≠ none ∧ s.out.length = 1 :=
  ⟨_, ⟨[.initLocal 0, .alloc 0, .alloc 0, .alloc 0, .alloc 0, .initLocal 1, .free 1 (0, 128), .free 1 (0, 64),
        .free 1 (0, 0), .free 1 (1, 64), .destroyLocal 1, .budget 0, .alloc 0], rfl⟩, by decide, by decide, by decide⟩

/-- teeth of the precondition: the unchecked C function applied to a block that is *not* handed
out (a double free) makes the pool hand out the same block twice -/
example :
    ((runOps P0 (init 100) [.initLocal 0, .alloc 0, .free 0 (0, 128)]).bind fun r1 =>
      (freeRaw P0 r1.1 0 (0, 128)).bind fun s2 => (runOps P0 s2 [.alloc 0, .alloc 0]).map (·.2))
      = some [.mem (some (0, 128)), .mem (some (0, 128))] := by decide

end MemPool

/-! ## stack and descriptor geometry -/
section StackGeom
open ArgoVerif.Model.StackGeom

/-- **C15, "gets at least that much usable stack".**
(1) Runtime-allocated stack of ANY positive size `S` (`ABT_thread_attr_set_stacksize`, not the default
size): with `p` the 64-byte aligned pointer `ABTU_malloc` returned, the stack region
`[p_stacktop - roundup(S,64), p_stacktop)` starts at `p`, has at least `S` bytes, its top is
16-byte aligned so nothing is lost to the ABI alignment, and it lies — together with the descriptor
placed directly above it — inside the `posix_memalign` block; the recorded `stacksize` is `S` and the
`S` bytes below `p_stacktop` that `ABT_thread_get_attr` reports are inside the block too.
(2) Default size from the stack pool: the pool hands out `q = segment + S`; the stack is the
`S` bytes below `q` and the descriptor the `sizeof(ABTI_ythread)` bytes above, both inside the
pool element of `stackPoolHeaderSize S` bytes.
(3) User-supplied stack `[a, a + S)` with `a` 8-byte aligned and `S ≥ 24`: the runtime cannot give
more than it was given; "at least that much" is read as: the initial stack pointer
`(a + S rounded down to 16) - 8` lies inside `[a, a + S)`, the ULT's frames grow downwards from there
inside the region, and at most 15 bytes at the top are lost to the x86-64 ABI's 16-byte alignment
(none when `a + S` is 16-byte aligned). -/
theorem stack_geom_size :
    (∀ (S p : Int), 0 < S → p % 64 = 0 →
      let y := (allocMallocDescStack p S).1
      let src := (allocMallocDescStack p S).2
      src = .malloc p (roundup S CL + YT) ∧
      y.stacktop - roundup S CL = p ∧ S ≤ roundup S CL ∧ usableTop y.stacktop = y.stacktop ∧
      y.stacksize = S ∧ p ≤ y.stacktop - S ∧
      y.desc = y.stacktop ∧ y.desc + YT ≤ p + mallocBytes (roundup S CL + YT)) ∧
    (∀ (S seg : Int), 0 < S → S % 64 = 0 → seg % 64 = 0 →
      let y := (allocPoolDescStack (seg + S) S).1
      y.stacktop - S = seg ∧ usableTop y.stacktop = y.stacktop ∧ y.stacksize = S ∧
      y.desc = y.stacktop ∧ y.desc + YT ≤ seg + stackPoolHeaderSize S ∧ stackPoolHeaderSize S % 64 = 0) ∧
    (∀ (S a d : Int), 24 ≤ S → a % 8 = 0 → a ≠ 0 →
      let y := (allocPoolDesc d a S).1
      y.stacktop = a + S ∧ y.stacksize = S ∧
      a ≤ initialRsp y.stacktop ∧ initialRsp y.stacktop + 8 ≤ a + S ∧
      y.stacktop - usableTop y.stacktop ≤ 15 ∧ usableTop y.stacktop ≤ a + S ∧
      ((a + S) % 16 = 0 → usableTop y.stacktop = a + S) ∧ (initialRsp y.stacktop + 8) % 16 = 0) := by
  refine ⟨?_, ?_, ?_⟩
  · intro S p hS hp
    have r := roundup64 S
    have r2 := roundup64 (roundup S CL + 128)
    simp only [allocMallocDescStack, ctxInit, usableTop, mallocBytes, YT_eq]
    and_intros <;> first | trivial | omega
  · intro S seg hS hS64 hseg
    have r := stackPoolHeaderSize_spec S
    simp only [allocPoolDescStack, ctxInit, usableTop, YT_eq] at r ⊢
    exact ⟨by omega, by omega, trivial, trivial, by omega, r.2⟩
  · intro S a d hS ha hne
    have u := usableTop_spec (a + S)
    have i := initialRsp_spec (a + S)
    simp only [allocPoolDesc, ctxInit, hne, if_false]
    refine ⟨trivial, trivial, by omega, i.2.1, u.2.1, u.1, ?_, i.2.2.2⟩
    intro h16; simp only [usableTop]; omega

/-- **C15, free is the inverse of allocation — for EVERY size (F1).**  Whatever attribute
`ythread_create` is given (no attribute, any stack size `S` — not only multiples of 64 —, any user
stack), on an execution stream or on an external thread, `ABTI_mem_free_thread` hands back to the
same allocator exactly the pointer that allocator returned: `free()` gets the `posix_memalign`
pointer, `ABTI_mem_pool_free` gets the pool element. -/
theorem stack_geom_free_inverse (attr : Option (Int × Int)) (defS : Int) (onES : Bool) (ptr : Int) :
    (freeThread (create attr defS onES ptr).1).matches (create attr defS onES ptr).2 := by
  unfold create
  cases attr with
  | none => cases onES <;> simp [allocPoolDescStack, allocMallocDescStack, ctxInit, freeThread, Release.matches]
  | some as =>
    obtain ⟨a, S⟩ := as
    simp only
    split
    · split
      · cases onES <;> simp [allocPoolDescStack, allocMallocDescStack, ctxInit, freeThread, Release.matches]
      · split
        · simp [allocMallocDescStack, ctxInit, freeThread, Release.matches]
        · cases onES <;> simp [allocPoolDesc, allocMallocDesc, ctxInit, freeThread, Release.matches]
    · cases onES <;> simp [allocPoolDesc, allocMallocDesc, ctxInit, freeThread, Release.matches]

/-- the statement has teeth: the formula before the repair (`p_stacktop - stacksize`) returns the
allocator's pointer iff the size is a multiple of 64 … -/
theorem stack_geom_old_formula_wrong (S p : Int) :
    (freeThreadOld (allocMallocDescStack p S).1).matches (allocMallocDescStack p S).2 ↔ S % 64 = 0 := by
  have := roundup64_fix_iff S
  simp only [allocMallocDescStack, ctxInit, freeThreadOld, Release.matches]
  constructor
  · intro h; apply this.mp; omega
  · intro h; have := this.mpr h; omega

/-- … e.g. for 16400 bytes it passes `p + 48` to `free()` (`free(): invalid pointer`) -/
example : freeThreadOld (allocMallocDescStack 0 16400).1 = .free 48 := by decide
example : freeThread (allocMallocDescStack 0 16400).1 = .free 0 := by decide
example : (create (some (0, 16400)) 16384 true 0).1.type = .mallocDescStack := by decide

/-- **C15, stack and descriptor of one unit do not overlap, units do not overlap each other.**
For a runtime-allocated ULT the stack `[p, p + roundup S)` and the descriptor
`[p + roundup S, p + roundup S + sizeof(ABTI_ythread))` are disjoint parts of its block
`[p, p + mallocBytes(..))`; hence two units whose blocks are disjoint (allocator contract;
for pool elements `mempool_blocks_disjoint_aligned`) have disjoint stacks and descriptors.
Same for pool elements of `stackPoolHeaderSize S` bytes. -/
theorem stack_geom_disjoint (S1 p1 S2 p2 : Int) (h1 : 0 < S1) (h2 : 0 < S2)
    (hblocks : p1 + mallocBytes (roundup S1 CL + YT) ≤ p2 ∨ p2 + mallocBytes (roundup S2 CL + YT) ≤ p1) :
    let y1 := (allocMallocDescStack p1 S1).1
    let y2 := (allocMallocDescStack p2 S2).1
    -- inside one unit: stack below descriptor
    y1.stacktop ≤ y1.desc ∧
    -- across units: [p, desc + YT) ranges are disjoint
    (y1.desc + YT ≤ p2 ∨ y2.desc + YT ≤ p1) ∧
    -- pool elements: stack + descriptor fit into the element
    (∀ S seg : Int, 0 < S → seg + S + YT ≤ seg + stackPoolHeaderSize S) := by
  have a := roundup64 S1
  have b := roundup64 S2
  have c := roundup64 (roundup S1 CL + YT)
  have d := roundup64 (roundup S2 CL + YT)
  simp only [allocMallocDescStack, ctxInit, mallocBytes, YT_eq] at *
  refine ⟨by omega, by omega, ?_⟩
  intro S seg hS
  have r := stackPoolHeaderSize_spec S
  rw [YT_eq] at r
  omega

/-- **C15, "suitably aligned".**  The descriptor of a runtime-allocated ULT is 64-byte aligned for
every stack size (so are its `p_stacktop` — 16-byte alignment is what the ABI needs — and the
stack base); a descriptor `ABTU_malloc`ed on an external thread is 64-byte aligned; pool elements
are 64-byte aligned by `mempool_blocks_disjoint_aligned`, and with them the default-size stack top
`segment + S` (`S % 64 = 0` is asserted by `ABTI_mem_init`). -/
theorem stack_geom_align (S p : Int) (hp : p % 64 = 0) :
    (allocMallocDescStack p S).1.desc % 64 = 0 ∧ (allocMallocDescStack p S).1.stacktop % 16 = 0 ∧
    (∀ a S', (allocMallocDesc p a S').1.desc % 64 = 0) ∧
    (∀ seg Sd : Int, seg % 64 = 0 → Sd % 64 = 0 → (allocPoolDescStack (seg + Sd) Sd).1.desc % 64 = 0) := by
  have r := roundup64 S
  simp only [allocMallocDescStack, allocMallocDesc, allocPoolDescStack, ctxInit]
  refine ⟨by omega, by omega, fun _ _ => hp, fun seg Sd h1 h2 => by omega⟩

/-- non-vacuity: the three provenances on concrete numbers -/
example : (allocMallocDescStack 4096 20000).1 = ⟨4096 + 20032, 4096 + 20032, 20000, .mallocDescStack⟩ := by decide
example : initialRsp (1000008 + 16385) = 1016376 ∧ 1000008 ≤ (1016376 : Int) := by decide
example : stackPoolHeaderSize 16384 = 16576 := by decide

end StackGeom

/-! ## the lock-free LIFO under the global pool -/
section SyncLifo
open ArgoVerif.Model.SyncLifo

/-- **C15, the global pool's LIFO is linearizable** (128-bit-CAS branch of `abti_sync_lifo.h`, the one
this build compiles).  For EVERY finite execution of any number of threads interleaved at the
granularity of the atomic primitives (load of `(top, tag)`, store of `p_elem->p_next`, read of
`cur_top->p_next`, weak CAS that may fail spuriously), including owners overwriting the link field of
elements they have popped (the memory pool does: `num_headers` shares storage with the link) and
pushing them again: the sequence of linearization points (successful CAS of a push / of a pop, a
pop's load of NULL — each a step of the calling thread between its call and its return) is a legal
history of a sequential stack with exactly the responses the implementation returned, and the chain
from `p_top` is that stack.  This is what justifies `List` for `bucket_lifo` / `mem_page_lifo` in
Model.MemPool. -/
theorem lifo_linearizable {tr : List Ev} {s : SyncLifo.St} (h : Star Step SyncLifo.init tr s) :
    Spec.run [] (lin tr) = some s.stk ∧ SyncLifo.Seg s.next s.top s.stk none ∧ s.log = lin tr :=
  SyncLifo.lifo_linearizable h

/-- **C15, no ABA.**  If thread `t` loads `(top, tag)` (event `ld`) and its next CAS succeeds (event
`cas`, with no other load by `t` in between), then no successful update of the LIFO by anybody
happened in between — although the *pointer* may well have been popped and pushed back meanwhile,
the tag, which every successful update increments, cannot recur.  Assumption: the tag does not wrap
(`size_t`, 2^64 successful operations between one thread's load and its CAS). -/
theorem lifo_no_aba {tr1 tr2 : List Ev} {ld cas : Ev} {t : Tid} {s0 s : SyncLifo.St}
    (h : Star Step s0 (tr1 ++ [ld] ++ tr2 ++ [cas]) s)
    (hld : ld.isLoadOf t = true) (hcas : cas.isCasOkOf t = true)
    (hlast : ∀ ev ∈ tr2, ev.isLoadOf t = false) :
    ∀ ev ∈ tr2, ev.isUpdate = false :=
  SyncLifo.lifo_no_aba h hld hcas hlast

/-- what a successful CAS therefore knows: the values it read are still current — for a pop, `cur_top`
is still the top of the stack and the `p_next` it read is still the link to the rest of the stack
(nobody scribbled over it: a linked element has no owner) -/
theorem lifo_cas_sees_current {tr : List Ev} {s : SyncLifo.St} (h : Star Step SyncLifo.init tr s) :
    (∀ t e ct cg, s.pc t = .pushStored e ct cg → s.tag = cg →
        s.top = ct ∧ s.next e = ct ∧ e ∉ s.stk ∧ SyncLifo.Seg s.next (s.next e) s.stk none) ∧
    (∀ t c cg n, s.pc t = .popRead c cg n → s.tag = cg →
        s.top = some c ∧ s.next c = n ∧ ∃ rest, s.stk = c :: rest ∧ SyncLifo.Seg s.next n rest none) :=
  SyncLifo.lifo_cas_sees_current h

/-- the tag counts the successful updates -/
theorem lifo_tag_counts {tr : List Ev} {s : SyncLifo.St} (h : Star Step SyncLifo.init tr s) :
    s.tag = tr.countP Ev.isUpdate :=
  SyncLifo.lifo_tag_counts h

/-- the model is of the branch this build compiles: `ABTD_ATOMIC_SUPPORT_TAGGED_PTR` is 1 -/
example : Gen.Consts.taggedPtrCas = 1 := by decide

/-- non-vacuity and teeth: the classic A-B-A interleaving is a behaviour of the model up to the
stale CAS, which is then disabled; with a pointer-only CAS the same trace is accepted and leaves a
corrupted stack (examples in Proofs/SyncLifo.lean, re-checked here) -/
example : machine.run SyncLifo.init (abaTrace ++ [.popCasOk 1 10]) = none := by decide
example : (machine.run SyncLifo.init abaTrace).isSome = true := by decide
example : (machineNoTag.run SyncLifo.init (abaTrace ++ [.popCasOk 1 10])).isSome = true := by decide

end SyncLifo

/-! ## who may use a local pool (the atomicity assumption of Model.MemPool, checked on traces) -/
section MemOwner
open ArgoVerif.Model.MemOwner

/-- the discipline on one reported use -/
def useOk : MemOwner.Ev → Prop
  | .use x b alive => b = some x ∨ alive = false
  | .useExt locked => locked = true

/-- **C15, exclusive use of a local pool.**  In every trace accepted by Model.MemOwner (T3 validates every
controlled-scheduler trace of the work-unit scenarios: joins and frees by ULTs that block inside `ABT_thread_free` and
come back on another execution stream, migration, stream creation and join), each alloc/free on the local pool of
stream `x` is performed by the thread running as `x`, or while no thread runs as `x`; the external pools are used under
their lock.  Hence operations on one local pool never overlap and the atomic steps of Model.MemPool
(`mempool_no_overlap`, `mempool_alloc_fresh`) describe the C code. -/
theorem local_pool_used_by_owner (tr : List MemOwner.Ev) (s s' : MemOwner.St)
    (h : MemOwner.machine.run s tr = some s') : ∀ ev ∈ tr, useOk ev := by
  induction tr generalizing s with
  | nil => nofun
  | cons e es ih =>
    simp only [Machine.run] at h
    cases hst : MemOwner.machine.step s e with
    | none => simp [hst] at h
    | some s1 =>
      rw [hst] at h
      refine List.forall_mem_cons.mpr ⟨?_, ih s1 h⟩
      -- the step function accepts an event only under the discipline
      cases e with
      | use x b alive =>
        simp only [MemOwner.machine, MemOwner.step] at hst
        split at hst
        · exact .inl ‹_›
        · split at hst
          · exact .inr ‹_›
          · cases hst
      | useExt l => cases l <;> simp_all [MemOwner.machine, MemOwner.step, useOk]

/-- two uses of the same local pool while its stream's thread is alive come from that one thread -/
theorem local_pool_single_user (tr : List MemOwner.Ev) (s s' : MemOwner.St)
    (h : MemOwner.machine.run s tr = some s') (x : MemOwner.ES) (b1 b2 : Option MemOwner.ES)
    (h1 : MemOwner.Ev.use x b1 true ∈ tr) (h2 : MemOwner.Ev.use x b2 true ∈ tr) : b1 = b2 := by
  have a1 := local_pool_used_by_owner tr s s' h _ h1
  have a2 := local_pool_used_by_owner tr s s' h _ h2
  simp only [useOk] at a1 a2
  cases a1 with
  | inl e1 => cases a2 with
    | inl e2 => rw [e1, e2]
    | inr e2 => cases e2
  | inr e1 => cases e1

/-- non-vacuity: the creator of stream 1 (running as 0) allocates stream 1's root ULT from stream 1's pool before its
thread exists, stream 1 then uses its own pool; a free into stream 0's pool by a thread that has moved to stream 1 (the
stale-handle pattern) is rejected -/
example : (MemOwner.machine.run MemOwner.init [.use 1 (some 0) false, .use 1 (some 1) true, .useExt true]).isSome = true := by decide
example : MemOwner.machine.run MemOwner.init [.use 0 (some 0) true, .use 0 (some 1) true] = none := by decide

end MemOwner

/-! ## the global pool under concurrent callers, and its tear-down -/
section MemPoolConc
open ArgoVerif.Model.MemPoolConc

/- Vocabulary (Model/MemPoolConc.lean, Proofs/MemPoolConc*.lean): a run is `Star (Step P) init tr s` — any number of
actors, each inside `init_local_pool / alloc / free / destroy_local_pool`, interleaved at every atomic step of
`ABTI_mem_pool_take_bucket` (pop of `bucket_lifo`; pop of `mem_page_lifo`; `ABTU_alloc_largepage` succeeding or failing;
carving and the push of the page back on `mem_page_lifo` or on the empty-page list), `ABTI_mem_pool_return_bucket`,
`mem_pool_return_partial_bucket` (lock, push of a completed bucket, unlock), followed by
`ABTI_mem_pool_destroy_global_pool`.  `Carved s h`: `p_mem_extra` of `h`'s page has moved past `h`. -/

/- `CPlace` / `CAt s w h` (where a carved header is: a bucket on `bucket_lifo`, `partial_bucket`, the local pool of an
actor, in flight inside a call of an actor, handed out) and `GPlace` / `PgAt s w p` (where a page is: `mem_page_lifo`, the
empty-page list, held by a caller, released) are read off the real state, not the ghost fields
(Proofs/MemPoolConcX.lean). -/

/-- **C15, concurrent partition.**  In every state reachable by ANY interleaving of any number of callers inside the
global pool's take / return / partial-bucket / page-allocation paths (allocation may fail at any call):
  1. a header is carved iff it is at some place — a bucket on `bucket_lifo`, `partial_bucket`, a local pool, in flight
     inside exactly one caller, or handed out — and it is at exactly one place: two callers that are in the slow path of
     `take_bucket` at the same time never obtain the same header, a block handed out is in no free chain, nothing carved
     is ever lost; a header that is not carved is the not-yet-used part of its own page only (ids are `(page, slot)`);
  2. no place holds a header twice;
  3. every carved header lies inside its page (`slot < slots`), so blocks of one page do not overlap
     (`mempool_no_overlap` gives the byte-level statement for the same carving arithmetic). -/
theorem mempool_conc_partition (P : MemPoolConc.Params) (hP : P.OK) {tr : List MemPoolConc.Ev} {s : MemPoolConc.St}
    (hr : Star (MemPoolConc.Step P) MemPoolConc.init tr s) :
    (∀ h, Carved s h ↔ ∃ w, CAt s w h) ∧
    (∀ h w w', CAt s w h → CAt s w' h → w = w') ∧
    (s.bucketLifo.flatten.Nodup ∧ s.part.Nodup ∧ s.out.Nodup ∧
      (∀ a l, s.loc a = some l → (l.full.flatten ++ l.cur).Nodup) ∧ ∀ a, (heldHdrs (s.pc a)).Nodup) ∧
    (∀ h, Carved s h → h.2 < P.slots) := by
  have hi := inv_star P hP hr (inv_init P hP)
  refine ⟨(cat_partition hi.h).1, (cat_partition hi.h).2, ⟨hi.h.lifoNd, hi.h.partNd, hi.h.outNd, fun a l hl => ?_, hi.h.heldNd⟩,
    fun h hc => Nat.lt_of_lt_of_le hc.2 (hi.p.usedLe h.1)⟩
  have := hi.h.locNd a
  rwa [hl] at this

/-- **C15, pages.**  In every reachable state every page obtained from `ABTU_alloc_largepage` (ids `0 .. npages-1`,
pairwise distinct by the allocator's contract) is at exactly one place: on `mem_page_lifo` *with room for at least one
more header*, on the empty-page list *completely carved*, popped / freshly allocated and held by exactly one caller
(which is what lets it update `p_mem_extra` with plain stores), or released by the tear-down; no list holds a page twice.
`mem_page_lifo` may hold ANY number of pages (see the two-caller example below). -/
theorem mempool_conc_pages (P : MemPoolConc.Params) (hP : P.OK) {tr : List MemPoolConc.Ev} {s : MemPoolConc.St}
    (hr : Star (MemPoolConc.Step P) MemPoolConc.init tr s) :
    (∀ p, p < s.npages ↔ ∃ w, PgAt s w p) ∧
    (∀ p w w', PgAt s w p → PgAt s w' p → w = w') ∧
    (s.pageLifo.Nodup ∧ s.emptyPages.Nodup ∧ s.released.Nodup) ∧
    (∀ p, p ∈ s.pageLifo → s.used p < P.slots) ∧ (∀ p, p ∈ s.emptyPages → s.used p = P.slots) ∧
    (∀ a p, heldPage (s.pc a) = some p → s.used p < P.slots) := by
  have hi := inv_star P hP hr (inv_init P hP)
  exact ⟨(pgat_partition hi.p).1, (pgat_partition hi.p).2, ⟨hi.p.lifoNd, hi.p.emptyNd, hi.p.relNd⟩,
    fun p hp => hi.p.lifoRoom p ((hi.p.lifo p).mp hp), fun p hp => hi.p.emptyFull p ((hi.p.empty p).mp hp),
    fun a p hp => hi.p.heldRoom a p ((hi.p.held a p).mp hp)⟩

/-- **C15, concurrent take / return neither loses nor duplicates a header.**  Along any
continuation of any run, a header that is carved stays carved and is again at exactly one place (`CAt`), whatever the
other callers did in between — in particular across two overlapping slow paths of `take_bucket`, across a bucket
completed from `partial_bucket` while others push and pop `bucket_lifo`, and across failed page allocations that hand
their partly built bucket to `partial_bucket`. -/
theorem mempool_conc_conserved (P : MemPoolConc.Params) (hP : P.OK) {tr tr' : List MemPoolConc.Ev} {s s' : MemPoolConc.St}
    (hr : Star (MemPoolConc.Step P) MemPoolConc.init tr s) (hr' : Star (MemPoolConc.Step P) s tr' s') (h : MemPoolConc.Hdr)
    (hc : Carved s h) :
    Carved s' h ∧ ∃ w, CAt s' w h ∧ ∀ w', CAt s' w' h → w' = w := by
  have hi' := inv_star P hP hr' (inv_star P hP hr (inv_init P hP))
  have hc' := carved_mono_star P hr' h hc
  obtain ⟨w, hw⟩ := ((cat_partition hi'.h).1 h).mp hc'
  exact ⟨hc', w, hw, fun w' hw' => (cat_partition hi'.h).2 h w' w hw' hw⟩

/-- the premise of tear-down, and what it leaves behind at every moment: `destroy_global_pool` runs only when every
actor is outside the pool and has no local pool; while it runs, a page is either still on one of the two lists or
released — never both, never twice -/
theorem mempool_destroy_progress (P : MemPoolConc.Params) (hP : P.OK) {tr : List MemPoolConc.Ev} {s : MemPoolConc.St}
    (hr : Star (MemPoolConc.Step P) MemPoolConc.init tr s) (hd : s.phase ≠ .live) :
    (∀ a, s.pc a = .idle ∧ s.loc a = none) ∧
    (∀ p, p < s.npages → (p ∈ s.pageLifo ∨ p ∈ s.emptyPages ∨ p ∈ s.released)) ∧
    (∀ p, p ∈ s.released → p ∉ s.pageLifo ∧ p ∉ s.emptyPages) := by
  have hi := inv_star P hP hr (inv_init P hP)
  have hidle := hi.d.idle hd
  obtain ⟨q1, q2⟩ := pgat_partition hi.p
  refine ⟨fun a => ⟨hidle a, hi.d.noLoc hd a⟩, fun p hp => ?_, fun p hp => ⟨fun h1 => ?_, fun h1 => ?_⟩⟩
  · obtain ⟨w, hw⟩ := (q1 p).mp hp
    cases w with
    | lifo => exact Or.inl hw
    | empty => exact Or.inr (Or.inl hw)
    | held a => simp [PgAt, hidle a, heldPage] at hw
    | released => exact Or.inr (Or.inr hw)
  · have := q2 p .released .lifo hp h1; cases this
  · have := q2 p .released .empty hp h1; cases this

/-- **C15, tear-down releases every page exactly once.**  Once
`ABTI_mem_pool_destroy_global_pool` has returned (it may only be called when every local pool has been destroyed and
nobody is inside the pool), every page ever obtained from `ABTU_alloc_largepage` has been given to
`ABTU_free_largepage` exactly once — however many pages `mem_page_lifo` held when tear-down began — and nothing else
was released; if in addition every block was returned, every header ever carved sits in the global pool
(`bucket_lifo` or `partial_bucket`), i.e. inside released pages only. -/
theorem mempool_destroy_frees_all_pages (P : MemPoolConc.Params) (hP : P.OK) {tr : List MemPoolConc.Ev} {s : MemPoolConc.St}
    (hr : Star (MemPoolConc.Step P) MemPoolConc.init tr s) (hd : s.phase = .dead) :
    (∀ p, p ∈ s.released ↔ p < s.npages) ∧ s.released.Nodup ∧ s.released.length = s.npages ∧
    s.pageLifo = [] ∧ s.emptyPages = [] ∧ (∀ a, s.pc a = .idle ∧ s.loc a = none) ∧
    (s.out = [] → ∀ h, Carved s h → CAt s .lifo h ∨ CAt s .part h) := by
  have hi := inv_star P hP hr (inv_init P hP)
  obtain ⟨hidle, hpg, _⟩ := mempool_destroy_progress P hP hr (by rw [hd]; simp)
  have hl := hi.d.walkLifo (Or.inr hd)
  have he := hi.d.deadEmpty hd
  have hmem : ∀ p, p ∈ s.released ↔ p < s.npages := fun p =>
    ⟨fun hp => ((pgat_partition hi.p).1 p).mpr ⟨.released, hp⟩, fun hp => by simpa [hl, he] using hpg p hp⟩
  refine ⟨hmem, hi.p.relNd, ?_, hl, he, hidle, fun hout h hc => ?_⟩
  · have hperm : s.released.Perm (List.range s.npages) :=
      (List.perm_ext_iff_of_nodup hi.p.relNd List.nodup_range).mpr (fun p => by rw [hmem p, List.mem_range])
    rw [hperm.length_eq, List.length_range]
  · obtain ⟨w, hw⟩ := ((cat_partition hi.h).1 h).mp hc
    cases w with
    | lifo => exact Or.inl hw
    | part => exact Or.inr hw
    | loc a => obtain ⟨l, hl', _⟩ := hw; rw [(hidle a).2] at hl'; cases hl'
    | held a => simp only [CAt, (hidle a).1] at hw; knorm at hw
    | out => simp [CAt, hout] at hw

/-- **C15, no assertion fires in the concurrent slow path.**  Whoever holds a page (popped from `mem_page_lifo` or fresh)
can carve at least one header from it: `ABTI_ASSERT(num_provided != 0)` holds in every interleaving (a page on
`mem_page_lifo` always has room; the loop runs only while the bucket is incomplete); and the spinlock of
`partial_bucket` is held by exactly the one actor that is inside its critical section. -/
theorem mempool_conc_no_assert (P : MemPoolConc.Params) (hP : P.OK) {tr : List MemPoolConc.Ev} {s : MemPoolConc.St}
    (hr : Star (MemPoolConc.Step P) MemPoolConc.init tr s) :
    (∀ a pu acc p, s.pc a = .havePage pu acc p → numProvided P s p acc ≠ 0 ∧ s.used p + numProvided P s p acc ≤ P.slots ∧
        (numProvided P s p acc + acc.length ≤ P.perBucket)) ∧
    (∀ a, inCS (s.pc a) = true ↔ s.partLock = some a) ∧
    (∀ a a', inCS (s.pc a) = true → inCS (s.pc a') = true → a = a') := by
  have hi := inv_star P hP hr (inv_init P hP)
  refine ⟨fun a pu acc p hpc => ?_, hi.d.lock, fun a a' h1 h2 => ?_⟩
  · have h1 := hi.p.heldRoom a p ((hi.p.held a p).mp (by rw [hpc]; rfl))
    have h2 := hi.z.pc a
    rw [hpc] at h2
    simp only [pcSizes] at h2
    simp only [numProvided]
    omega
  · have := (hi.d.lock a).mp h1
    have := (hi.d.lock a').mp h2
    simp_all

/-- every trace the executable model (`driver mempoolconc`, which validates the controlled-scheduler traces of
`harness/sc_mempool.c`) accepts is a run of the relational system, so the theorems above apply to it -/
theorem mempool_conc_exec_sound (P : MemPoolConc.Params) (hP : P.OK) (tr : List MemPoolConc.Ev) (s : MemPoolConc.St)
    (h : (MemPoolConc.machine P).run MemPoolConc.init tr = some s) : Star (MemPoolConc.Step P) MemPoolConc.init tr s :=
  run_star P hP tr _ _ (inv_init P hP) h

/-! non-vacuity: 2 headers per bucket, 3 headers per page (as small as the white-box scenario's settings) -/
private def PC : MemPoolConc.Params := ⟨2, 3, 2⟩
example : PC.OK := ⟨by decide, by decide, by decide⟩

/-- two callers in the slow path of `take_bucket` at the same time: both find `bucket_lifo` and `mem_page_lifo` empty,
both allocate a page, both push the rest of their page — `mem_page_lifo` ends up with TWO pages -/
private def twoPages : List MemPoolConc.Ev :=
  [.callInit 0, .popBucket 0 none, .popPage 0 none, .callInit 1, .popBucket 1 none, .popPage 1 none,
   .allocPage 0 true, .allocPage 1 true, .pushPage 0 0, .pushPage 1 1, .retInit 0 true, .retInit 1 true]

example : ((MemPoolConc.machine PC).run MemPoolConc.init twoPages).map (fun s => (s.pageLifo, s.npages, s.emptyPages))
    = some ([1, 0], 2, []) := by decide

/-- the complete tear-down after that run: both local pools destroyed, then `destroy_global_pool` pops BOTH pages -/
private def tearDown : List MemPoolConc.Ev :=
  [.callDestroy 0, .pushBucket 0 (some (0, 1)), .retDestroy 0, .callDestroy 1, .pushBucket 1 (some (1, 1)), .retDestroy 1,
   .destroyStart, .relLifo 1, .relLifo 0, .lifoEmpty, .destroyEnd]

example : ((MemPoolConc.machine PC).run MemPoolConc.init (twoPages ++ tearDown)).map
    (fun s => (s.released, s.npages, decide (s.phase = .dead))) = some ([0, 1], 2, true) := by decide

/-- the hypotheses of `mempool_destroy_frees_all_pages` are satisfiable: that trace is a run ending in `dead` -/
example : ∃ s, Star (MemPoolConc.Step PC) MemPoolConc.init (twoPages ++ tearDown) s ∧ s.phase = .dead := by
  have h : ∃ s, (MemPoolConc.machine PC).run MemPoolConc.init (twoPages ++ tearDown) = some s ∧ s.phase = .dead := by
    cases hr : (MemPoolConc.machine PC).run MemPoolConc.init (twoPages ++ tearDown) with
    | none => exact absurd hr (by decide)
    | some s =>
      refine ⟨s, rfl, ?_⟩
      have : ((MemPoolConc.machine PC).run MemPoolConc.init (twoPages ++ tearDown)).map (fun s => decide (s.phase = .dead))
          = some true := by decide
      rw [hr] at this
      simpa using this
  obtain ⟨s, h1, h2⟩ := h
  exact ⟨s, mempool_conc_exec_sound PC ⟨by decide, by decide, by decide⟩ _ _ h1, h2⟩

/-- teeth: a tear-down that pops only ONE page of `mem_page_lifo` and goes on to the empty-page list is not a run — the
model refuses `lifoEmpty` while a page is still on the LIFO (this is the behaviour of a `destroy_global_pool` whose
`while` became an `if`) … -/
example : (MemPoolConc.machine PC).run MemPoolConc.init
    (twoPages ++ [.callDestroy 0, .pushBucket 0 (some (0, 1)), .retDestroy 0, .callDestroy 1, .pushBucket 1 (some (1, 1)),
      .retDestroy 1, .destroyStart, .relLifo 1, .lifoEmpty]) = none := by decide

/-- … and right before that step the ledger is not balanced: page 0 is obtained, not released, still on the LIFO -/
example : ((MemPoolConc.machine PC).run MemPoolConc.init
    (twoPages ++ [.callDestroy 0, .pushBucket 0 (some (0, 1)), .retDestroy 0, .callDestroy 1, .pushBucket 1 (some (1, 1)),
      .retDestroy 1, .destroyStart, .relLifo 1])).map (fun s => (s.released, s.pageLifo, s.npages)) = some ([1], [0], 2) := by
  decide

/-- a failed page allocation in the middle of a bucket hands the carved headers to `partial_bucket`; another caller's
remainder completes a bucket under the lock -/
example : ((MemPoolConc.machine ⟨3, 2, 2⟩).run MemPoolConc.init
    [.callInit 0, .popBucket 0 none, .popPage 0 none, .allocPage 0 true, .pushEmpty 0 0, .popPage 0 none,
     .allocPage 0 false, .lockPart 0, .unlockPart 0, .retInit 0 false,
     .callInit 1, .popBucket 1 none, .popPage 1 none, .allocPage 1 true, .pushEmpty 1 1, .popPage 1 none,
     .allocPage 1 false, .lockPart 1, .pushBucket 1 (some (0, 1)), .unlockPart 1, .retInit 1 false]).map
    (fun s => (s.bucketLifo, s.part, s.emptyPages)) = some ([[(0, 1), (1, 1), (1, 0)]], [(0, 0)], [1, 0]) := by decide

end MemPoolConc

end ArgoVerif.Props.C15
