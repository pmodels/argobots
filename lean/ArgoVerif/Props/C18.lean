import ArgoVerif.Proofs.LedgerRuns
import ArgoVerif.Proofs.LedgerRuns2
/-
Props.C18 — a failed allocation fails cleanly.

Every theorem is about a program of `Gen.Ladders`, i.e. about the text that tools/laddergen.py
produced from the *current* C source of the routine (no ladder is copied by hand anywhere), executed
by the interpreter `Model.Ledger.exec` under an arbitrary `Oracle`:
  * `o.failAt = some k`: the k-th fallible acquisition executed by the routine fails — **every k**,
    including k beyond the last acquisition (then nothing fails and the success clauses apply);
  * `o.env`: every valuation of the conditions the ledger does not interpret (arguments, configuration,
    `pools[p] == ABT_POOL_NULL`, which `switch` case, …);
  * `o.param`: the loop bound (`num_pools`) — only up to 2 for the four routines with a loop, which is
    why those theorems are called `…_partial` (missing: induction over the number of pools); the one other
    `…_partial` theorem, for `ythread_create_with_sched`, is partial in the check it states (see there).
Four statements per routine:
  `ledger_fail_balanced_R`            an injected failure ends with an error code and with the multiset of live
                                      resources equal to the one on entry (no leak), without double release or
                                      release of a never-assigned pointer;
  `ledger_success_exact_R`            without failure: success leaves exactly one of the documented resource
                                      multisets, an error return (argument check, user callback) leaves nothing;
  `ledger_handle_null_or_untouched_R` on error every output handle is untouched or NULL, on success it designates a
                                      live resource;
  `ledger_preexisting_untouched_R`    no resource that existed before the call is released, and fields of
                                      pre-existing objects written by the routine (`p_sched->used`) have their old
                                      value again when an error is returned.
Callees enter through the summaries of tools/laddergen.py CALLEES ("fails ⇒ ledger unchanged, succeeds ⇒ adds
exactly one resource of kind K"); for callees that are translated themselves the summary is the conjunction of
their own four theorems below, the remaining ones are assumptions cross-checked by the fault enumeration.
-/
namespace ArgoVerif.Props.C18
open ArgoVerif.Model.Ledger ArgoVerif.Gen.Ladders ArgoVerif.Proofs.LedgerRuns


/-- **C18 / no leak, error code** for the FAILED ladder of `xstream_create` (stream.c): `init_stage` rungs for rank slot, local memory pools, root ULT, root pool, main-scheduler ULT and OS thread context. -/
theorem ledger_fail_balanced_xstream_create (o : Oracle) :
    failBalanced (exec xstream_create 400 o) = true :=
  (Checks.of_runs runs_xstream_create.1 rfl o).fail

/-- **C18 / exact success** for the FAILED ladder of `xstream_create` (stream.c): `init_stage` rungs for rank slot, local memory pools, root ULT, root pool, main-scheduler ULT and OS thread context. -/
theorem ledger_success_exact_xstream_create (o : Oracle) :
    successExact allowed_xstream_create (exec xstream_create 400 o) = true :=
  (Checks.of_runs runs_xstream_create.1 rfl o).success

/-- **C18 / no dangling handle** for the FAILED ladder of `xstream_create` (stream.c): `init_stage` rungs for rank slot, local memory pools, root ULT, root pool, main-scheduler ULT and OS thread context. -/
theorem ledger_handle_null_or_untouched_xstream_create (o : Oracle) :
    handleOk xstream_create (exec xstream_create 400 o) = true :=
  (Checks.of_runs runs_xstream_create.1 rfl o).handle

/-- **C18 / pre-existing objects untouched** for the FAILED ladder of `xstream_create` (stream.c): `init_stage` rungs for rank slot, local memory pools, root ULT, root pool, main-scheduler ULT and OS thread context. -/
theorem ledger_preexisting_untouched_xstream_create (o : Oracle) :
    preUntouched xstream_create (exec xstream_create 400 o) = true :=
  (Checks.of_runs runs_xstream_create.1 rfl o).pre

example : 0 < injectedRuns xstream_create 400 0 := nonvacuous_xstream_create

/-- **C18 / no leak, error code** for `ABT_xstream_create(ABT_SCHED_NULL, …)`: the default scheduler created for the stream is freed again when `xstream_create` fails. -/
theorem ledger_fail_balanced_ABT_xstream_create (o : Oracle) :
    failBalanced (exec ABT_xstream_create 400 o) = true :=
  (Checks.of_runs runs_ABT_xstream_create.1 rfl o).fail

/-- **C18 / exact success** for `ABT_xstream_create(ABT_SCHED_NULL, …)`: the default scheduler created for the stream is freed again when `xstream_create` fails. -/
theorem ledger_success_exact_ABT_xstream_create (o : Oracle) :
    successExact allowed_ABT_xstream_create (exec ABT_xstream_create 400 o) = true :=
  (Checks.of_runs runs_ABT_xstream_create.1 rfl o).success

/-- **C18 / no dangling handle** for `ABT_xstream_create(ABT_SCHED_NULL, …)`: the default scheduler created for the stream is freed again when `xstream_create` fails. -/
theorem ledger_handle_null_or_untouched_ABT_xstream_create (o : Oracle) :
    handleOk ABT_xstream_create (exec ABT_xstream_create 400 o) = true :=
  (Checks.of_runs runs_ABT_xstream_create.1 rfl o).handle

/-- **C18 / pre-existing objects untouched** for `ABT_xstream_create(ABT_SCHED_NULL, …)`: the default scheduler created for the stream is freed again when `xstream_create` fails. -/
theorem ledger_preexisting_untouched_ABT_xstream_create (o : Oracle) :
    preUntouched ABT_xstream_create (exec ABT_xstream_create 400 o) = true :=
  (Checks.of_runs runs_ABT_xstream_create.1 rfl o).pre

example : 0 < injectedRuns ABT_xstream_create 400 0 := nonvacuous_ABT_xstream_create

/-- **C18 / no leak, error code** for `ABT_xstream_create(sched, …)` with a caller-owned scheduler: the scheduler is neither freed nor left marked as used. -/
theorem ledger_fail_balanced_ABT_xstream_create_given (o : Oracle) :
    failBalanced (exec ABT_xstream_create_given 400 o) = true :=
  (Checks.of_runs runs_ABT_xstream_create_given.1 rfl o).fail

/-- **C18 / exact success** for `ABT_xstream_create(sched, …)` with a caller-owned scheduler: the scheduler is neither freed nor left marked as used. -/
theorem ledger_success_exact_ABT_xstream_create_given (o : Oracle) :
    successExact allowed_ABT_xstream_create_given (exec ABT_xstream_create_given 400 o) = true :=
  (Checks.of_runs runs_ABT_xstream_create_given.1 rfl o).success

/-- **C18 / no dangling handle** for `ABT_xstream_create(sched, …)` with a caller-owned scheduler: the scheduler is neither freed nor left marked as used. -/
theorem ledger_handle_null_or_untouched_ABT_xstream_create_given (o : Oracle) :
    handleOk ABT_xstream_create_given (exec ABT_xstream_create_given 400 o) = true :=
  (Checks.of_runs runs_ABT_xstream_create_given.1 rfl o).handle

/-- **C18 / pre-existing objects untouched** for `ABT_xstream_create(sched, …)` with a caller-owned scheduler: the scheduler is neither freed nor left marked as used. -/
theorem ledger_preexisting_untouched_ABT_xstream_create_given (o : Oracle) :
    preUntouched ABT_xstream_create_given (exec ABT_xstream_create_given 400 o) = true :=
  (Checks.of_runs runs_ABT_xstream_create_given.1 rfl o).pre

example : 0 < injectedRuns ABT_xstream_create_given 400 0 := nonvacuous_ABT_xstream_create_given

/-- **C18 / no leak, error code** for `ABT_xstream_create_with_rank(ABT_SCHED_NULL, rank, …)`. -/
theorem ledger_fail_balanced_ABT_xstream_create_with_rank (o : Oracle) :
    failBalanced (exec ABT_xstream_create_with_rank 400 o) = true :=
  (Checks.of_runs runs_ABT_xstream_create_with_rank.1 rfl o).fail

/-- **C18 / exact success** for `ABT_xstream_create_with_rank(ABT_SCHED_NULL, rank, …)`. -/
theorem ledger_success_exact_ABT_xstream_create_with_rank (o : Oracle) :
    successExact allowed_ABT_xstream_create_with_rank (exec ABT_xstream_create_with_rank 400 o) = true :=
  (Checks.of_runs runs_ABT_xstream_create_with_rank.1 rfl o).success

/-- **C18 / no dangling handle** for `ABT_xstream_create_with_rank(ABT_SCHED_NULL, rank, …)`. -/
theorem ledger_handle_null_or_untouched_ABT_xstream_create_with_rank (o : Oracle) :
    handleOk ABT_xstream_create_with_rank (exec ABT_xstream_create_with_rank 400 o) = true :=
  (Checks.of_runs runs_ABT_xstream_create_with_rank.1 rfl o).handle

/-- **C18 / pre-existing objects untouched** for `ABT_xstream_create_with_rank(ABT_SCHED_NULL, rank, …)`. -/
theorem ledger_preexisting_untouched_ABT_xstream_create_with_rank (o : Oracle) :
    preUntouched ABT_xstream_create_with_rank (exec ABT_xstream_create_with_rank 400 o) = true :=
  (Checks.of_runs runs_ABT_xstream_create_with_rank.1 rfl o).pre

example : 0 < injectedRuns ABT_xstream_create_with_rank 400 0 := nonvacuous_ABT_xstream_create_with_rank

/-- **C18 / no leak, error code** for `ABT_xstream_create_with_rank(sched, rank, …)` with a caller-owned scheduler. -/
theorem ledger_fail_balanced_ABT_xstream_create_with_rank_given (o : Oracle) :
    failBalanced (exec ABT_xstream_create_with_rank_given 400 o) = true :=
  (Checks.of_runs runs_ABT_xstream_create_with_rank_given.1 rfl o).fail

/-- **C18 / exact success** for `ABT_xstream_create_with_rank(sched, rank, …)` with a caller-owned scheduler. -/
theorem ledger_success_exact_ABT_xstream_create_with_rank_given (o : Oracle) :
    successExact allowed_ABT_xstream_create_with_rank_given (exec ABT_xstream_create_with_rank_given 400 o) = true :=
  (Checks.of_runs runs_ABT_xstream_create_with_rank_given.1 rfl o).success

/-- **C18 / no dangling handle** for `ABT_xstream_create_with_rank(sched, rank, …)` with a caller-owned scheduler. -/
theorem ledger_handle_null_or_untouched_ABT_xstream_create_with_rank_given (o : Oracle) :
    handleOk ABT_xstream_create_with_rank_given (exec ABT_xstream_create_with_rank_given 400 o) = true :=
  (Checks.of_runs runs_ABT_xstream_create_with_rank_given.1 rfl o).handle

/-- **C18 / pre-existing objects untouched** for `ABT_xstream_create_with_rank(sched, rank, …)` with a caller-owned scheduler. -/
theorem ledger_preexisting_untouched_ABT_xstream_create_with_rank_given (o : Oracle) :
    preUntouched ABT_xstream_create_with_rank_given (exec ABT_xstream_create_with_rank_given 400 o) = true :=
  (Checks.of_runs runs_ABT_xstream_create_with_rank_given.1 rfl o).pre

example : 0 < injectedRuns ABT_xstream_create_with_rank_given 400 0 := nonvacuous_ABT_xstream_create_with_rank_given

/-- **C18 / no leak, error code** for `ABT_xstream_create_basic`: scheduler built from the pool list, released pool by pool when the stream cannot be created (`num_pools ≤ 2`; missing for the full statement: induction over the loop). -/
theorem ledger_fail_balanced_ABT_xstream_create_basic_partial (o : Oracle) (hb : o.param ≤ 2) :
    failBalanced (exec ABT_xstream_create_basic 600 o) = true :=
  (Checks.of_runs_upTo runs_ABT_xstream_create_basic.1 o hb).fail

/-- **C18 / exact success** for `ABT_xstream_create_basic`: scheduler built from the pool list, released pool by pool when the stream cannot be created (`num_pools ≤ 2`; missing for the full statement: induction over the loop). -/
theorem ledger_success_exact_ABT_xstream_create_basic_partial (o : Oracle) (hb : o.param ≤ 2) :
    successExact allowed_ABT_xstream_create_basic (exec ABT_xstream_create_basic 600 o) = true :=
  (Checks.of_runs_upTo runs_ABT_xstream_create_basic.1 o hb).success

/-- **C18 / no dangling handle** for `ABT_xstream_create_basic`: scheduler built from the pool list, released pool by pool when the stream cannot be created (`num_pools ≤ 2`; missing for the full statement: induction over the loop). -/
theorem ledger_handle_null_or_untouched_ABT_xstream_create_basic_partial (o : Oracle) (hb : o.param ≤ 2) :
    handleOk ABT_xstream_create_basic (exec ABT_xstream_create_basic 600 o) = true :=
  (Checks.of_runs_upTo runs_ABT_xstream_create_basic.1 o hb).handle

/-- **C18 / pre-existing objects untouched** for `ABT_xstream_create_basic`: scheduler built from the pool list, released pool by pool when the stream cannot be created (`num_pools ≤ 2`; missing for the full statement: induction over the loop). -/
theorem ledger_preexisting_untouched_ABT_xstream_create_basic_partial (o : Oracle) (hb : o.param ≤ 2) :
    preUntouched ABT_xstream_create_basic (exec ABT_xstream_create_basic 600 o) = true :=
  (Checks.of_runs_upTo runs_ABT_xstream_create_basic.1 o hb).pre

example : 0 < injectedRuns ABT_xstream_create_basic 600 2 := nonvacuous_ABT_xstream_create_basic

/-- **C18 / no leak, error code** for `ABTI_xstream_create_primary` (called by `ABT_init`). -/
theorem ledger_fail_balanced_ABTI_xstream_create_primary (o : Oracle) :
    failBalanced (exec ABTI_xstream_create_primary 400 o) = true :=
  (Checks.of_runs runs_ABTI_xstream_create_primary.1 rfl o).fail

/-- **C18 / exact success** for `ABTI_xstream_create_primary` (called by `ABT_init`). -/
theorem ledger_success_exact_ABTI_xstream_create_primary (o : Oracle) :
    successExact allowed_ABTI_xstream_create_primary (exec ABTI_xstream_create_primary 400 o) = true :=
  (Checks.of_runs runs_ABTI_xstream_create_primary.1 rfl o).success

/-- **C18 / no dangling handle** for `ABTI_xstream_create_primary` (called by `ABT_init`). -/
theorem ledger_handle_null_or_untouched_ABTI_xstream_create_primary (o : Oracle) :
    handleOk ABTI_xstream_create_primary (exec ABTI_xstream_create_primary 400 o) = true :=
  (Checks.of_runs runs_ABTI_xstream_create_primary.1 rfl o).handle

/-- **C18 / pre-existing objects untouched** for `ABTI_xstream_create_primary` (called by `ABT_init`). -/
theorem ledger_preexisting_untouched_ABTI_xstream_create_primary (o : Oracle) :
    preUntouched ABTI_xstream_create_primary (exec ABTI_xstream_create_primary 400 o) = true :=
  (Checks.of_runs runs_ABTI_xstream_create_primary.1 rfl o).pre

example : 0 < injectedRuns ABTI_xstream_create_primary 400 0 := nonvacuous_ABTI_xstream_create_primary

/-- **C18 / no leak, error code** for the FAILED ladder of `init_library` (global.c), i.e. `ABT_init` itself: global descriptor, global memory pools, primary stream, primary ULT. -/
theorem ledger_fail_balanced_init_library (o : Oracle) :
    failBalanced (exec init_library 400 o) = true :=
  (Checks.of_runs runs_init_library.1 rfl o).fail

/-- **C18 / exact success** for the FAILED ladder of `init_library` (global.c), i.e. `ABT_init` itself: global descriptor, global memory pools, primary stream, primary ULT. -/
theorem ledger_success_exact_init_library (o : Oracle) :
    successExact allowed_init_library (exec init_library 400 o) = true :=
  (Checks.of_runs runs_init_library.1 rfl o).success

/-- **C18 / no dangling handle** for the FAILED ladder of `init_library` (global.c), i.e. `ABT_init` itself: global descriptor, global memory pools, primary stream, primary ULT. -/
theorem ledger_handle_null_or_untouched_init_library (o : Oracle) :
    handleOk init_library (exec init_library 400 o) = true :=
  (Checks.of_runs runs_init_library.1 rfl o).handle

/-- **C18 / pre-existing objects untouched** for the FAILED ladder of `init_library` (global.c), i.e. `ABT_init` itself: global descriptor, global memory pools, primary stream, primary ULT. -/
theorem ledger_preexisting_untouched_init_library (o : Oracle) :
    preUntouched init_library (exec init_library 400 o) = true :=
  (Checks.of_runs runs_init_library.1 rfl o).pre

example : 0 < injectedRuns init_library 400 0 := nonvacuous_init_library

/-- **C18 / no leak, error code** for `ABTD_xstream_context_create` (arch/abtd_stream.c): pthread mutex, condition variable and thread with its own `init_stage` ladder. -/
theorem ledger_fail_balanced_ABTD_xstream_context_create (o : Oracle) :
    failBalanced (exec ABTD_xstream_context_create 400 o) = true :=
  (Checks.of_runs runs_ABTD_xstream_context_create.1 rfl o).fail

/-- **C18 / exact success** for `ABTD_xstream_context_create` (arch/abtd_stream.c): pthread mutex, condition variable and thread with its own `init_stage` ladder. -/
theorem ledger_success_exact_ABTD_xstream_context_create (o : Oracle) :
    successExact allowed_ABTD_xstream_context_create (exec ABTD_xstream_context_create 400 o) = true :=
  (Checks.of_runs runs_ABTD_xstream_context_create.1 rfl o).success

/-- **C18 / no dangling handle** for `ABTD_xstream_context_create` (arch/abtd_stream.c): pthread mutex, condition variable and thread with its own `init_stage` ladder. -/
theorem ledger_handle_null_or_untouched_ABTD_xstream_context_create (o : Oracle) :
    handleOk ABTD_xstream_context_create (exec ABTD_xstream_context_create 400 o) = true :=
  (Checks.of_runs runs_ABTD_xstream_context_create.1 rfl o).handle

/-- **C18 / pre-existing objects untouched** for `ABTD_xstream_context_create` (arch/abtd_stream.c): pthread mutex, condition variable and thread with its own `init_stage` ladder. -/
theorem ledger_preexisting_untouched_ABTD_xstream_context_create (o : Oracle) :
    preUntouched ABTD_xstream_context_create (exec ABTD_xstream_context_create 400 o) = true :=
  (Checks.of_runs runs_ABTD_xstream_context_create.1 rfl o).pre

example : 0 < injectedRuns ABTD_xstream_context_create 400 0 := nonvacuous_ABTD_xstream_context_create

/-- **C18 / no leak, error code** for `ABTI_mem_init_local`: the stack pool is destroyed again when the descriptor pool cannot be set up. -/
theorem ledger_fail_balanced_ABTI_mem_init_local (o : Oracle) :
    failBalanced (exec ABTI_mem_init_local 400 o) = true :=
  (Checks.of_runs runs_ABTI_mem_init_local.1 rfl o).fail

/-- **C18 / exact success** for `ABTI_mem_init_local`: the stack pool is destroyed again when the descriptor pool cannot be set up. -/
theorem ledger_success_exact_ABTI_mem_init_local (o : Oracle) :
    successExact allowed_ABTI_mem_init_local (exec ABTI_mem_init_local 400 o) = true :=
  (Checks.of_runs runs_ABTI_mem_init_local.1 rfl o).success

/-- **C18 / no dangling handle** for `ABTI_mem_init_local`: the stack pool is destroyed again when the descriptor pool cannot be set up. -/
theorem ledger_handle_null_or_untouched_ABTI_mem_init_local (o : Oracle) :
    handleOk ABTI_mem_init_local (exec ABTI_mem_init_local 400 o) = true :=
  (Checks.of_runs runs_ABTI_mem_init_local.1 rfl o).handle

/-- **C18 / pre-existing objects untouched** for `ABTI_mem_init_local`: the stack pool is destroyed again when the descriptor pool cannot be set up. -/
theorem ledger_preexisting_untouched_ABTI_mem_init_local (o : Oracle) :
    preUntouched ABTI_mem_init_local (exec ABTI_mem_init_local 400 o) = true :=
  (Checks.of_runs runs_ABTI_mem_init_local.1 rfl o).pre

example : 0 < injectedRuns ABTI_mem_init_local 400 0 := nonvacuous_ABTI_mem_init_local

/-- **C18 / no leak, error code** for `ABTI_mem_init`: both external-thread local pools on top of the two global pools. -/
theorem ledger_fail_balanced_ABTI_mem_init (o : Oracle) :
    failBalanced (exec ABTI_mem_init 400 o) = true :=
  (Checks.of_runs runs_ABTI_mem_init.1 rfl o).fail

/-- **C18 / exact success** for `ABTI_mem_init`: both external-thread local pools on top of the two global pools. -/
theorem ledger_success_exact_ABTI_mem_init (o : Oracle) :
    successExact allowed_ABTI_mem_init (exec ABTI_mem_init 400 o) = true :=
  (Checks.of_runs runs_ABTI_mem_init.1 rfl o).success

/-- **C18 / no dangling handle** for `ABTI_mem_init`: both external-thread local pools on top of the two global pools. -/
theorem ledger_handle_null_or_untouched_ABTI_mem_init (o : Oracle) :
    handleOk ABTI_mem_init (exec ABTI_mem_init 400 o) = true :=
  (Checks.of_runs runs_ABTI_mem_init.1 rfl o).handle

/-- **C18 / pre-existing objects untouched** for `ABTI_mem_init`: both external-thread local pools on top of the two global pools. -/
theorem ledger_preexisting_untouched_ABTI_mem_init (o : Oracle) :
    preUntouched ABTI_mem_init (exec ABTI_mem_init 400 o) = true :=
  (Checks.of_runs runs_ABTI_mem_init.1 rfl o).pre

example : 0 < injectedRuns ABTI_mem_init 400 0 := nonvacuous_ABTI_mem_init

/-- **C18 / no leak, error code** for `ythread_create` (thread.c) without stackable scheduler: four stack provenances, optional migration data and key table, unit creation. -/
theorem ledger_fail_balanced_ythread_create (o : Oracle) :
    failBalanced (exec ythread_create 400 o) = true :=
  (Checks.of_runs runs_ythread_create.1 rfl o).fail

/-- **C18 / exact success** for `ythread_create` (thread.c) without stackable scheduler: four stack provenances, optional migration data and key table, unit creation. -/
theorem ledger_success_exact_ythread_create (o : Oracle) :
    successExact allowed_ythread_create (exec ythread_create 400 o) = true :=
  (Checks.of_runs runs_ythread_create.1 rfl o).success

/-- **C18 / no dangling handle** for `ythread_create` (thread.c) without stackable scheduler: four stack provenances, optional migration data and key table, unit creation. -/
theorem ledger_handle_null_or_untouched_ythread_create (o : Oracle) :
    handleOk ythread_create (exec ythread_create 400 o) = true :=
  (Checks.of_runs runs_ythread_create.1 rfl o).handle

/-- **C18 / pre-existing objects untouched** for `ythread_create` (thread.c) without stackable scheduler: four stack provenances, optional migration data and key table, unit creation. -/
theorem ledger_preexisting_untouched_ythread_create (o : Oracle) :
    preUntouched ythread_create (exec ythread_create 400 o) = true :=
  (Checks.of_runs runs_ythread_create.1 rfl o).pre

example : 0 < injectedRuns ythread_create 400 0 := nonvacuous_ythread_create

/-- **C18 / no leak, error code** for `ythread_create` for a stackable scheduler (`ABT_pool_add_sched`): additionally registers the scheduler under `g_thread_sched_key`. -/
theorem ledger_fail_balanced_ythread_create_with_sched (o : Oracle) :
    failBalanced (exec ythread_create_with_sched 400 o) = true :=
  (Checks.of_runs runs_ythread_create_with_sched.1 rfl o).fail

/-- **C18 / exact success** for `ythread_create` for a stackable scheduler (`ABT_pool_add_sched`): additionally registers the scheduler under `g_thread_sched_key`. -/
theorem ledger_success_exact_ythread_create_with_sched (o : Oracle) :
    successExact allowed_ythread_create_with_sched (exec ythread_create_with_sched 400 o) = true :=
  (Checks.of_runs runs_ythread_create_with_sched.1 rfl o).success

/-- **C18 / no dangling handle** for `ythread_create` for a stackable scheduler (`ABT_pool_add_sched`): additionally registers the scheduler under `g_thread_sched_key`. -/
theorem ledger_handle_null_or_untouched_ythread_create_with_sched (o : Oracle) :
    handleOk ythread_create_with_sched (exec ythread_create_with_sched 400 o) = true :=
  (Checks.of_runs runs_ythread_create_with_sched.1 rfl o).handle

/-- **C18 / pre-existing objects untouched, PARTIAL** for `ythread_create` for a stackable scheduler (`ABT_pool_add_sched`): additionally registers the scheduler under `g_thread_sched_key`: holds for every run except those in which an error occurs after a key-table entry has been registered.  What is missing is exactly finding C18-A (the failure branch calls `ABTI_ktable_free`, whose destructor for `g_thread_sched_key` frees the caller's automatic scheduler); the full statement is `Props/C18Strict.lean`. -/
theorem ledger_preexisting_untouched_ythread_create_with_sched_partial (o : Oracle) :
    preUntouchedBeforeKey (exec ythread_create_with_sched 400 o) = true :=
  (Checks.of_runs runs_ythread_create_with_sched.1 rfl o).pre

example : 0 < injectedRuns ythread_create_with_sched 400 0 := nonvacuous_ythread_create_with_sched

/-- **C18 / no leak, error code** for `task_create` (task.c). -/
theorem ledger_fail_balanced_task_create (o : Oracle) :
    failBalanced (exec task_create 400 o) = true :=
  (Checks.of_runs runs_task_create.1 rfl o).fail

/-- **C18 / exact success** for `task_create` (task.c). -/
theorem ledger_success_exact_task_create (o : Oracle) :
    successExact allowed_task_create (exec task_create 400 o) = true :=
  (Checks.of_runs runs_task_create.1 rfl o).success

/-- **C18 / no dangling handle** for `task_create` (task.c). -/
theorem ledger_handle_null_or_untouched_task_create (o : Oracle) :
    handleOk task_create (exec task_create 400 o) = true :=
  (Checks.of_runs runs_task_create.1 rfl o).handle

/-- **C18 / pre-existing objects untouched** for `task_create` (task.c). -/
theorem ledger_preexisting_untouched_task_create (o : Oracle) :
    preUntouched task_create (exec task_create 400 o) = true :=
  (Checks.of_runs runs_task_create.1 rfl o).pre

example : 0 < injectedRuns task_create 400 0 := nonvacuous_task_create

/-- **C18 / no leak, error code** for `ABTI_thread_get_mig_data`: migration data of an existing unit, created on first use — up to an EMPTY lazily created key table that stays attached to the pre-existing unit (freed with the unit, reused by the retry). -/
theorem ledger_fail_balanced_ABTI_thread_get_mig_data (o : Oracle) :
    failBalancedUpTo [K_lazy_ktable] (exec ABTI_thread_get_mig_data 400 o) = true :=
  (Checks.of_runs runs_ABTI_thread_get_mig_data.1 rfl o).fail

/-- **C18 / exact success** for `ABTI_thread_get_mig_data`: migration data of an existing unit, created on first use. -/
theorem ledger_success_exact_ABTI_thread_get_mig_data (o : Oracle) :
    successExact allowed_ABTI_thread_get_mig_data (exec ABTI_thread_get_mig_data 400 o) = true :=
  (Checks.of_runs runs_ABTI_thread_get_mig_data.1 rfl o).success

/-- **C18 / no dangling handle** for `ABTI_thread_get_mig_data`: migration data of an existing unit, created on first use. -/
theorem ledger_handle_null_or_untouched_ABTI_thread_get_mig_data (o : Oracle) :
    handleOk ABTI_thread_get_mig_data (exec ABTI_thread_get_mig_data 400 o) = true :=
  (Checks.of_runs runs_ABTI_thread_get_mig_data.1 rfl o).handle

/-- **C18 / pre-existing objects untouched** for `ABTI_thread_get_mig_data`: migration data of an existing unit, created on first use. -/
theorem ledger_preexisting_untouched_ABTI_thread_get_mig_data (o : Oracle) :
    preUntouched ABTI_thread_get_mig_data (exec ABTI_thread_get_mig_data 400 o) = true :=
  (Checks.of_runs runs_ABTI_thread_get_mig_data.1 rfl o).pre

example : 0 < injectedRuns ABTI_thread_get_mig_data 400 0 := nonvacuous_ABTI_thread_get_mig_data

/-- **C18 / no leak, error code** for `ABTI_ythread_create_root`. -/
theorem ledger_fail_balanced_ABTI_ythread_create_root (o : Oracle) :
    failBalanced (exec ABTI_ythread_create_root 400 o) = true :=
  (Checks.of_runs runs_ABTI_ythread_create_root.1 rfl o).fail

/-- **C18 / exact success** for `ABTI_ythread_create_root`. -/
theorem ledger_success_exact_ABTI_ythread_create_root (o : Oracle) :
    successExact allowed_ABTI_ythread_create_root (exec ABTI_ythread_create_root 400 o) = true :=
  (Checks.of_runs runs_ABTI_ythread_create_root.1 rfl o).success

/-- **C18 / no dangling handle** for `ABTI_ythread_create_root`. -/
theorem ledger_handle_null_or_untouched_ABTI_ythread_create_root (o : Oracle) :
    handleOk ABTI_ythread_create_root (exec ABTI_ythread_create_root 400 o) = true :=
  (Checks.of_runs runs_ABTI_ythread_create_root.1 rfl o).handle

/-- **C18 / pre-existing objects untouched** for `ABTI_ythread_create_root`. -/
theorem ledger_preexisting_untouched_ABTI_ythread_create_root (o : Oracle) :
    preUntouched ABTI_ythread_create_root (exec ABTI_ythread_create_root 400 o) = true :=
  (Checks.of_runs runs_ABTI_ythread_create_root.1 rfl o).pre

example : 0 < injectedRuns ABTI_ythread_create_root 400 0 := nonvacuous_ABTI_ythread_create_root

/-- **C18 / no leak, error code** for `ABTI_ythread_create_main_sched`. -/
theorem ledger_fail_balanced_ABTI_ythread_create_main_sched (o : Oracle) :
    failBalanced (exec ABTI_ythread_create_main_sched 400 o) = true :=
  (Checks.of_runs runs_ABTI_ythread_create_main_sched.1 rfl o).fail

/-- **C18 / exact success** for `ABTI_ythread_create_main_sched`. -/
theorem ledger_success_exact_ABTI_ythread_create_main_sched (o : Oracle) :
    successExact allowed_ABTI_ythread_create_main_sched (exec ABTI_ythread_create_main_sched 400 o) = true :=
  (Checks.of_runs runs_ABTI_ythread_create_main_sched.1 rfl o).success

/-- **C18 / no dangling handle** for `ABTI_ythread_create_main_sched`. -/
theorem ledger_handle_null_or_untouched_ABTI_ythread_create_main_sched (o : Oracle) :
    handleOk ABTI_ythread_create_main_sched (exec ABTI_ythread_create_main_sched 400 o) = true :=
  (Checks.of_runs runs_ABTI_ythread_create_main_sched.1 rfl o).handle

/-- **C18 / pre-existing objects untouched** for `ABTI_ythread_create_main_sched`. -/
theorem ledger_preexisting_untouched_ABTI_ythread_create_main_sched (o : Oracle) :
    preUntouched ABTI_ythread_create_main_sched (exec ABTI_ythread_create_main_sched 400 o) = true :=
  (Checks.of_runs runs_ABTI_ythread_create_main_sched.1 rfl o).pre

example : 0 < injectedRuns ABTI_ythread_create_main_sched 400 0 := nonvacuous_ABTI_ythread_create_main_sched

/-- **C18 / no leak, error code** for `ABTI_ythread_create_sched`. -/
theorem ledger_fail_balanced_ABTI_ythread_create_sched (o : Oracle) :
    failBalanced (exec ABTI_ythread_create_sched 400 o) = true :=
  (Checks.of_runs runs_ABTI_ythread_create_sched.1 rfl o).fail

/-- **C18 / exact success** for `ABTI_ythread_create_sched`. -/
theorem ledger_success_exact_ABTI_ythread_create_sched (o : Oracle) :
    successExact allowed_ABTI_ythread_create_sched (exec ABTI_ythread_create_sched 400 o) = true :=
  (Checks.of_runs runs_ABTI_ythread_create_sched.1 rfl o).success

/-- **C18 / no dangling handle** for `ABTI_ythread_create_sched`. -/
theorem ledger_handle_null_or_untouched_ABTI_ythread_create_sched (o : Oracle) :
    handleOk ABTI_ythread_create_sched (exec ABTI_ythread_create_sched 400 o) = true :=
  (Checks.of_runs runs_ABTI_ythread_create_sched.1 rfl o).handle

/-- **C18 / pre-existing objects untouched** for `ABTI_ythread_create_sched`. -/
theorem ledger_preexisting_untouched_ABTI_ythread_create_sched (o : Oracle) :
    preUntouched ABTI_ythread_create_sched (exec ABTI_ythread_create_sched 400 o) = true :=
  (Checks.of_runs runs_ABTI_ythread_create_sched.1 rfl o).pre

example : 0 < injectedRuns ABTI_ythread_create_sched 400 0 := nonvacuous_ABTI_ythread_create_sched

/-- **C18 / no leak, error code** for `sched_create` (sched/sched.c): scheduler descriptor, pool list, automatically created pools, references on user pools, user `init` (`num_pools ≤ 2`; missing for the full statement: induction over the loop). -/
theorem ledger_fail_balanced_sched_create_partial (o : Oracle) (hb : o.param ≤ 2) :
    failBalanced (exec sched_create 600 o) = true :=
  (Checks.of_runs_upTo runs_sched_create.1 o hb).fail

/-- **C18 / exact success** for `sched_create` (sched/sched.c): scheduler descriptor, pool list, automatically created pools, references on user pools, user `init` (`num_pools ≤ 2`; missing for the full statement: induction over the loop). -/
theorem ledger_success_exact_sched_create_partial (o : Oracle) (hb : o.param ≤ 2) :
    successExact allowed_sched_create (exec sched_create 600 o) = true :=
  (Checks.of_runs_upTo runs_sched_create.1 o hb).success

/-- **C18 / no dangling handle** for `sched_create` (sched/sched.c): scheduler descriptor, pool list, automatically created pools, references on user pools, user `init` (`num_pools ≤ 2`; missing for the full statement: induction over the loop). -/
theorem ledger_handle_null_or_untouched_sched_create_partial (o : Oracle) (hb : o.param ≤ 2) :
    handleOk sched_create (exec sched_create 600 o) = true :=
  (Checks.of_runs_upTo runs_sched_create.1 o hb).handle

/-- **C18 / pre-existing objects untouched** for `sched_create` (sched/sched.c): scheduler descriptor, pool list, automatically created pools, references on user pools, user `init` (`num_pools ≤ 2`; missing for the full statement: induction over the loop). -/
theorem ledger_preexisting_untouched_sched_create_partial (o : Oracle) (hb : o.param ≤ 2) :
    preUntouched sched_create (exec sched_create 600 o) = true :=
  (Checks.of_runs_upTo runs_sched_create.1 o hb).pre

example : 0 < injectedRuns sched_create 600 2 := nonvacuous_sched_create

/-- **C18 / no leak, error code** for `ABTI_sched_create_basic`: temporary pool list, pools created for `ABT_POOL_NULL` entries, predefined scheduler (`num_pools ≤ 2`; missing for the full statement: induction over the loop). -/
theorem ledger_fail_balanced_ABTI_sched_create_basic_partial (o : Oracle) (hb : o.param ≤ 2) :
    failBalanced (exec ABTI_sched_create_basic 600 o) = true :=
  (Checks.of_runs_upTo runs_ABTI_sched_create_basic.1 o hb).fail

/-- **C18 / exact success** for `ABTI_sched_create_basic`: temporary pool list, pools created for `ABT_POOL_NULL` entries, predefined scheduler (`num_pools ≤ 2`; missing for the full statement: induction over the loop). -/
theorem ledger_success_exact_ABTI_sched_create_basic_partial (o : Oracle) (hb : o.param ≤ 2) :
    successExact allowed_ABTI_sched_create_basic (exec ABTI_sched_create_basic 600 o) = true :=
  (Checks.of_runs_upTo runs_ABTI_sched_create_basic.1 o hb).success

/-- **C18 / no dangling handle** for `ABTI_sched_create_basic`: temporary pool list, pools created for `ABT_POOL_NULL` entries, predefined scheduler (`num_pools ≤ 2`; missing for the full statement: induction over the loop). -/
theorem ledger_handle_null_or_untouched_ABTI_sched_create_basic_partial (o : Oracle) (hb : o.param ≤ 2) :
    handleOk ABTI_sched_create_basic (exec ABTI_sched_create_basic 600 o) = true :=
  (Checks.of_runs_upTo runs_ABTI_sched_create_basic.1 o hb).handle

/-- **C18 / pre-existing objects untouched** for `ABTI_sched_create_basic`: temporary pool list, pools created for `ABT_POOL_NULL` entries, predefined scheduler (`num_pools ≤ 2`; missing for the full statement: induction over the loop). -/
theorem ledger_preexisting_untouched_ABTI_sched_create_basic_partial (o : Oracle) (hb : o.param ≤ 2) :
    preUntouched ABTI_sched_create_basic (exec ABTI_sched_create_basic 600 o) = true :=
  (Checks.of_runs_upTo runs_ABTI_sched_create_basic.1 o hb).pre

example : 0 < injectedRuns ABTI_sched_create_basic 600 2 := nonvacuous_ABTI_sched_create_basic

/-- **C18 / no leak, error code** for `pool_create` (pool/pool.c): descriptor plus the pool's own `p_init`. -/
theorem ledger_fail_balanced_pool_create (o : Oracle) :
    failBalanced (exec pool_create 400 o) = true :=
  (Checks.of_runs runs_pool_create.1 rfl o).fail

/-- **C18 / exact success** for `pool_create` (pool/pool.c): descriptor plus the pool's own `p_init`. -/
theorem ledger_success_exact_pool_create (o : Oracle) :
    successExact allowed_pool_create (exec pool_create 400 o) = true :=
  (Checks.of_runs runs_pool_create.1 rfl o).success

/-- **C18 / no dangling handle** for `pool_create` (pool/pool.c): descriptor plus the pool's own `p_init`. -/
theorem ledger_handle_null_or_untouched_pool_create (o : Oracle) :
    handleOk pool_create (exec pool_create 400 o) = true :=
  (Checks.of_runs runs_pool_create.1 rfl o).handle

/-- **C18 / pre-existing objects untouched** for `pool_create` (pool/pool.c): descriptor plus the pool's own `p_init`. -/
theorem ledger_preexisting_untouched_pool_create (o : Oracle) :
    preUntouched pool_create (exec pool_create 400 o) = true :=
  (Checks.of_runs runs_pool_create.1 rfl o).pre

example : 0 < injectedRuns pool_create 400 0 := nonvacuous_pool_create

/-- **C18 / no leak, error code** for `ABT_pool_create`. -/
theorem ledger_fail_balanced_ABT_pool_create (o : Oracle) :
    failBalanced (exec ABT_pool_create 400 o) = true :=
  (Checks.of_runs runs_ABT_pool_create.1 rfl o).fail

/-- **C18 / exact success** for `ABT_pool_create`. -/
theorem ledger_success_exact_ABT_pool_create (o : Oracle) :
    successExact allowed_ABT_pool_create (exec ABT_pool_create 400 o) = true :=
  (Checks.of_runs runs_ABT_pool_create.1 rfl o).success

/-- **C18 / no dangling handle** for `ABT_pool_create`. -/
theorem ledger_handle_null_or_untouched_ABT_pool_create (o : Oracle) :
    handleOk ABT_pool_create (exec ABT_pool_create 400 o) = true :=
  (Checks.of_runs runs_ABT_pool_create.1 rfl o).handle

/-- **C18 / pre-existing objects untouched** for `ABT_pool_create`. -/
theorem ledger_preexisting_untouched_ABT_pool_create (o : Oracle) :
    preUntouched ABT_pool_create (exec ABT_pool_create 400 o) = true :=
  (Checks.of_runs runs_ABT_pool_create.1 rfl o).pre

example : 0 < injectedRuns ABT_pool_create 400 0 := nonvacuous_ABT_pool_create

/-- **C18 / no leak, error code** for `ABTI_pool_create_basic`. -/
theorem ledger_fail_balanced_ABTI_pool_create_basic (o : Oracle) :
    failBalanced (exec ABTI_pool_create_basic 400 o) = true :=
  (Checks.of_runs runs_ABTI_pool_create_basic.1 rfl o).fail

/-- **C18 / exact success** for `ABTI_pool_create_basic`. -/
theorem ledger_success_exact_ABTI_pool_create_basic (o : Oracle) :
    successExact allowed_ABTI_pool_create_basic (exec ABTI_pool_create_basic 400 o) = true :=
  (Checks.of_runs runs_ABTI_pool_create_basic.1 rfl o).success

/-- **C18 / no dangling handle** for `ABTI_pool_create_basic`. -/
theorem ledger_handle_null_or_untouched_ABTI_pool_create_basic (o : Oracle) :
    handleOk ABTI_pool_create_basic (exec ABTI_pool_create_basic 400 o) = true :=
  (Checks.of_runs runs_ABTI_pool_create_basic.1 rfl o).handle

/-- **C18 / pre-existing objects untouched** for `ABTI_pool_create_basic`. -/
theorem ledger_preexisting_untouched_ABTI_pool_create_basic (o : Oracle) :
    preUntouched ABTI_pool_create_basic (exec ABTI_pool_create_basic 400 o) = true :=
  (Checks.of_runs runs_ABTI_pool_create_basic.1 rfl o).pre

example : 0 < injectedRuns ABTI_pool_create_basic 400 0 := nonvacuous_ABTI_pool_create_basic

/-- **C18 / no leak, error code** for `ABT_pool_add_sched`: `sched->used` is reset when the scheduler ULT cannot be created. -/
theorem ledger_fail_balanced_ABT_pool_add_sched (o : Oracle) :
    failBalanced (exec ABT_pool_add_sched 400 o) = true :=
  (Checks.of_runs runs_ABT_pool_add_sched.1 rfl o).fail

/-- **C18 / exact success** for `ABT_pool_add_sched`: `sched->used` is reset when the scheduler ULT cannot be created. -/
theorem ledger_success_exact_ABT_pool_add_sched (o : Oracle) :
    successExact allowed_ABT_pool_add_sched (exec ABT_pool_add_sched 400 o) = true :=
  (Checks.of_runs runs_ABT_pool_add_sched.1 rfl o).success

/-- **C18 / no dangling handle** for `ABT_pool_add_sched`: `sched->used` is reset when the scheduler ULT cannot be created. -/
theorem ledger_handle_null_or_untouched_ABT_pool_add_sched (o : Oracle) :
    handleOk ABT_pool_add_sched (exec ABT_pool_add_sched 400 o) = true :=
  (Checks.of_runs runs_ABT_pool_add_sched.1 rfl o).handle

/-- **C18 / pre-existing objects untouched** for `ABT_pool_add_sched`: `sched->used` is reset when the scheduler ULT cannot be created. -/
theorem ledger_preexisting_untouched_ABT_pool_add_sched (o : Oracle) :
    preUntouched ABT_pool_add_sched (exec ABT_pool_add_sched 400 o) = true :=
  (Checks.of_runs runs_ABT_pool_add_sched.1 rfl o).pre

example : 0 < injectedRuns ABT_pool_add_sched 400 0 := nonvacuous_ABT_pool_add_sched

/-- **C18 / no leak, error code** for `ABTI_thread_init_pool`: the user pool's unit is freed again when it cannot be entered into the unit map. -/
theorem ledger_fail_balanced_ABTI_thread_init_pool (o : Oracle) :
    failBalanced (exec ABTI_thread_init_pool 400 o) = true :=
  (Checks.of_runs runs_ABTI_thread_init_pool.1 rfl o).fail

/-- **C18 / exact success** for `ABTI_thread_init_pool`: the user pool's unit is freed again when it cannot be entered into the unit map. -/
theorem ledger_success_exact_ABTI_thread_init_pool (o : Oracle) :
    successExact allowed_ABTI_thread_init_pool (exec ABTI_thread_init_pool 400 o) = true :=
  (Checks.of_runs runs_ABTI_thread_init_pool.1 rfl o).success

/-- **C18 / no dangling handle** for `ABTI_thread_init_pool`: the user pool's unit is freed again when it cannot be entered into the unit map. -/
theorem ledger_handle_null_or_untouched_ABTI_thread_init_pool (o : Oracle) :
    handleOk ABTI_thread_init_pool (exec ABTI_thread_init_pool 400 o) = true :=
  (Checks.of_runs runs_ABTI_thread_init_pool.1 rfl o).handle

/-- **C18 / pre-existing objects untouched** for `ABTI_thread_init_pool`: the user pool's unit is freed again when it cannot be entered into the unit map. -/
theorem ledger_preexisting_untouched_ABTI_thread_init_pool (o : Oracle) :
    preUntouched ABTI_thread_init_pool (exec ABTI_thread_init_pool 400 o) = true :=
  (Checks.of_runs runs_ABTI_thread_init_pool.1 rfl o).pre

example : 0 < injectedRuns ABTI_thread_init_pool 400 0 := nonvacuous_ABTI_thread_init_pool

/-- **C18 / no leak, error code** for `ABTI_ktable_create`. -/
theorem ledger_fail_balanced_ABTI_ktable_create (o : Oracle) :
    failBalanced (exec ABTI_ktable_create 400 o) = true :=
  (Checks.of_runs runs_ABTI_ktable_create.1 rfl o).fail

/-- **C18 / exact success** for `ABTI_ktable_create`. -/
theorem ledger_success_exact_ABTI_ktable_create (o : Oracle) :
    successExact allowed_ABTI_ktable_create (exec ABTI_ktable_create 400 o) = true :=
  (Checks.of_runs runs_ABTI_ktable_create.1 rfl o).success

/-- **C18 / no dangling handle** for `ABTI_ktable_create`. -/
theorem ledger_handle_null_or_untouched_ABTI_ktable_create (o : Oracle) :
    handleOk ABTI_ktable_create (exec ABTI_ktable_create 400 o) = true :=
  (Checks.of_runs runs_ABTI_ktable_create.1 rfl o).handle

/-- **C18 / pre-existing objects untouched** for `ABTI_ktable_create`. -/
theorem ledger_preexisting_untouched_ABTI_ktable_create (o : Oracle) :
    preUntouched ABTI_ktable_create (exec ABTI_ktable_create 400 o) = true :=
  (Checks.of_runs runs_ABTI_ktable_create.1 rfl o).pre

example : 0 < injectedRuns ABTI_ktable_create 400 0 := nonvacuous_ABTI_ktable_create

/-- **C18 / no leak, error code** for `ABT_eventual_create`: descriptor and value buffer. -/
theorem ledger_fail_balanced_ABT_eventual_create (o : Oracle) :
    failBalanced (exec ABT_eventual_create 400 o) = true :=
  (Checks.of_runs runs_ABT_eventual_create.1 rfl o).fail

/-- **C18 / exact success** for `ABT_eventual_create`: descriptor and value buffer. -/
theorem ledger_success_exact_ABT_eventual_create (o : Oracle) :
    successExact allowed_ABT_eventual_create (exec ABT_eventual_create 400 o) = true :=
  (Checks.of_runs runs_ABT_eventual_create.1 rfl o).success

/-- **C18 / no dangling handle** for `ABT_eventual_create`: descriptor and value buffer. -/
theorem ledger_handle_null_or_untouched_ABT_eventual_create (o : Oracle) :
    handleOk ABT_eventual_create (exec ABT_eventual_create 400 o) = true :=
  (Checks.of_runs runs_ABT_eventual_create.1 rfl o).handle

/-- **C18 / pre-existing objects untouched** for `ABT_eventual_create`: descriptor and value buffer. -/
theorem ledger_preexisting_untouched_ABT_eventual_create (o : Oracle) :
    preUntouched ABT_eventual_create (exec ABT_eventual_create 400 o) = true :=
  (Checks.of_runs runs_ABT_eventual_create.1 rfl o).pre

example : 0 < injectedRuns ABT_eventual_create 400 0 := nonvacuous_ABT_eventual_create

/-- **C18 / no leak, error code** for `ABT_future_create`: descriptor and compartment array. -/
theorem ledger_fail_balanced_ABT_future_create (o : Oracle) :
    failBalanced (exec ABT_future_create 400 o) = true :=
  (Checks.of_runs runs_ABT_future_create.1 rfl o).fail

/-- **C18 / exact success** for `ABT_future_create`: descriptor and compartment array. -/
theorem ledger_success_exact_ABT_future_create (o : Oracle) :
    successExact allowed_ABT_future_create (exec ABT_future_create 400 o) = true :=
  (Checks.of_runs runs_ABT_future_create.1 rfl o).success

/-- **C18 / no dangling handle** for `ABT_future_create`: descriptor and compartment array. -/
theorem ledger_handle_null_or_untouched_ABT_future_create (o : Oracle) :
    handleOk ABT_future_create (exec ABT_future_create 400 o) = true :=
  (Checks.of_runs runs_ABT_future_create.1 rfl o).handle

/-- **C18 / pre-existing objects untouched** for `ABT_future_create`: descriptor and compartment array. -/
theorem ledger_preexisting_untouched_ABT_future_create (o : Oracle) :
    preUntouched ABT_future_create (exec ABT_future_create 400 o) = true :=
  (Checks.of_runs runs_ABT_future_create.1 rfl o).pre

example : 0 < injectedRuns ABT_future_create 400 0 := nonvacuous_ABT_future_create

/-- **C18 / no leak, error code** for `ABT_mutex_create`. -/
theorem ledger_fail_balanced_ABT_mutex_create (o : Oracle) :
    failBalanced (exec ABT_mutex_create 400 o) = true :=
  (Checks.of_runs runs_ABT_mutex_create.1 rfl o).fail

/-- **C18 / exact success** for `ABT_mutex_create`. -/
theorem ledger_success_exact_ABT_mutex_create (o : Oracle) :
    successExact allowed_ABT_mutex_create (exec ABT_mutex_create 400 o) = true :=
  (Checks.of_runs runs_ABT_mutex_create.1 rfl o).success

/-- **C18 / no dangling handle** for `ABT_mutex_create`. -/
theorem ledger_handle_null_or_untouched_ABT_mutex_create (o : Oracle) :
    handleOk ABT_mutex_create (exec ABT_mutex_create 400 o) = true :=
  (Checks.of_runs runs_ABT_mutex_create.1 rfl o).handle

/-- **C18 / pre-existing objects untouched** for `ABT_mutex_create`. -/
theorem ledger_preexisting_untouched_ABT_mutex_create (o : Oracle) :
    preUntouched ABT_mutex_create (exec ABT_mutex_create 400 o) = true :=
  (Checks.of_runs runs_ABT_mutex_create.1 rfl o).pre

example : 0 < injectedRuns ABT_mutex_create 400 0 := nonvacuous_ABT_mutex_create

/-- **C18 / no leak, error code** for `ABT_cond_create`. -/
theorem ledger_fail_balanced_ABT_cond_create (o : Oracle) :
    failBalanced (exec ABT_cond_create 400 o) = true :=
  (Checks.of_runs runs_ABT_cond_create.1 rfl o).fail

/-- **C18 / exact success** for `ABT_cond_create`. -/
theorem ledger_success_exact_ABT_cond_create (o : Oracle) :
    successExact allowed_ABT_cond_create (exec ABT_cond_create 400 o) = true :=
  (Checks.of_runs runs_ABT_cond_create.1 rfl o).success

/-- **C18 / no dangling handle** for `ABT_cond_create`. -/
theorem ledger_handle_null_or_untouched_ABT_cond_create (o : Oracle) :
    handleOk ABT_cond_create (exec ABT_cond_create 400 o) = true :=
  (Checks.of_runs runs_ABT_cond_create.1 rfl o).handle

/-- **C18 / pre-existing objects untouched** for `ABT_cond_create`. -/
theorem ledger_preexisting_untouched_ABT_cond_create (o : Oracle) :
    preUntouched ABT_cond_create (exec ABT_cond_create 400 o) = true :=
  (Checks.of_runs runs_ABT_cond_create.1 rfl o).pre

example : 0 < injectedRuns ABT_cond_create 400 0 := nonvacuous_ABT_cond_create

/-- **C18 / no leak, error code** for `ABT_barrier_create`. -/
theorem ledger_fail_balanced_ABT_barrier_create (o : Oracle) :
    failBalanced (exec ABT_barrier_create 400 o) = true :=
  (Checks.of_runs runs_ABT_barrier_create.1 rfl o).fail

/-- **C18 / exact success** for `ABT_barrier_create`. -/
theorem ledger_success_exact_ABT_barrier_create (o : Oracle) :
    successExact allowed_ABT_barrier_create (exec ABT_barrier_create 400 o) = true :=
  (Checks.of_runs runs_ABT_barrier_create.1 rfl o).success

/-- **C18 / no dangling handle** for `ABT_barrier_create`. -/
theorem ledger_handle_null_or_untouched_ABT_barrier_create (o : Oracle) :
    handleOk ABT_barrier_create (exec ABT_barrier_create 400 o) = true :=
  (Checks.of_runs runs_ABT_barrier_create.1 rfl o).handle

/-- **C18 / pre-existing objects untouched** for `ABT_barrier_create`. -/
theorem ledger_preexisting_untouched_ABT_barrier_create (o : Oracle) :
    preUntouched ABT_barrier_create (exec ABT_barrier_create 400 o) = true :=
  (Checks.of_runs runs_ABT_barrier_create.1 rfl o).pre

example : 0 < injectedRuns ABT_barrier_create 400 0 := nonvacuous_ABT_barrier_create

/-- **C18 / no leak, error code** for `ABT_rwlock_create`. -/
theorem ledger_fail_balanced_ABT_rwlock_create (o : Oracle) :
    failBalanced (exec ABT_rwlock_create 400 o) = true :=
  (Checks.of_runs runs_ABT_rwlock_create.1 rfl o).fail

/-- **C18 / exact success** for `ABT_rwlock_create`. -/
theorem ledger_success_exact_ABT_rwlock_create (o : Oracle) :
    successExact allowed_ABT_rwlock_create (exec ABT_rwlock_create 400 o) = true :=
  (Checks.of_runs runs_ABT_rwlock_create.1 rfl o).success

/-- **C18 / no dangling handle** for `ABT_rwlock_create`. -/
theorem ledger_handle_null_or_untouched_ABT_rwlock_create (o : Oracle) :
    handleOk ABT_rwlock_create (exec ABT_rwlock_create 400 o) = true :=
  (Checks.of_runs runs_ABT_rwlock_create.1 rfl o).handle

/-- **C18 / pre-existing objects untouched** for `ABT_rwlock_create`. -/
theorem ledger_preexisting_untouched_ABT_rwlock_create (o : Oracle) :
    preUntouched ABT_rwlock_create (exec ABT_rwlock_create 400 o) = true :=
  (Checks.of_runs runs_ABT_rwlock_create.1 rfl o).pre

example : 0 < injectedRuns ABT_rwlock_create 400 0 := nonvacuous_ABT_rwlock_create

/-- **C18 / no leak, error code** for `ABT_key_create`. -/
theorem ledger_fail_balanced_ABT_key_create (o : Oracle) :
    failBalanced (exec ABT_key_create 400 o) = true :=
  (Checks.of_runs runs_ABT_key_create.1 rfl o).fail

/-- **C18 / exact success** for `ABT_key_create`. -/
theorem ledger_success_exact_ABT_key_create (o : Oracle) :
    successExact allowed_ABT_key_create (exec ABT_key_create 400 o) = true :=
  (Checks.of_runs runs_ABT_key_create.1 rfl o).success

/-- **C18 / no dangling handle** for `ABT_key_create`. -/
theorem ledger_handle_null_or_untouched_ABT_key_create (o : Oracle) :
    handleOk ABT_key_create (exec ABT_key_create 400 o) = true :=
  (Checks.of_runs runs_ABT_key_create.1 rfl o).handle

/-- **C18 / pre-existing objects untouched** for `ABT_key_create`. -/
theorem ledger_preexisting_untouched_ABT_key_create (o : Oracle) :
    preUntouched ABT_key_create (exec ABT_key_create 400 o) = true :=
  (Checks.of_runs runs_ABT_key_create.1 rfl o).pre

example : 0 < injectedRuns ABT_key_create 400 0 := nonvacuous_ABT_key_create

/-- **C18 / no leak, error code** for `ABT_timer_create`. -/
theorem ledger_fail_balanced_ABT_timer_create (o : Oracle) :
    failBalanced (exec ABT_timer_create 400 o) = true :=
  (Checks.of_runs runs_ABT_timer_create.1 rfl o).fail

/-- **C18 / exact success** for `ABT_timer_create`. -/
theorem ledger_success_exact_ABT_timer_create (o : Oracle) :
    successExact allowed_ABT_timer_create (exec ABT_timer_create 400 o) = true :=
  (Checks.of_runs runs_ABT_timer_create.1 rfl o).success

/-- **C18 / no dangling handle** for `ABT_timer_create`. -/
theorem ledger_handle_null_or_untouched_ABT_timer_create (o : Oracle) :
    handleOk ABT_timer_create (exec ABT_timer_create 400 o) = true :=
  (Checks.of_runs runs_ABT_timer_create.1 rfl o).handle

/-- **C18 / pre-existing objects untouched** for `ABT_timer_create`. -/
theorem ledger_preexisting_untouched_ABT_timer_create (o : Oracle) :
    preUntouched ABT_timer_create (exec ABT_timer_create 400 o) = true :=
  (Checks.of_runs runs_ABT_timer_create.1 rfl o).pre

example : 0 < injectedRuns ABT_timer_create 400 0 := nonvacuous_ABT_timer_create

/-- **C18 / no leak, error code** for `timer_alloc`. -/
theorem ledger_fail_balanced_timer_alloc (o : Oracle) :
    failBalanced (exec timer_alloc 400 o) = true :=
  (Checks.of_runs runs_timer_alloc.1 rfl o).fail

/-- **C18 / exact success** for `timer_alloc`. -/
theorem ledger_success_exact_timer_alloc (o : Oracle) :
    successExact allowed_timer_alloc (exec timer_alloc 400 o) = true :=
  (Checks.of_runs runs_timer_alloc.1 rfl o).success

/-- **C18 / no dangling handle** for `timer_alloc`. -/
theorem ledger_handle_null_or_untouched_timer_alloc (o : Oracle) :
    handleOk timer_alloc (exec timer_alloc 400 o) = true :=
  (Checks.of_runs runs_timer_alloc.1 rfl o).handle

/-- **C18 / pre-existing objects untouched** for `timer_alloc`. -/
theorem ledger_preexisting_untouched_timer_alloc (o : Oracle) :
    preUntouched timer_alloc (exec timer_alloc 400 o) = true :=
  (Checks.of_runs runs_timer_alloc.1 rfl o).pre

example : 0 < injectedRuns timer_alloc 400 0 := nonvacuous_timer_alloc

/-- **C18 / no leak, error code** for `ABT_xstream_barrier_create`. -/
theorem ledger_fail_balanced_ABT_xstream_barrier_create (o : Oracle) :
    failBalanced (exec ABT_xstream_barrier_create 400 o) = true :=
  (Checks.of_runs runs_ABT_xstream_barrier_create.1 rfl o).fail

/-- **C18 / exact success** for `ABT_xstream_barrier_create`. -/
theorem ledger_success_exact_ABT_xstream_barrier_create (o : Oracle) :
    successExact allowed_ABT_xstream_barrier_create (exec ABT_xstream_barrier_create 400 o) = true :=
  (Checks.of_runs runs_ABT_xstream_barrier_create.1 rfl o).success

/-- **C18 / no dangling handle** for `ABT_xstream_barrier_create`. -/
theorem ledger_handle_null_or_untouched_ABT_xstream_barrier_create (o : Oracle) :
    handleOk ABT_xstream_barrier_create (exec ABT_xstream_barrier_create 400 o) = true :=
  (Checks.of_runs runs_ABT_xstream_barrier_create.1 rfl o).handle

/-- **C18 / pre-existing objects untouched** for `ABT_xstream_barrier_create`. -/
theorem ledger_preexisting_untouched_ABT_xstream_barrier_create (o : Oracle) :
    preUntouched ABT_xstream_barrier_create (exec ABT_xstream_barrier_create 400 o) = true :=
  (Checks.of_runs runs_ABT_xstream_barrier_create.1 rfl o).pre

example : 0 < injectedRuns ABT_xstream_barrier_create 400 0 := nonvacuous_ABT_xstream_barrier_create

/-- **C18 / no leak, error code** for `ABT_thread_attr_create`. -/
theorem ledger_fail_balanced_ABT_thread_attr_create (o : Oracle) :
    failBalanced (exec ABT_thread_attr_create 400 o) = true :=
  (Checks.of_runs runs_ABT_thread_attr_create.1 rfl o).fail

/-- **C18 / exact success** for `ABT_thread_attr_create`. -/
theorem ledger_success_exact_ABT_thread_attr_create (o : Oracle) :
    successExact allowed_ABT_thread_attr_create (exec ABT_thread_attr_create 400 o) = true :=
  (Checks.of_runs runs_ABT_thread_attr_create.1 rfl o).success

/-- **C18 / no dangling handle** for `ABT_thread_attr_create`. -/
theorem ledger_handle_null_or_untouched_ABT_thread_attr_create (o : Oracle) :
    handleOk ABT_thread_attr_create (exec ABT_thread_attr_create 400 o) = true :=
  (Checks.of_runs runs_ABT_thread_attr_create.1 rfl o).handle

/-- **C18 / pre-existing objects untouched** for `ABT_thread_attr_create`. -/
theorem ledger_preexisting_untouched_ABT_thread_attr_create (o : Oracle) :
    preUntouched ABT_thread_attr_create (exec ABT_thread_attr_create 400 o) = true :=
  (Checks.of_runs runs_ABT_thread_attr_create.1 rfl o).pre

example : 0 < injectedRuns ABT_thread_attr_create 400 0 := nonvacuous_ABT_thread_attr_create

/-- **C18 / no leak, error code** for `ABT_mutex_attr_create`. -/
theorem ledger_fail_balanced_ABT_mutex_attr_create (o : Oracle) :
    failBalanced (exec ABT_mutex_attr_create 400 o) = true :=
  (Checks.of_runs runs_ABT_mutex_attr_create.1 rfl o).fail

/-- **C18 / exact success** for `ABT_mutex_attr_create`. -/
theorem ledger_success_exact_ABT_mutex_attr_create (o : Oracle) :
    successExact allowed_ABT_mutex_attr_create (exec ABT_mutex_attr_create 400 o) = true :=
  (Checks.of_runs runs_ABT_mutex_attr_create.1 rfl o).success

/-- **C18 / no dangling handle** for `ABT_mutex_attr_create`. -/
theorem ledger_handle_null_or_untouched_ABT_mutex_attr_create (o : Oracle) :
    handleOk ABT_mutex_attr_create (exec ABT_mutex_attr_create 400 o) = true :=
  (Checks.of_runs runs_ABT_mutex_attr_create.1 rfl o).handle

/-- **C18 / pre-existing objects untouched** for `ABT_mutex_attr_create`. -/
theorem ledger_preexisting_untouched_ABT_mutex_attr_create (o : Oracle) :
    preUntouched ABT_mutex_attr_create (exec ABT_mutex_attr_create 400 o) = true :=
  (Checks.of_runs runs_ABT_mutex_attr_create.1 rfl o).pre

example : 0 < injectedRuns ABT_mutex_attr_create 400 0 := nonvacuous_ABT_mutex_attr_create


/-! ### ladders that change visible state of pre-existing objects (Proofs/LedgerRuns2)
Six statements per routine: the first three as above; `ledger_preexisting_untouched_on_error_R` (a *successful* replacement /
re-association consumes the replaced automatic scheduler / the old pool's unit by design, so "no pre-existing resource is
released" is claimed for every execution that reports an error); `ledger_no_double_release_R` (no resource is released twice,
in particular not one that another resource's destructor owns); `ledger_state_unchanged_on_error_R` (every tracked field of a
pre-existing object — `p_sched->used`, `p_xstream->p_main_sched`, `p_thread->unit` — has its entry value when an error is
returned: it was not written before the last fallible step, or it was rolled back). -/
open ArgoVerif.Proofs.LedgerRuns2

/-- **C18 / no leak, error code** for `xstream_update_main_sched` (stream.c) on a stream that already has a main scheduler: the "another (joined) stream" branch re-associates the main-scheduler ULT with the new scheduler's first pool (fallible: user-defined pool) and the "caller's stream" branch re-associates the calling ULT. -/
theorem ledger_fail_balanced_xstream_update_main_sched (o : Oracle) :
    failBalanced (exec xstream_update_main_sched 400 o) = true :=
  (Checks.of_runs runs_xstream_update_main_sched.1 rfl o).fail

/-- **C18 / exact success** for `xstream_update_main_sched` (stream.c) on a stream that already has a main scheduler: the "another (joined) stream" branch re-associates the main-scheduler ULT with the new scheduler's first pool (fallible: user-defined pool) and the "caller's stream" branch re-associates the calling ULT. -/
theorem ledger_success_exact_xstream_update_main_sched (o : Oracle) :
    successExact allowed_xstream_update_main_sched (exec xstream_update_main_sched 400 o) = true :=
  (Checks.of_runs runs_xstream_update_main_sched.1 rfl o).success

/-- **C18 / no dangling handle** for `xstream_update_main_sched` (stream.c) on a stream that already has a main scheduler: the "another (joined) stream" branch re-associates the main-scheduler ULT with the new scheduler's first pool (fallible: user-defined pool) and the "caller's stream" branch re-associates the calling ULT. -/
theorem ledger_handle_null_or_untouched_xstream_update_main_sched (o : Oracle) :
    handleOk xstream_update_main_sched (exec xstream_update_main_sched 400 o) = true :=
  (Checks.of_runs runs_xstream_update_main_sched.1 rfl o).handle

/-- **C18 / pre-existing objects untouched when an error is reported** for `xstream_update_main_sched` (stream.c) on a stream that already has a main scheduler: the "another (joined) stream" branch re-associates the main-scheduler ULT with the new scheduler's first pool (fallible: user-defined pool) and the "caller's stream" branch re-associates the calling ULT. -/
theorem ledger_preexisting_untouched_on_error_xstream_update_main_sched (o : Oracle) :
    preUntouchedOnError xstream_update_main_sched (exec xstream_update_main_sched 400 o) = true :=
  (Checks.of_runs runs_xstream_update_main_sched.1 rfl o).pre

/-- **C18 / nothing released twice** for `xstream_update_main_sched` (stream.c) on a stream that already has a main scheduler: the "another (joined) stream" branch re-associates the main-scheduler ULT with the new scheduler's first pool (fallible: user-defined pool) and the "caller's stream" branch re-associates the calling ULT. -/
theorem ledger_no_double_release_xstream_update_main_sched (o : Oracle) :
    noBadRelease (exec xstream_update_main_sched 400 o) = true :=
  (Checks.of_runs runs_xstream_update_main_sched.1 rfl o).noBad

/-- **C18 / visible state unchanged (or rolled back) when an error is reported** for `xstream_update_main_sched` (stream.c) on a stream that already has a main scheduler: the "another (joined) stream" branch re-associates the main-scheduler ULT with the new scheduler's first pool (fallible: user-defined pool) and the "caller's stream" branch re-associates the calling ULT. -/
theorem ledger_state_unchanged_on_error_xstream_update_main_sched (o : Oracle) :
    stateRolledBack xstream_update_main_sched (exec xstream_update_main_sched 400 o) = true :=
  rolledBack_of_preUntouchedOnError (Checks.of_runs runs_xstream_update_main_sched.1 rfl o).pre

example : 0 < injectedRuns xstream_update_main_sched 400 0 := nonvacuous_xstream_update_main_sched

/-- **C18 / no leak, error code** for `xstream_update_main_sched` (stream.c), first installation of a main scheduler (no fallible step). -/
theorem ledger_fail_balanced_xstream_update_main_sched_first (o : Oracle) :
    failBalanced (exec xstream_update_main_sched_first 400 o) = true :=
  (Checks.of_runs runs_xstream_update_main_sched_first rfl o).fail

/-- **C18 / exact success** for `xstream_update_main_sched` (stream.c), first installation of a main scheduler (no fallible step). -/
theorem ledger_success_exact_xstream_update_main_sched_first (o : Oracle) :
    successExact allowed_xstream_update_main_sched_first (exec xstream_update_main_sched_first 400 o) = true :=
  (Checks.of_runs runs_xstream_update_main_sched_first rfl o).success

/-- **C18 / no dangling handle** for `xstream_update_main_sched` (stream.c), first installation of a main scheduler (no fallible step). -/
theorem ledger_handle_null_or_untouched_xstream_update_main_sched_first (o : Oracle) :
    handleOk xstream_update_main_sched_first (exec xstream_update_main_sched_first 400 o) = true :=
  (Checks.of_runs runs_xstream_update_main_sched_first rfl o).handle

/-- **C18 / pre-existing objects untouched when an error is reported** for `xstream_update_main_sched` (stream.c), first installation of a main scheduler (no fallible step). -/
theorem ledger_preexisting_untouched_on_error_xstream_update_main_sched_first (o : Oracle) :
    preUntouchedOnError xstream_update_main_sched_first (exec xstream_update_main_sched_first 400 o) = true :=
  (Checks.of_runs runs_xstream_update_main_sched_first rfl o).pre

/-- **C18 / nothing released twice** for `xstream_update_main_sched` (stream.c), first installation of a main scheduler (no fallible step). -/
theorem ledger_no_double_release_xstream_update_main_sched_first (o : Oracle) :
    noBadRelease (exec xstream_update_main_sched_first 400 o) = true :=
  (Checks.of_runs runs_xstream_update_main_sched_first rfl o).noBad

/-- **C18 / visible state unchanged (or rolled back) when an error is reported** for `xstream_update_main_sched` (stream.c), first installation of a main scheduler (no fallible step). -/
theorem ledger_state_unchanged_on_error_xstream_update_main_sched_first (o : Oracle) :
    stateRolledBack xstream_update_main_sched_first (exec xstream_update_main_sched_first 400 o) = true :=
  rolledBack_of_preUntouchedOnError (Checks.of_runs runs_xstream_update_main_sched_first rfl o).pre

/-- **C18 / no leak, error code** for `ABT_xstream_set_main_sched(xstream, ABT_SCHED_NULL)`: the default scheduler created for the call is freed again when the replacement fails. -/
theorem ledger_fail_balanced_ABT_xstream_set_main_sched (o : Oracle) :
    failBalanced (exec ABT_xstream_set_main_sched 400 o) = true :=
  (Checks.of_runs runs_ABT_xstream_set_main_sched.1 rfl o).fail

/-- **C18 / exact success** for `ABT_xstream_set_main_sched(xstream, ABT_SCHED_NULL)`: the default scheduler created for the call is freed again when the replacement fails. -/
theorem ledger_success_exact_ABT_xstream_set_main_sched (o : Oracle) :
    successExact allowed_ABT_xstream_set_main_sched (exec ABT_xstream_set_main_sched 400 o) = true :=
  (Checks.of_runs runs_ABT_xstream_set_main_sched.1 rfl o).success

/-- **C18 / no dangling handle** for `ABT_xstream_set_main_sched(xstream, ABT_SCHED_NULL)`: the default scheduler created for the call is freed again when the replacement fails. -/
theorem ledger_handle_null_or_untouched_ABT_xstream_set_main_sched (o : Oracle) :
    handleOk ABT_xstream_set_main_sched (exec ABT_xstream_set_main_sched 400 o) = true :=
  (Checks.of_runs runs_ABT_xstream_set_main_sched.1 rfl o).handle

/-- **C18 / pre-existing objects untouched when an error is reported** for `ABT_xstream_set_main_sched(xstream, ABT_SCHED_NULL)`: the default scheduler created for the call is freed again when the replacement fails. -/
theorem ledger_preexisting_untouched_on_error_ABT_xstream_set_main_sched (o : Oracle) :
    preUntouchedOnError ABT_xstream_set_main_sched (exec ABT_xstream_set_main_sched 400 o) = true :=
  (Checks.of_runs runs_ABT_xstream_set_main_sched.1 rfl o).pre

/-- **C18 / nothing released twice** for `ABT_xstream_set_main_sched(xstream, ABT_SCHED_NULL)`: the default scheduler created for the call is freed again when the replacement fails. -/
theorem ledger_no_double_release_ABT_xstream_set_main_sched (o : Oracle) :
    noBadRelease (exec ABT_xstream_set_main_sched 400 o) = true :=
  (Checks.of_runs runs_ABT_xstream_set_main_sched.1 rfl o).noBad

/-- **C18 / visible state unchanged (or rolled back) when an error is reported** for `ABT_xstream_set_main_sched(xstream, ABT_SCHED_NULL)`: the default scheduler created for the call is freed again when the replacement fails. -/
theorem ledger_state_unchanged_on_error_ABT_xstream_set_main_sched (o : Oracle) :
    stateRolledBack ABT_xstream_set_main_sched (exec ABT_xstream_set_main_sched 400 o) = true :=
  rolledBack_of_preUntouchedOnError (Checks.of_runs runs_ABT_xstream_set_main_sched.1 rfl o).pre

example : 0 < injectedRuns ABT_xstream_set_main_sched 400 0 := nonvacuous_ABT_xstream_set_main_sched

/-- **C18 / no leak, error code** for `ABT_xstream_set_main_sched(xstream, sched)` with a caller-owned scheduler: it is neither freed nor left marked as used when the replacement fails. -/
theorem ledger_fail_balanced_ABT_xstream_set_main_sched_given (o : Oracle) :
    failBalanced (exec ABT_xstream_set_main_sched_given 400 o) = true :=
  (Checks.of_runs runs_ABT_xstream_set_main_sched_given.1 rfl o).fail

/-- **C18 / exact success** for `ABT_xstream_set_main_sched(xstream, sched)` with a caller-owned scheduler: it is neither freed nor left marked as used when the replacement fails. -/
theorem ledger_success_exact_ABT_xstream_set_main_sched_given (o : Oracle) :
    successExact allowed_ABT_xstream_set_main_sched_given (exec ABT_xstream_set_main_sched_given 400 o) = true :=
  (Checks.of_runs runs_ABT_xstream_set_main_sched_given.1 rfl o).success

/-- **C18 / no dangling handle** for `ABT_xstream_set_main_sched(xstream, sched)` with a caller-owned scheduler: it is neither freed nor left marked as used when the replacement fails. -/
theorem ledger_handle_null_or_untouched_ABT_xstream_set_main_sched_given (o : Oracle) :
    handleOk ABT_xstream_set_main_sched_given (exec ABT_xstream_set_main_sched_given 400 o) = true :=
  (Checks.of_runs runs_ABT_xstream_set_main_sched_given.1 rfl o).handle

/-- **C18 / pre-existing objects untouched when an error is reported** for `ABT_xstream_set_main_sched(xstream, sched)` with a caller-owned scheduler: it is neither freed nor left marked as used when the replacement fails. -/
theorem ledger_preexisting_untouched_on_error_ABT_xstream_set_main_sched_given (o : Oracle) :
    preUntouchedOnError ABT_xstream_set_main_sched_given (exec ABT_xstream_set_main_sched_given 400 o) = true :=
  (Checks.of_runs runs_ABT_xstream_set_main_sched_given.1 rfl o).pre

/-- **C18 / nothing released twice** for `ABT_xstream_set_main_sched(xstream, sched)` with a caller-owned scheduler: it is neither freed nor left marked as used when the replacement fails. -/
theorem ledger_no_double_release_ABT_xstream_set_main_sched_given (o : Oracle) :
    noBadRelease (exec ABT_xstream_set_main_sched_given 400 o) = true :=
  (Checks.of_runs runs_ABT_xstream_set_main_sched_given.1 rfl o).noBad

/-- **C18 / visible state unchanged (or rolled back) when an error is reported** for `ABT_xstream_set_main_sched(xstream, sched)` with a caller-owned scheduler: it is neither freed nor left marked as used when the replacement fails. -/
theorem ledger_state_unchanged_on_error_ABT_xstream_set_main_sched_given (o : Oracle) :
    stateRolledBack ABT_xstream_set_main_sched_given (exec ABT_xstream_set_main_sched_given 400 o) = true :=
  rolledBack_of_preUntouchedOnError (Checks.of_runs runs_ABT_xstream_set_main_sched_given.1 rfl o).pre

example : 0 < injectedRuns ABT_xstream_set_main_sched_given 400 0 := nonvacuous_ABT_xstream_set_main_sched_given

/-- **C18 / no leak, error code** for `ABT_xstream_set_main_sched_basic`: scheduler built from the pool list and freed (user-given pools released first) when the replacement fails (`num_pools ≤ 2`; missing for the full statement: induction over the loop). -/
theorem ledger_fail_balanced_ABT_xstream_set_main_sched_basic_partial (o : Oracle) (hb : o.param ≤ 2) :
    failBalanced (exec ABT_xstream_set_main_sched_basic 600 o) = true :=
  (Checks.of_runs_upTo runs_ABT_xstream_set_main_sched_basic.1 o hb).fail

/-- **C18 / exact success** for `ABT_xstream_set_main_sched_basic`: scheduler built from the pool list and freed (user-given pools released first) when the replacement fails (`num_pools ≤ 2`; missing for the full statement: induction over the loop). -/
theorem ledger_success_exact_ABT_xstream_set_main_sched_basic_partial (o : Oracle) (hb : o.param ≤ 2) :
    successExact allowed_ABT_xstream_set_main_sched_basic (exec ABT_xstream_set_main_sched_basic 600 o) = true :=
  (Checks.of_runs_upTo runs_ABT_xstream_set_main_sched_basic.1 o hb).success

/-- **C18 / no dangling handle** for `ABT_xstream_set_main_sched_basic`: scheduler built from the pool list and freed (user-given pools released first) when the replacement fails (`num_pools ≤ 2`; missing for the full statement: induction over the loop). -/
theorem ledger_handle_null_or_untouched_ABT_xstream_set_main_sched_basic_partial (o : Oracle) (hb : o.param ≤ 2) :
    handleOk ABT_xstream_set_main_sched_basic (exec ABT_xstream_set_main_sched_basic 600 o) = true :=
  (Checks.of_runs_upTo runs_ABT_xstream_set_main_sched_basic.1 o hb).handle

/-- **C18 / pre-existing objects untouched when an error is reported** for `ABT_xstream_set_main_sched_basic`: scheduler built from the pool list and freed (user-given pools released first) when the replacement fails (`num_pools ≤ 2`; missing for the full statement: induction over the loop). -/
theorem ledger_preexisting_untouched_on_error_ABT_xstream_set_main_sched_basic_partial (o : Oracle) (hb : o.param ≤ 2) :
    preUntouchedOnError ABT_xstream_set_main_sched_basic (exec ABT_xstream_set_main_sched_basic 600 o) = true :=
  (Checks.of_runs_upTo runs_ABT_xstream_set_main_sched_basic.1 o hb).pre

/-- **C18 / nothing released twice** for `ABT_xstream_set_main_sched_basic`: scheduler built from the pool list and freed (user-given pools released first) when the replacement fails (`num_pools ≤ 2`; missing for the full statement: induction over the loop). -/
theorem ledger_no_double_release_ABT_xstream_set_main_sched_basic_partial (o : Oracle) (hb : o.param ≤ 2) :
    noBadRelease (exec ABT_xstream_set_main_sched_basic 600 o) = true :=
  (Checks.of_runs_upTo runs_ABT_xstream_set_main_sched_basic.1 o hb).noBad

/-- **C18 / visible state unchanged (or rolled back) when an error is reported** for `ABT_xstream_set_main_sched_basic`: scheduler built from the pool list and freed (user-given pools released first) when the replacement fails (`num_pools ≤ 2`; missing for the full statement: induction over the loop). -/
theorem ledger_state_unchanged_on_error_ABT_xstream_set_main_sched_basic_partial (o : Oracle) (hb : o.param ≤ 2) :
    stateRolledBack ABT_xstream_set_main_sched_basic (exec ABT_xstream_set_main_sched_basic 600 o) = true :=
  rolledBack_of_preUntouchedOnError (Checks.of_runs_upTo runs_ABT_xstream_set_main_sched_basic.1 o hb).pre

example : 0 < injectedRuns ABT_xstream_set_main_sched_basic 600 2 := nonvacuous_ABT_xstream_set_main_sched_basic

/-- **C18 / no leak, error code** for `ABTI_thread_set_associated_pool` (abti_unit.h; revive, push, migration, `ABT_thread_set_associated_pool`, `ABT_self_schedule`, main-scheduler ULT): the new pool's unit and its unit-map entry are created before the old unit is given up. -/
theorem ledger_fail_balanced_ABTI_thread_set_associated_pool (o : Oracle) :
    failBalanced (exec ABTI_thread_set_associated_pool 400 o) = true :=
  (Checks.of_runs runs_ABTI_thread_set_associated_pool.1 rfl o).fail

/-- **C18 / exact success** for `ABTI_thread_set_associated_pool` (abti_unit.h; revive, push, migration, `ABT_thread_set_associated_pool`, `ABT_self_schedule`, main-scheduler ULT): the new pool's unit and its unit-map entry are created before the old unit is given up. -/
theorem ledger_success_exact_ABTI_thread_set_associated_pool (o : Oracle) :
    successExact allowed_ABTI_thread_set_associated_pool (exec ABTI_thread_set_associated_pool 400 o) = true :=
  (Checks.of_runs runs_ABTI_thread_set_associated_pool.1 rfl o).success

/-- **C18 / no dangling handle** for `ABTI_thread_set_associated_pool` (abti_unit.h; revive, push, migration, `ABT_thread_set_associated_pool`, `ABT_self_schedule`, main-scheduler ULT): the new pool's unit and its unit-map entry are created before the old unit is given up. -/
theorem ledger_handle_null_or_untouched_ABTI_thread_set_associated_pool (o : Oracle) :
    handleOk ABTI_thread_set_associated_pool (exec ABTI_thread_set_associated_pool 400 o) = true :=
  (Checks.of_runs runs_ABTI_thread_set_associated_pool.1 rfl o).handle

/-- **C18 / pre-existing objects untouched when an error is reported** for `ABTI_thread_set_associated_pool` (abti_unit.h; revive, push, migration, `ABT_thread_set_associated_pool`, `ABT_self_schedule`, main-scheduler ULT): the new pool's unit and its unit-map entry are created before the old unit is given up. -/
theorem ledger_preexisting_untouched_on_error_ABTI_thread_set_associated_pool (o : Oracle) :
    preUntouchedOnError ABTI_thread_set_associated_pool (exec ABTI_thread_set_associated_pool 400 o) = true :=
  (Checks.of_runs runs_ABTI_thread_set_associated_pool.1 rfl o).pre

/-- **C18 / nothing released twice** for `ABTI_thread_set_associated_pool` (abti_unit.h; revive, push, migration, `ABT_thread_set_associated_pool`, `ABT_self_schedule`, main-scheduler ULT): the new pool's unit and its unit-map entry are created before the old unit is given up. -/
theorem ledger_no_double_release_ABTI_thread_set_associated_pool (o : Oracle) :
    noBadRelease (exec ABTI_thread_set_associated_pool 400 o) = true :=
  (Checks.of_runs runs_ABTI_thread_set_associated_pool.1 rfl o).noBad

/-- **C18 / visible state unchanged (or rolled back) when an error is reported** for `ABTI_thread_set_associated_pool` (abti_unit.h; revive, push, migration, `ABT_thread_set_associated_pool`, `ABT_self_schedule`, main-scheduler ULT): the new pool's unit and its unit-map entry are created before the old unit is given up. -/
theorem ledger_state_unchanged_on_error_ABTI_thread_set_associated_pool (o : Oracle) :
    stateRolledBack ABTI_thread_set_associated_pool (exec ABTI_thread_set_associated_pool 400 o) = true :=
  rolledBack_of_preUntouchedOnError (Checks.of_runs runs_ABTI_thread_set_associated_pool.1 rfl o).pre

example : 0 < injectedRuns ABTI_thread_set_associated_pool 400 0 := nonvacuous_ABTI_thread_set_associated_pool

/-! ### the same two named statements for ladders of Proofs/LedgerRuns, as corollaries of their four checks -/

/-- **C18 / nothing released twice** for `ythread_create` without scheduler: the migration data handed to the key table (`ABTI_ktable_set_unsafe` under `g_thread_mig_data_key`, whose destructor frees it) is not freed again by a later rung of the error ladder. -/
theorem ledger_no_double_release_ythread_create (o : Oracle) :
    noBadRelease (exec ythread_create 400 o) = true :=
  (Checks.of_runs runs_ythread_create.1 rfl o).noBad

/-- **C18 / nothing released twice** for `ythread_create` with a stackable scheduler: neither the migration data nor anything else owned by the key table is released twice. -/
theorem ledger_no_double_release_ythread_create_with_sched (o : Oracle) :
    noBadRelease (exec ythread_create_with_sched 400 o) = true :=
  (Checks.of_runs runs_ythread_create_with_sched.1 rfl o).noBad

/-- **C18 / nothing released twice** for `ABTI_thread_get_mig_data`: the migration data is freed by the routine only while the key table does not own it. -/
theorem ledger_no_double_release_ABTI_thread_get_mig_data (o : Oracle) :
    noBadRelease (exec ABTI_thread_get_mig_data 400 o) = true :=
  (Checks.of_runs runs_ABTI_thread_get_mig_data.1 rfl o).noBad_upTo

/-- **C18 / nothing released twice** for `task_create`. -/
theorem ledger_no_double_release_task_create (o : Oracle) :
    noBadRelease (exec task_create 400 o) = true :=
  (Checks.of_runs runs_task_create.1 rfl o).noBad

/-- **C18 / nothing released twice** for `ABT_pool_add_sched`. -/
theorem ledger_no_double_release_ABT_pool_add_sched (o : Oracle) :
    noBadRelease (exec ABT_pool_add_sched 400 o) = true :=
  (Checks.of_runs runs_ABT_pool_add_sched.1 rfl o).noBad

/-- **C18 / nothing released twice** for `xstream_create`. -/
theorem ledger_no_double_release_xstream_create (o : Oracle) :
    noBadRelease (exec xstream_create 400 o) = true :=
  (Checks.of_runs runs_xstream_create.1 rfl o).noBad

/-- **C18 / visible state unchanged (or rolled back) when an error is reported** for `ABT_pool_add_sched`: `sched->used` is set to IN_POOL before the scheduler ULT is created and reset to NOT_USED when that fails. -/
theorem ledger_state_unchanged_on_error_ABT_pool_add_sched (o : Oracle) :
    stateRolledBack ABT_pool_add_sched (exec ABT_pool_add_sched 400 o) = true :=
  rolledBack_of_preUntouched (ledger_preexisting_untouched_ABT_pool_add_sched o)

/-- **C18 / visible state unchanged (or rolled back) when an error is reported** for `xstream_create`: `p_sched->used` is MAIN only after the last fallible rung, or reset on the FAILED ladder. -/
theorem ledger_state_unchanged_on_error_xstream_create (o : Oracle) :
    stateRolledBack xstream_create (exec xstream_create 400 o) = true :=
  rolledBack_of_preUntouched (ledger_preexisting_untouched_xstream_create o)

/-- **C18 / visible state unchanged (or rolled back) when an error is reported** for `ABT_xstream_create(sched, …)`: the caller's scheduler is not left marked as used. -/
theorem ledger_state_unchanged_on_error_ABT_xstream_create_given (o : Oracle) :
    stateRolledBack ABT_xstream_create_given (exec ABT_xstream_create_given 400 o) = true :=
  rolledBack_of_preUntouched (ledger_preexisting_untouched_ABT_xstream_create_given o)

end ArgoVerif.Props.C18
