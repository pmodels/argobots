import ArgoVerif.Proofs.Sched
import ArgoVerif.Gen.Consts
import ArgoVerif.Props.C06Stop
/-
Props.C06 — stream join/free and ABT_finalize wait for all work: the per-pool count of blocked units that drives the
"may this scheduler stop?" decision (ABTI_sched_has_to_stop / has_unit: size + num_blocked) is exact.
The join/finalize hand-shake itself (FINISH request, main-scheduler ULT join, native join) is tied by T1 skeletons and
exercised by every scenario's ABT_xstream_join / ABT_finalize under the controlled scheduler (deadlock detection).
-/
namespace ArgoVerif.Props.C06
open ArgoVerif ArgoVerif.Model.Sched

/-- **the blocked counter is exact**: in every reachable state `num_blocked` of pool p equals the number of
increments made on behalf of some unit and not yet undone; per unit that number is 1 if its current suspension
(or yield_to credit) is counted, plus the resumptions whose decrement is still in flight -/
theorem blocked_eq_owed (s : St) (h : machine.Reachable s) :
    (∀ p, s.nb p = (cntP s.owedL p : Int)) ∧
    (∀ u, cntU s.owedL u = s.lag u + (if s.charged u = true then 1 else 0)) :=
  ⟨(inv_reachable s h).nbCount, (inv_reachable s h).unitCount⟩

/-- **never negative** -/
theorem blocked_nonneg (s : St) (h : machine.Reachable s) (p : PoolId) : 0 ≤ s.nb p := by
  rw [(inv_reachable s h).nbCount p]; exact Int.natCast_nonneg _

/-- **zero whenever no unit is blocked**: if no suspension is counted and no decrement is in flight, every counter is 0 -/
theorem blocked_zero_when_none (s : St) (h : machine.Reachable s)
    (hn : ∀ u, s.charged u = false ∧ s.lag u = 0) (p : PoolId) : s.nb p = 0 := by
  have hi := inv_reachable s h
  have hempty : s.owedL = [] := by
    cases hl : s.owedL with
    | nil => rfl
    | cons x r =>
      obtain ⟨u, q⟩ := x
      have hm : (u, q) ∈ s.owedL := by rw [hl]; simp
      have hpos := cntU_pos_of_mem s.owedL u q hm
      have := hi.unitCount u
      rw [(hn u).1, (hn u).2] at this
      simp at this; omega
  rw [hi.nbCount p, hempty]; simp [cntP]

/-- **a blocked unit keeps its pool's scheduler alive**: a unit that is BLOCKED and not being resumed is counted in the
`num_blocked` of the pool it will be pushed to on resumption, so `size + num_blocked` of that pool is positive and a
scheduler serving it does not take the FINISH exit (stop only when drained) -/
theorem blocked_unit_counted (s : St) (h : machine.Reachable s) (u : UnitId)
    (hb : s.loc u = .blocked) (hr : s.resumed u = false) : 1 ≤ s.nb (s.pool u) := by
  have hi := inv_reachable s h
  have hc := hi.blockedCharged u hb hr
  have hm := hi.chargedMem u hc.1
  rw [hc.2] at hm
  have := cntP_erase s.owedL u (s.pool u) (s.pool u) hm
  rw [hi.nbCount]; simp at this; omega

/-- whoever observes the state BLOCKED observes a unit that is completely suspended (context saved, callback past its
counter increment): the BLOCKED store is the last step of the suspension callback -/
theorem blocked_visible_after_count (s s' : St) (u : UnitId) (hs : step s (.setSt u .blocked) = some s') :
    s.charged u = true ∧ s.chargedPool u = s.pool u ∧ (∃ e, s.loc u = .cb e) := by
  simp only [step, stepSetSt] at hs
  cases hl : s.loc u <;> simp only [hl] at hs <;> (repeat' (split at hs)) <;> (try cases hs) <;> simp_all

/-- **a resumed unit is never unaccounted**: the push that puts a resumed unit back into its pool happens while the unit
is still counted in that pool's `num_blocked` (the decrement comes after the push): at every instant a suspended-then-
resumed unit is visible to `ABTI_sched_has_unit` either through the counter or through the pool's size, so a scheduler
with a pending FINISH request cannot conclude "drained" in between -/
theorem resumed_unit_always_accounted (s s' : St) (p : PoolId) (u : UnitId) (hs : step s (.push p u) = some s')
    (hb : s.loc u = .blocked) : s.charged u = true ∧ s.chargedPool u = p ∧ s'.loc u = .inPool p := by
  simp only [step, stepPush] at hs
  split at hs
  · rename_i h; cases hs; exact ⟨(h.2.2.2 hb).2.1, (h.2.2.2 hb).2.2, by simp [upd]⟩
  · cases hs

/-- decrementing before the push (the unit would be invisible for a moment) is rejected -/
example : (machine.run init
      [.create 1 0, .push 0 1, .pop 7 0 1, .setSt 1 .running, .run 7 1, .cb 7 1 .suspend, .incB 1 0,
       .setSt 1 .blocked, .resume 1, .setSt 1 .ready, .decB 1 0, .push 0 1]).isNone = true := by decide

/-- non-vacuity, including the lagging decrement: u blocks, is resumed and pushed, blocks again before the resumer's
decrement: the counter is 2 for a moment, then 1 -/
example :
    (machine.run init
      [.create 1 0, .push 0 1, .pop 7 0 1, .setSt 1 .running, .run 7 1, .userStart 1, .cb 7 1 .suspend, .incB 1 0,
       .setSt 1 .blocked, .resume 1, .setSt 1 .ready, .push 0 1, .pop 7 0 1, .setSt 1 .running, .run 7 1,
       .cb 7 1 .suspend, .incB 1 0]).map (fun s => decide (s.nb 0 = 2 ∧ s.lag 1 = 1))
      = some true := by decide


/-- **finding F18 (open, KNOWN_FINDINGS.json)**: the accounting above covers the resumption that pushes the unit back into
its pool.  A *directed* resumption (`ABT_self_resume_yield_to`, `resume_suspend_to`, `resume_exit_to`) by a ULT of another
stream is also a trace of the code and of this model: unit 5 of pool 1 suspends on stream 1, is resumed and run on stream 0,
and after the decrement it is running while pool 1 holds nothing and counts nothing — the scheduler of stream 1 may now
conclude "drained".  The witness is replayed against the real code by corpus/findings/f18_resume_yield_to_foreign_unit.c. -/
example :
    (machine.run init
      [.create 5 1, .push 1 5, .pop 1 1 5, .setSt 5 .running, .run 1 5, .userStart 5, .cb 1 5 .suspend, .incB 5 1,
       .setSt 5 .blocked, .resume 5, .setSt 5 .running, .run 0 5, .decB 5 1]).map
      (fun s => decide (s.loc 5 = .running 0 ∧ s.pool 5 = 1 ∧ s.nb 1 = 0 ∧ s.owedL = [])) = some true := by decide


/-! ## widths of the counters modelled as unbounded numbers (generated from the headers on every run) -/
/-- `num_blocked` (an `Int` in Model.Sched and Model.Stop) is 4 bytes wide in this tree: the unbounded model agrees with the C field below 2^31 -/
example : ArgoVerif.Gen.Consts.bytesPoolNumBlocked = 4 := by decide
/-- `num_scheds` is 4 bytes wide in this tree: the unbounded model agrees with the C field below 2^31 -/
example : ArgoVerif.Gen.Consts.bytesPoolNumScheds = 4 := by decide
/-- the scheduler request word is 4 bytes wide in this tree: the unbounded model agrees with the C field below 2^31 -/
example : ArgoVerif.Gen.Consts.bytesSchedRequest = 4 := by decide

end ArgoVerif.Props.C06
