import ArgoVerif.Proofs.RWLock
import ArgoVerif.Gen.Consts
/-
Props.C10 — ABT_rwlock: a writer excludes everybody, readers share, nobody is stuck.
Every theorem quantifies over all states reachable in Model.RWLock, i.e. over every interleaving of the steps of any
number of ULT / external-thread callers of rdlock / wrlock / unlock (and of tasklets, which are rejected).
-/
namespace ArgoVerif.Props.C10
open ArgoVerif ArgoVerif.Model.RWLock

theorem inv_step (s s' : St) (e : Ev) (h : Inv s) (hs : step s e = some s') : Inv s' := by
  cases e with
  | call a op => exact inv_stepCall s s' a op h hs
  | ret a op rc => exact inv_stepRet s s' a op rc h hs
  | mutexLock a => exact inv_stepMutexLock s s' a h hs
  | mutexUnlock a => exact inv_stepMutexUnlock s s' a h hs
  | sleep a => exact inv_stepSleep s s' a h hs
  | enq a => exact inv_stepEnq s s' a h hs
  | update a => exact inv_stepUpdate s s' a h hs
  | wake a n => exact inv_stepWake s s' a n h hs
  | snap rc wf => simp only [step] at hs; split at hs <;> simp_all

theorem inv_reachable (k : Actor → Kind) (s : St) (h : (machine k).Reachable s) : Inv s :=
  Machine.invariant_reachable (machine k) Inv (inv_init k) (fun s e s' hi hs => inv_step s s' e hi hs) s h

/-- **a writer excludes every other holder, and the two fields say exactly who holds.**
`writer` / `readers` are the ghost holder sets (a caller enters them when it executes `write_flag = 1` /
`reader_count++` under the mutex and leaves them when an unlock executes the matching statement).  In every reachable
state: if `w` holds as a writer then nobody holds as a reader and any writer holder is `w`; `write_flag = 1` exactly
when a writer holds; `reader_count` is the number of reader holds. -/
theorem rw_writer_excl (k : Actor → Kind) (s : St) (h : (machine k).Reachable s) :
    (∀ w, s.writer = some w → (∀ b, b ∉ s.readers) ∧ (∀ w', s.writer = some w' → w' = w)) ∧
    (s.writeFlag = true ↔ s.writer ≠ none) ∧
    s.readerCount = (s.readers.length : Int) := by
  have hi := inv_reachable k s h
  refine ⟨?_, hi.wfIff, hi.rcLen⟩
  intro w hw
  have hnil := hi.excl (by rw [hw]; simp)
  refine ⟨fun b => by rw [hnil]; simp, fun w' hw' => ?_⟩
  rw [hw] at hw'; exact (Option.some.inj hw').symm

/-- the ghost sets mean what they should: a caller that is about to return from a successful wrlock / rdlock is in
the writer / reader set, and only it can take itself out (by its own unlock: see `rw_unlock_matches`) -/
theorem rw_return_means_holding (k : Actor → Kind) (s : St) (h : (machine k).Reachable s) (a : Actor) :
    (s.pc a = .wDone → s.writer = some a) ∧ (s.pc a = .rDone → a ∈ s.readers) := by
  have hi := inv_reachable k s h
  exact ⟨fun hp => hi.wHolds a (Or.inr hp), fun hp => hi.rHolds a (Or.inr hp)⟩

/-- **readers share**: a rdlock call that holds the internal mutex and finds `write_flag = 0` cannot enter the
cond wait; it increments `reader_count` (whatever its value: other readers may hold) and becomes a holder.  In
particular (second part) when only readers hold — no writer in the ghost set — `write_flag` is 0, so a reader is
never blocked by readers. -/
theorem rw_readers_share (k : Actor → Kind) (s : St) (h : (machine k).Reachable s) (a : Actor)
    (hp : s.pc a = .rTest) :
    (s.writeFlag = false →
      step s (.sleep a) = none ∧
      ∃ s', step s (.update a) = some s' ∧ s'.pc a = .rUnlock ∧ s'.readerCount = s.readerCount + 1 ∧
        a ∈ s'.readers ∧ s'.writeFlag = false) ∧
    (s.writer = none → s.writeFlag = false) := by
  have hi := inv_reachable k s h
  constructor
  · intro hw
    refine ⟨by simp [step, stepSleep, hp, hw], _, by simp only [step, stepUpdate, hp, hw, if_true]; rfl, ?_⟩
    simp [setPc, upd]
  · intro hn
    cases hw : s.writeFlag with
    | false => rfl
    | true => exact absurd hn (hi.wfIff.mp hw)

/-- a reader enters the cond wait only while a writer (somebody else) holds the lock -/
theorem rw_reader_sleeps_only_under_writer (k : Actor → Kind) (s s' : St) (h : (machine k).Reachable s) (a : Actor)
    (hp : s.pc a = .rTest) (hs : step s (.sleep a) = some s') : ∃ w, s.writer = some w ∧ w ≠ a := by
  have hi := inv_reachable k s h
  simp only [step, stepSleep, hp] at hs
  split at hs
  · rename_i hw
    have hne := hi.wfIff.mp hw
    cases hwr : s.writer with
    | none => exact absurd hwr hne
    | some w =>
      refine ⟨w, rfl, ?_⟩
      intro he; subst he
      have := hi.writerPc w hwr
      rw [hp] at this; exact this
  · cases hs

/-- a writer enters the cond wait only while somebody else holds the lock (a writer, or at least one reader) -/
theorem rw_writer_sleeps_only_under_holder (k : Actor → Kind) (s s' : St) (h : (machine k).Reachable s) (a : Actor)
    (hp : s.pc a = .wTest) (hs : step s (.sleep a) = some s') :
    (∃ w, s.writer = some w ∧ w ≠ a) ∨ (∃ r, r ∈ s.readers ∧ r ≠ a) := by
  have hi := inv_reachable k s h
  simp only [step, stepSleep, hp] at hs
  split at hs
  · rename_i hw
    rcases hw with hw | hw
    · left
      have hne := hi.wfIff.mp hw
      cases hwr : s.writer with
      | none => exact absurd hwr hne
      | some w =>
        refine ⟨w, rfl, ?_⟩
        intro he; subst he
        have := hi.writerPc w hwr
        rw [hp] at this; exact this
    · right
      cases hr : s.readers with
      | nil => have := hi.rcLen; rw [hr] at this; simp at this; exact absurd this hw
      | cons r t =>
        have hm : r ∈ s.readers := by rw [hr]; simp
        refine ⟨r, by simp, ?_⟩
        intro he; subst he
        have := hi.readerPc r hm
        rw [hp] at this; exact this
  · cases hs

/-- **no lost wake-up (safety form).**  Whenever a locker sleeps in the cond wait it is in the wait-list, and the
predicate it waits for is still false *or* a broadcast is still to come: a sleeping reader ⇒ `write_flag = 1`, or an
unlocker sits between its counter update and the end of its broadcast (it holds the mutex at `uBcast`); a sleeping
writer ⇒ `write_flag = 1 ∨ reader_count ≠ 0`, or such an unlocker exists. -/
theorem rw_no_stuck_safety (k : Actor → Kind) (s : St) (h : (machine k).Reachable s) (a : Actor) :
    (s.pc a = .rSleep → a ∈ s.q ∧ (s.writeFlag = true ∨ ∃ b, s.mholder = some b ∧ s.pc b = .uBcast)) ∧
    (s.pc a = .wSleep → a ∈ s.q ∧ (s.writeFlag = true ∨ s.readerCount ≠ 0 ∨ ∃ b, s.mholder = some b ∧ s.pc b = .uBcast)) := by
  have hi := inv_reachable k s h
  have hb : Bcasting s.mholder s.pc → ∃ b, s.mholder = some b ∧ s.pc b = .uBcast := by
    intro ⟨h1, h2⟩
    cases hm : s.mholder with
    | none => exact absurd hm h1
    | some b => exact ⟨b, rfl, h2 b hm⟩
  constructor
  · intro hp
    refine ⟨(hi.qIff a).mpr (by rw [hp]; trivial), ?_⟩
    rcases hi.rSleepOk a hp with h1 | h1
    · exact Or.inl h1
    · exact Or.inr (hb h1)
  · intro hp
    refine ⟨(hi.qIff a).mpr (by rw [hp]; trivial), ?_⟩
    rcases hi.wSleepOk a hp with h1 | h1 | h1
    · exact Or.inl h1
    · exact Or.inr (Or.inl h1)
    · exact Or.inr (Or.inr (hb h1))

/-- **every unlock broadcasts to everybody**: an unlocker that has updated the counters releases the internal mutex
only when the wait-list is empty, i.e. when no caller is asleep any more (each sleeper was dequeued by a `wake` and
will re-evaluate its predicate) -/
theorem rw_unlock_wakes_all (k : Actor → Kind) (s s' : St) (h : (machine k).Reachable s) (a : Actor)
    (hp : s.pc a = .uBcast) (hs : step s (.mutexUnlock a) = some s') :
    s.q = [] ∧ ∀ b, s.pc b ≠ .rSleep ∧ s.pc b ≠ .wSleep := by
  have hi := inv_reachable k s h
  simp only [step, stepMutexUnlock, hp] at hs
  split at hs
  · rename_i hq
    refine ⟨hq, fun b => ⟨fun hb => ?_, fun hb => ?_⟩⟩
    · have := (hi.qIff b).mpr (by rw [hb]; trivial); rw [hq] at this; cases this
    · have := (hi.qIff b).mpr (by rw [hb]; trivial); rw [hq] at this; cases this
  · cases hs

/-- a woken caller re-evaluates its predicate under the mutex: from `rWoken` / `wWoken` the only step of that caller
the model accepts is `mutexLock`, which leads to the loop test -/
theorem rw_woken_retests (s s' : St) (a : Actor) (hs : step s (.mutexLock a) = some s')
    (hp : s.pc a = .rWoken ∨ s.pc a = .wWoken) :
    s.mholder = none ∧ ((s.pc a = .rWoken ∧ s'.pc a = .rTest) ∨ (s.pc a = .wWoken ∧ s'.pc a = .wTest)) := by
  simp only [step, stepMutexLock] at hs
  split at hs
  · cases hs
  · rename_i hm
    refine ⟨by simpa using hm, ?_⟩
    rcases hp with hp | hp <;> rw [hp] at hs <;> simp only [Option.some.injEq] at hs <;> subst hs <;>
      simp [takeM, setPc, upd, hp]

/-- **unlock tells readers and the writer apart correctly.**  The code has no owner field: `if (write_flag)
write_flag = 0; else reader_count--`.  Under the invariant this is sound: when the caller is the writer the flag is
set (so the flag is cleared and the reader count untouched, the writer leaves the ghost set); when the caller is a
reader the flag is clear and `reader_count > 0` (so it is decremented and exactly one hold of the caller leaves the
ghost set; the ABTI_UB_ASSERT never fires). -/
theorem rw_unlock_matches (k : Actor → Kind) (s s' : St) (h : (machine k).Reachable s) (a : Actor)
    (hp : s.pc a = .uUpd) (hs : step s (.update a) = some s') :
    (s.writer = some a →
      s.writeFlag = true ∧ s'.writeFlag = false ∧ s'.writer = none ∧ s'.readerCount = s.readerCount ∧
      s'.readers = s.readers) ∧
    (s.writer ≠ some a →
      a ∈ s.readers ∧ s.writeFlag = false ∧ s.readerCount > 0 ∧ s'.readerCount = s.readerCount - 1 ∧
      s'.readers = s.readers.erase a ∧ s'.writeFlag = false ∧ s'.writer = none) := by
  have hi := inv_reachable k s h
  simp only [step, stepUpdate, hp, Option.some.injEq] at hs
  subst hs
  constructor
  · intro hw
    have hf : s.writeFlag = true := hi.wfIff.mpr (by rw [hw]; simp)
    simp [setPc, hf]
  · intro hw
    have hm : a ∈ s.readers := by
      rcases hi.uHolds a (Or.inr hp) with h1 | h1
      · exact h1
      · exact absurd h1 hw
    have hnw : s.writer = none := by
      cases hwr : s.writer with
      | none => rfl
      | some w =>
        have := hi.excl (by rw [hwr]; simp)
        rw [this] at hm; cases hm
    have hf : s.writeFlag = false := by
      cases hwf : s.writeFlag with
      | false => rfl
      | true => exact absurd hnw (hi.wfIff.mp hwf)
    have hpos : s.readerCount > 0 := by
      have := hi.rcLen
      have : s.readers.length > 0 := List.length_pos_of_mem hm
      omega
    simp [setPc, hf, hm, hpos, hnw]

/-- **a tasklet is rejected and nothing changes** (API 1.x): a tasklet's rdlock / wrlock call only moves the
tasklet to the error return; the mutex, the counters, the wait-list, the holder sets and every other caller's
program counter are untouched, and the only step the tasklet can take next is the error return. -/
theorem rw_tasklet_rejected_nochange (s s' : St) (a : Actor) (op : Op) (hk : s.kind a = .tasklet)
    (ho : op = .rdlock ∨ op = .wrlock) (hs : step s (.call a op) = some s') :
    s'.mholder = s.mholder ∧ s'.readerCount = s.readerCount ∧ s'.writeFlag = s.writeFlag ∧ s'.q = s.q ∧
    s'.readers = s.readers ∧ s'.writer = s.writer ∧ (∀ b, b ≠ a → s'.pc b = s.pc b) ∧
    (s'.pc a = .rRejected ∨ s'.pc a = .wRejected) ∧
    (∀ rc, step s' (.ret a op rc) ≠ none → rc = .err) ∧
    step s' (.mutexLock a) = none ∧ step s' (.update a) = none ∧ step s' (.sleep a) = none := by
  rcases ho with ho | ho <;> subst ho <;> simp only [step, stepCall] at hs <;>
    (split at hs; · cases hs) <;> simp only [hk, if_true, Option.some.injEq] at hs <;> subst hs <;>
    (refine ⟨rfl, rfl, rfl, rfl, rfl, rfl, fun b hb => by simp [setPc, upd, hb], by simp [setPc, upd], ?_, ?_, ?_, ?_⟩) <;>
    first
      | (intro rc; cases rc <;> simp [step, stepRet, setPc, upd])
      | (simp [step, stepMutexLock, stepUpdate, stepSleep, setPc, upd]; try (split <;> simp))

/-- tasklets never hold the lock and are never anywhere but idle or on the error return -/
theorem rw_tasklet_never_holds (k : Actor → Kind) (s : St) (h : (machine k).Reachable s) (a : Actor)
    (hk : s.kind a = .tasklet) :
    a ∉ s.readers ∧ s.writer ≠ some a ∧ (s.pc a = .idle ∨ s.pc a = .rRejected ∨ s.pc a = .wRejected) := by
  have hi := inv_reachable k s h
  exact ⟨(hi.taskNoHold a hk).1, (hi.taskNoHold a hk).2, hi.taskPc a hk⟩

/-- **deadlock freedom.**  `active s a` = a is inside a call or holds the lock.  `enabledFor s b` (executable) = some
progress event of b is accepted by the model in s: a return, `mutexLock`, `sleep`, `update`, `wake`, `mutexUnlock`, or
— for a holder outside any call — `call unlock` (the property's hypothesis "the current holders unlock"); new lock
calls and observations do not count.  In every reachable state with an active caller, some active caller has an
enabled progress event: the system as a whole is never stuck with somebody inside a call. -/
theorem rw_deadlock_free (k : Actor → Kind) (s : St) (h : (machine k).Reachable s) (a : Actor)
    (ha : active s a = true) : ∃ b, active s b = true ∧ enabledFor s b = true :=
  deadlock_free_of_inv s (inv_reachable k s h) a ha

/-- the same with the executable `enabled` over any finite list that contains the active callers -/
theorem rw_deadlock_free_enabled (k : Actor → Kind) (s : St) (h : (machine k).Reachable s) (a : Actor)
    (ha : active s a = true) (acts : List Actor) (hall : ∀ b, active s b = true → b ∈ acts) :
    enabled s acts = true := by
  obtain ⟨b, hb, he⟩ := rw_deadlock_free k s h a ha
  simp only [enabled, List.any_eq_true, Bool.and_eq_true]
  exact ⟨b, hall b hb, hb, he⟩

/-- `enabledFor` is sound: it really exhibits an accepted, non-observation event of that caller -/
theorem rw_enabled_sound (s : St) (b : Actor) (he : enabledFor s b = true) :
    ∃ e s', e ∈ candidates s b ∧ step s e = some s' := by
  simp only [enabledFor, List.any_eq_true] at he
  obtain ⟨e, hm, hsome⟩ := he
  cases hst : step s e with
  | none => rw [hst] at hsome; cases hsome
  | some s' => exact ⟨e, s', hm, hst⟩

/-- **more precisely, nobody waits for nothing**: a caller that is inside a call either can step itself, or waits
for the internal mutex whose holder can step, or sleeps while a holder of the rwlock (or the broadcasting unlocker)
can step. -/
theorem rw_blocked_has_cause (k : Actor → Kind) (s : St) (h : (machine k).Reachable s) (a : Actor)
    (hp : s.pc a ≠ .idle) :
    enabledFor s a = true ∨
    (∃ b, s.mholder = some b ∧ b ≠ a ∧ enabledFor s b = true) ∨
    ((s.pc a = .rSleep ∨ s.pc a = .wSleep) ∧ s.mholder = none ∧
      ∃ b, (s.writer = some b ∨ b ∈ s.readers) ∧ enabledFor s b = true) :=
  blocked_has_cause_of_inv s (inv_reachable k s h) a hp

/-! ### non-vacuity: concrete accepted traces -/

/-- actors 1..8 are ULTs / external threads, 9 is a tasklet -/
def kinds : Actor → Kind := fun a => if a = 9 then .tasklet else if a % 2 = 0 then .ext else .ult

/-- two readers (1, 2) hold together; writer 3 tests, sleeps; 1 unlocks (3 woken, re-tests, sleeps again since
reader 2 still holds); 2 unlocks (3 woken); 3 acquires -/
example :
    ((machine kinds).run (init kinds)
      [.call 1 .rdlock, .mutexLock 1, .update 1, .mutexUnlock 1, .ret 1 .rdlock .ok,
       .call 2 .rdlock, .mutexLock 2, .snap 1 false, .update 2, .mutexUnlock 2, .snap 2 false, .ret 2 .rdlock .ok,
       .call 3 .wrlock, .mutexLock 3, .sleep 3, .enq 3,
       .call 1 .unlock, .mutexLock 1, .update 1, .wake 1 3, .mutexUnlock 1, .snap 1 false, .ret 1 .unlock .ok,
       .mutexLock 3, .sleep 3, .enq 3,
       .call 2 .unlock, .mutexLock 2, .update 2, .wake 2 3, .mutexUnlock 2, .snap 0 false, .ret 2 .unlock .ok,
       .mutexLock 3, .update 3, .mutexUnlock 3, .snap 0 true, .ret 3 .wrlock .ok]).map
        (fun s => decide (s.pc 1 = .idle ∧ s.pc 2 = .idle ∧ s.pc 3 = .idle ∧ s.writer = some 3 ∧ s.readers = [] ∧
                          s.writeFlag = true ∧ s.readerCount = 0 ∧ s.q = [] ∧ s.mholder = none))
      = some true := by decide

/-- writer 4 holds; readers 1 and 2 sleep; the unlock of 4 wakes both (head first); both enter together -/
example :
    ((machine kinds).run (init kinds)
      [.call 4 .wrlock, .mutexLock 4, .update 4, .mutexUnlock 4, .ret 4 .wrlock .ok,
       .call 1 .rdlock, .call 2 .rdlock, .mutexLock 1, .sleep 1, .mutexLock 2, .sleep 2, .enq 1, .enq 2,
       .call 4 .unlock, .mutexLock 4, .update 4, .wake 4 1, .wake 4 2, .mutexUnlock 4, .ret 4 .unlock .ok,
       .mutexLock 2, .update 2, .mutexUnlock 2, .mutexLock 1, .update 1, .mutexUnlock 1,
       .ret 1 .rdlock .ok, .ret 2 .rdlock .ok]).map
        (fun s => decide (s.readers = [1, 2] ∧ s.readerCount = 2 ∧ s.writer = none ∧ s.writeFlag = false ∧ s.q = []))
      = some true := by decide

/-- a reader enters while other readers hold (and while a writer is asleep waiting for them): it does not wait -/
example :
    ((machine kinds).run (init kinds)
      [.call 1 .rdlock, .mutexLock 1, .update 1, .mutexUnlock 1, .ret 1 .rdlock .ok,
       .call 3 .wrlock, .mutexLock 3, .sleep 3,
       .call 2 .rdlock, .mutexLock 2, .update 2, .mutexUnlock 2, .ret 2 .rdlock .ok,
       .call 1 .rdlock, .mutexLock 1, .update 1, .mutexUnlock 1, .ret 1 .rdlock .ok]).map
        (fun s => decide (s.readers = [1, 2, 1] ∧ s.readerCount = 3 ∧ s.pc 3 = .wSleep ∧ s.q = [3]))
      = some true := by decide

/-- and the model refuses what the property forbids: a reader sleeping while only readers hold; a writer proceeding
while a reader holds; an unlocker leaving with sleepers still queued; a tasklet locking -/
example :
    ((machine kinds).run (init kinds)
      [.call 1 .rdlock, .mutexLock 1, .update 1, .mutexUnlock 1, .ret 1 .rdlock .ok,
       .call 2 .rdlock, .mutexLock 2, .sleep 2]).isNone = true ∧
    ((machine kinds).run (init kinds)
      [.call 1 .rdlock, .mutexLock 1, .update 1, .mutexUnlock 1, .ret 1 .rdlock .ok,
       .call 3 .wrlock, .mutexLock 3, .update 3]).isNone = true ∧
    ((machine kinds).run (init kinds)
      [.call 1 .rdlock, .mutexLock 1, .update 1, .mutexUnlock 1, .ret 1 .rdlock .ok,
       .call 3 .wrlock, .mutexLock 3, .sleep 3,
       .call 1 .unlock, .mutexLock 1, .update 1, .mutexUnlock 1]).isNone = true ∧
    ((machine kinds).run (init kinds) [.call 9 .rdlock, .mutexLock 9]).isNone = true ∧
    ((machine kinds).run (init kinds) [.call 9 .wrlock, .ret 9 .wrlock .err]).isSome = true := by decide

/-- `enabled` on a concrete state: writer 3 asleep behind reader 1 (idle holder): progress is possible (1 can unlock) -/
example :
    ((machine kinds).run (init kinds)
      [.call 1 .rdlock, .mutexLock 1, .update 1, .mutexUnlock 1, .ret 1 .rdlock .ok,
       .call 3 .wrlock, .mutexLock 3, .sleep 3]).map
        (fun s => (enabled s [1, 3], enabledFor s 3, enabledFor s 1, active s 3, active s 2)) =
      some (true, false, true, true, false) := by decide


/-! ## widths of the counters modelled as unbounded numbers (generated from the headers on every run) -/
/-- `reader_count` is 8 bytes wide in this tree: the unbounded model agrees with the C field below 2^63 -/
example : ArgoVerif.Gen.Consts.bytesRwlockReaderCount = 8 := by decide

end ArgoVerif.Props.C10
