import ArgoVerif.Proofs.Sched
/-
Props.C11 — suspend/resume and directed switches hand control exactly as documented (unit-level part).
-/
namespace ArgoVerif.Props.C11
open ArgoVerif ArgoVerif.Model.Sched

/-- **not run until resumed**: a blocked unit gets a run slice (or is made READY / pushed) only after a resume was
issued for this suspension -/
theorem suspend_not_run_until_resumed (s s' : St) (e : Ev) (hs : step s e = some s') (u : UnitId)
    (hb : s.loc u = .blocked) (hleave : s'.loc u ≠ .blocked) : s.resumed u = true :=
  ((effect s s' e hs u).leaveBlocked hb hleave).1

/-- the `resumed` mark is set only by a resume event for that unit, which requires the unit to be completely suspended
(state BLOCKED, location blocked) and not already resumed: one resume, one way out -/
theorem resume_requires_blocked (s s' : St) (u : UnitId) (hs : step s (.resume u) = some s') :
    s.loc u = .blocked ∧ s.st u = .blocked ∧ s.resumed u = false ∧ s'.resumed u = true := by
  simp only [step, stepResume] at hs
  split at hs
  · rename_i h; cases hs; exact ⟨h.1, h.2.1, h.2.2, by simp [upd]⟩
  · cases hs

/-- **runs exactly once per resume**: leaving the blocked location consumes the resume mark -/
theorem resume_runs_exactly_once (s s' : St) (e : Ev) (hs : step s e = some s') (u : UnitId)
    (hb : s.loc u = .blocked) (hleave : s'.loc u ≠ .blocked) : s'.resumed u = false :=
  ((effect s s' e hs u).leaveBlocked hb hleave).2

/-- **resume-race safety**: in every reachable state a unit whose state reads BLOCKED is at the blocked location: its
context is saved, the scheduler callback has finished its increment; a resumer on another stream that acts the moment
BLOCKED becomes visible therefore never pushes a unit that is still switching -/
theorem resume_race_safe (s : St) (h : machine.Reachable s) (u : UnitId) (hb : s.st u = .blocked) :
    s.loc u = .blocked ∧ (s.resumed u = false → s.charged u = true) := by
  have hi := inv_reachable s h
  have hl := hi.stBlockedLoc u hb
  exact ⟨hl, fun hr => (hi.blockedCharged u hl hr).1⟩

/-- a resumed unit is at the blocked location until it is pushed or run (nobody else can have it) -/
theorem resumed_is_blocked (s : St) (h : machine.Reachable s) (u : UnitId) (hr : s.resumed u = true) : s.loc u = .blocked :=
  (inv_reachable s h).resumedBlocked u hr

/-- directed switch to a blocked unit (resume_yield_to / exit hand-off to the joiner): the target is run directly, without
passing through a pool, and only after a resume event -/
example :
    (machine.run init
      [.create 1 0, .push 0 1, .pop 7 0 1, .setSt 1 .running, .run 7 1, .userStart 1, .cb 7 1 .suspend, .incB 1 0,
       .setSt 1 .blocked, .resume 1, .decB 1 0, .setSt 1 .running, .run 7 1]).map
        (fun s => decide (s.loc 1 = .running 7 ∧ s.nb 0 = 0 ∧ s.lag 1 = 0)) = some true := by decide

/-- running a blocked unit without a resume is rejected -/
example : (machine.run init
      [.create 1 0, .push 0 1, .pop 7 0 1, .setSt 1 .running, .run 7 1, .cb 7 1 .suspend, .incB 1 0,
       .setSt 1 .blocked, .setSt 1 .running]).isNone = true := by decide

end ArgoVerif.Props.C11
