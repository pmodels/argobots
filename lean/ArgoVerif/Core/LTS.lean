/-
Core.LTS — labelled transition systems with a partial executable step,
runs, reachability, and the invariant principle every protocol theorem uses.
-/
namespace ArgoVerif

/-- pointwise update of a total function (identifier-indexed state, unbounded) -/
def upd {α : Type} {β : Type} [DecidableEq α] (f : α → β) (a : α) (v : β) : α → β :=
  fun x => if x = a then v else f x

@[simp] theorem upd_same {α β} [DecidableEq α] (f : α → β) (a : α) (v : β) : upd f a v a = v := by
  simp [upd]

@[simp] theorem upd_other {α β} [DecidableEq α] (f : α → β) (a b : α) (v : β) (h : b ≠ a) :
    upd f a v b = f b := by
  simp [upd, h]

/-- States in which every actor has a program counter, read by `pc`, and an invariant that is a part `G` without program
counters plus, for each actor, a part `L` of the state and that actor's program counter.  A step that moves only `a`, to `p`,
preserves the invariant if, given `G` and `L` of `a` before, it gives `G` and `L` of `a` at `p` after it, and `L` of every other
actor survives the writes to the shared fields. -/
theorem inv_of_move {σ α π : Type} [DecidableEq α] {Inv G : σ → Prop} {L : σ → α → π → Prop} {pc : σ → α → π}
    (hiff : ∀ s, Inv s ↔ G s ∧ ∀ a, L s a (pc s a)) {s s' : σ} {a : α} {p : π} (h : Inv s)
    (hpc : pc s' = upd (pc s) a p)
    (hs : G s → L s a (pc s a) → G s' ∧ L s' a p ∧ ∀ b, b ≠ a → L s b (pc s b) → L s' b (pc s b)) : Inv s' := by
  rw [hiff] at h ⊢
  obtain ⟨hg, hl, hfr⟩ := hs h.1 (h.2 a)
  refine ⟨hg, fun b => ?_⟩
  by_cases hb : b = a
  · simpa [hpc, hb] using hl
  · simpa [hpc, hb] using hfr b hb (h.2 b)

inductive Star {σ ε : Type} (Step : σ → ε → σ → Prop) : σ → List ε → σ → Prop where
  | refl (s) : Star Step s [] s
  | cons {s e s1 es s2} : Step s e s1 → Star Step s1 es s2 → Star Step s (e :: es) s2

theorem Star.invariant {σ ε : Type} {Step : σ → ε → σ → Prop} (Inv : σ → Prop)
    (hs : ∀ s e s', Inv s → Step s e s' → Inv s') :
    ∀ {s tr s'}, Star Step s tr s' → Inv s → Inv s' := by
  intro s tr s' h
  induction h with
  | refl => exact id
  | cons hst _ ih => intro hi; exact ih (hs _ _ _ hi hst)

theorem Star.snoc {σ ε : Type} {Step : σ → ε → σ → Prop} {s tr s1 e s2}
    (h : Star Step s tr s1) (hst : Step s1 e s2) : Star Step s (tr ++ [e]) s2 := by
  induction h with
  | refl => exact Star.cons hst (Star.refl _)
  | cons h1 _ ih => exact Star.cons h1 (ih hst)

structure Machine (σ : Type) (ε : Type) where
  init : σ
  step : σ → ε → Option σ

namespace Machine
variable {σ ε : Type}

/-- run a trace; `none` = the trace is not a behaviour of the model -/
def run (m : Machine σ ε) : σ → List ε → Option σ
  | s, [] => some s
  | s, e :: es => match m.step s e with
    | none => none
    | some s' => run m s' es

def Reachable (m : Machine σ ε) (s : σ) : Prop := ∃ tr, m.run m.init tr = some s

theorem run_append (m : Machine σ ε) (s : σ) (t1 t2 : List ε) :
    m.run s (t1 ++ t2) = (m.run s t1).bind (fun s' => m.run s' t2) := by
  induction t1 generalizing s with
  | nil => simp [run]
  | cons e es ih =>
    simp only [List.cons_append, run]
    cases h : m.step s e with
    | none => simp
    | some s' => simpa using ih s'

theorem run_star (m : Machine σ ε) (Step : σ → ε → σ → Prop)
    (sound : ∀ s e s', m.step s e = some s' → Step s e s') :
    ∀ tr s s', m.run s tr = some s' → Star Step s tr s' := by
  intro tr
  induction tr with
  | nil => intro s s' h; simp [Machine.run] at h; subst h; exact Star.refl _
  | cons e es ih =>
    intro s s' h
    simp only [Machine.run] at h
    cases hst : m.step s e with
    | none => simp [hst] at h
    | some s1 => simp only [hst] at h; exact Star.cons (sound _ _ _ hst) (ih _ _ h)

theorem invariant_run (m : Machine σ ε) (Inv : σ → Prop)
    (hs : ∀ s e s', Inv s → m.step s e = some s' → Inv s') :
    ∀ tr s s', Inv s → m.run s tr = some s' → Inv s' :=
  fun tr s s' h hr => (m.run_star (fun s e s' => m.step s e = some s') (fun _ _ _ h => h) tr s s' hr).invariant Inv hs h

theorem invariant_reachable (m : Machine σ ε) (Inv : σ → Prop) (h0 : Inv m.init)
    (hs : ∀ s e s', Inv s → m.step s e = some s' → Inv s') :
    ∀ s, m.Reachable s → Inv s := by
  intro s ⟨tr, hr⟩
  exact invariant_run m Inv hs tr m.init s h0 hr

end Machine

end ArgoVerif
