import ArgoVerif.Core.LTS
/-
Core.Heap — linked lists in a heap of `Nat`-indexed nodes (0 = NULL).  A heap is a family of field
functions `next`, `prev : Nat → Nat`; field writes are `upd next a v`.  All list shapes are defined from
`Seg next a xs b` by structural recursion on the abstract list `xs`:
  * `SLL next head xs`                NULL-terminated singly linked list
  * `DLL prev next b head xs tail a`  doubly linked segment whose first node's `prev` is `b` and last
                                      node's `next` is `a` (`b = a = 0`: the usual NULL-terminated list)
  * `Circ prev next head tail xs`     circular doubly linked list as kept by `thread_queue_t`
Core Lean only.
-/
namespace ArgoVerif.Heap
open ArgoVerif

/-- following `next` from `a` visits exactly `xs` (all non-null) and arrives at `b` -/
def Seg (next : Nat → Nat) : Nat → List Nat → Nat → Prop
  | a, [], b => a = b
  | a, x :: xs, b => a = x ∧ x ≠ 0 ∧ Seg next (next x) xs b

instance Seg.dec (next : Nat → Nat) : (a : Nat) → (xs : List Nat) → (b : Nat) → Decidable (Seg next a xs b)
  | a, [], b => inferInstanceAs (Decidable (a = b))
  | a, x :: xs, b =>
    have := Seg.dec next (next x) xs b
    inferInstanceAs (Decidable (a = x ∧ x ≠ 0 ∧ Seg next (next x) xs b))

@[simp] theorem seg_nil {next : Nat → Nat} {a b : Nat} : Seg next a [] b ↔ a = b := Iff.rfl

@[simp] theorem seg_cons {next : Nat → Nat} {a x b : Nat} {xs : List Nat} :
    Seg next a (x :: xs) b ↔ a = x ∧ x ≠ 0 ∧ Seg next (next x) xs b := Iff.rfl

theorem seg_nonnull {next : Nat → Nat} {a b : Nat} {xs : List Nat} (h : Seg next a xs b) :
    ∀ x ∈ xs, x ≠ 0 := by
  induction xs generalizing a with
  | nil => simp
  | cons y ys ih =>
    obtain ⟨_, hy, hr⟩ := h
    intro x hx
    rcases List.mem_cons.mp hx with rfl | hx
    · exact hy
    · exact ih hr x hx

theorem seg_head {next : Nat → Nat} {a b x : Nat} {xs : List Nat} (h : Seg next a (x :: xs) b) : a = x := h.1

theorem seg_congr {next next' : Nat → Nat} {a b : Nat} {xs : List Nat}
    (hag : ∀ x ∈ xs, next' x = next x) : Seg next' a xs b ↔ Seg next a xs b := by
  induction xs generalizing a with
  | nil => simp
  | cons y ys ih =>
    have hy : next' y = next y := hag y (by simp)
    have ih' := @ih (next y) (fun x hx => hag x (by simp [hx]))
    simp only [seg_cons, hy, ih']

theorem seg_frame {next : Nat → Nat} {a b t v : Nat} {xs : List Nat} (h : t ∉ xs) :
    Seg (upd next t v) a xs b ↔ Seg next a xs b := by
  apply seg_congr
  intro x hx
  have : x ≠ t := fun e => h (e ▸ hx)
  simp [upd, this]

theorem seg_append_iff {next : Nat → Nat} {a c : Nat} {xs ys : List Nat} :
    Seg next a (xs ++ ys) c ↔ ∃ b, Seg next a xs b ∧ Seg next b ys c := by
  induction xs generalizing a with
  | nil => simp
  | cons y r ih =>
    simp only [List.cons_append, seg_cons, ih]
    constructor
    · rintro ⟨h1, h2, b, h3, h4⟩; exact ⟨b, ⟨h1, h2, h3⟩, h4⟩
    · rintro ⟨b, ⟨h1, h2, h3⟩, h4⟩; exact ⟨h1, h2, b, h3, h4⟩

theorem seg_append {next : Nat → Nat} {a b c : Nat} {xs ys : List Nat}
    (h1 : Seg next a xs b) (h2 : Seg next b ys c) : Seg next a (xs ++ ys) c :=
  seg_append_iff.mpr ⟨b, h1, h2⟩

theorem seg_snoc_iff {next : Nat → Nat} {a b u : Nat} {xs : List Nat} :
    Seg next a (xs ++ [u]) b ↔ Seg next a xs u ∧ u ≠ 0 ∧ next u = b := by
  simp only [seg_append_iff, seg_cons, seg_nil]
  constructor
  · rintro ⟨m, h1, h2, h3, h4⟩; subst h2; exact ⟨h1, h3, h4⟩
  · rintro ⟨h1, h2, h3⟩; exact ⟨u, h1, rfl, h2, h3⟩

theorem seg_split {next : Nat → Nat} {a c u : Nat} {as bs : List Nat} :
    Seg next a (as ++ u :: bs) c ↔ Seg next a as u ∧ u ≠ 0 ∧ Seg next (next u) bs c := by
  simp only [seg_append_iff, seg_cons]
  constructor
  · rintro ⟨m, h1, h2, h3, h4⟩; subst h2; exact ⟨h1, h3, h4⟩
  · rintro ⟨h1, h2, h3⟩; exact ⟨u, h1, rfl, h2, h3⟩

theorem seg_set_last {next : Nat → Nat} {a b b' t : Nat} {xs : List Nat}
    (h : Seg next a (xs ++ [t]) b) (hn : t ∉ xs) : Seg (upd next t b') a (xs ++ [t]) b' := by
  rw [seg_snoc_iff] at h ⊢
  exact ⟨(seg_frame hn).mpr h.1, h.2.1, by simp⟩

theorem exists_snoc {xs : List Nat} (h : xs ≠ []) : ∃ ini l, xs = ini ++ [l] :=
  ⟨xs.dropLast, xs.getLast h, (List.dropLast_concat_getLast h).symm⟩

theorem nodup_reverse {xs : List Nat} : xs.reverse.Nodup ↔ xs.Nodup := by
  simp only [List.Nodup, List.pairwise_reverse]
  constructor <;> exact fun h => h.imp (fun h => Ne.symm h)

theorem nodup_snoc {xs : List Nat} {l : Nat} : (xs ++ [l]).Nodup ↔ l ∉ xs ∧ xs.Nodup := by
  rw [List.nodup_append]
  constructor
  · rintro ⟨h1, _, h3⟩; exact ⟨fun hm => h3 l hm l (by simp) rfl, h1⟩
  · rintro ⟨h1, h2⟩
    refine ⟨h2, by simp, ?_⟩
    intro a ha b hb e
    simp at hb; subst hb; subst e; exact h1 ha

theorem seg_getLast {next : Nat → Nat} {a b : Nat} {xs : List Nat} (h : Seg next a xs b) (hne : xs ≠ []) :
    next (xs.getLast hne) = b := by
  obtain ⟨ini, l, rfl⟩ := exists_snoc hne
  rw [seg_snoc_iff] at h
  simpa using h.2.2

theorem seg_closed_head_mem {next : Nat → Nat} {a : Nat} {xs : List Nat} (h : Seg next a xs a) (hne : xs ≠ []) :
    a ∈ xs := by
  cases xs with
  | nil => exact absurd rfl hne
  | cons x r => simp [h.1]

/-- executable traversal: `n` nodes starting at `a` -/
def walk (next : Nat → Nat) : Nat → Nat → List Nat
  | _, 0 => []
  | a, n + 1 => a :: walk next (next a) n

@[simp] theorem walk_length (next : Nat → Nat) (a n : Nat) : (walk next a n).length = n := by
  induction n generalizing a with
  | zero => rfl
  | succ n ih => simp [walk, ih]

theorem seg_walk {next : Nat → Nat} {a b : Nat} {xs : List Nat} (h : Seg next a xs b) :
    walk next a xs.length = xs := by
  induction xs generalizing a with
  | nil => rfl
  | cons y r ih =>
    obtain ⟨rfl, _, hr⟩ := h
    simp [walk, ih hr]

/-- inside a duplicate-free segment the link of a node determines its successor:
if `p`'s link is the arrival point `b` and `b` is not itself in `xs`, `p` is the last node -/
theorem seg_link_out {next : Nat → Nat} {a b p : Nat} {xs : List Nat} (h : Seg next a xs b)
    (hb : b ∉ xs) (hp : p ∈ xs) (hl : next p = b) : ∃ ini, xs = ini ++ [p] := by
  induction xs generalizing a with
  | nil => simp at hp
  | cons y r ih =>
    obtain ⟨rfl, hy, hr⟩ := h
    cases r with
    | nil =>
      simp at hp; subst hp; exact ⟨[], rfl⟩
    | cons z r' =>
      rcases List.mem_cons.mp hp with rfl | hp'
      · -- next p = z, a member, contradiction with b ∉ xs
        exfalso; apply hb
        have : next p = z := hr.1
        simp [← hl, this]
      · obtain ⟨ini, hini⟩ := ih hr (fun hm => hb (List.mem_cons_of_mem _ hm)) hp'
        exact ⟨a :: ini, by simp [hini]⟩

/-! ### singly linked, NULL-terminated -/

def SLL (next : Nat → Nat) (head : Nat) (xs : List Nat) : Prop := Seg next head xs 0

theorem sll_nil_iff {next : Nat → Nat} {head : Nat} {xs : List Nat} (h : SLL next head xs) :
    head = 0 ↔ xs = [] := by
  cases xs with
  | nil => simpa [SLL] using h
  | cons x r =>
    obtain ⟨rfl, hx, _⟩ := h
    simp [hx]

/-! ### doubly linked segments -/

/-- doubly linked segment: forward from `head` through `xs` to `after`, backward from `tail`
through `xs.reverse` to `before`.  (`before = after = 0`: NULL-terminated list with head and
tail pointers; `before = tail`, `after = head`: circular list.) -/
def DLL (prev next : Nat → Nat) (before head : Nat) (xs : List Nat) (tail after : Nat) : Prop :=
  Seg next head xs after ∧ Seg prev tail xs.reverse before

instance (prev next : Nat → Nat) (b h : Nat) (xs : List Nat) (t a : Nat) : Decidable (DLL prev next b h xs t a) :=
  inferInstanceAs (Decidable (_ ∧ _))

/-- reversal symmetry: read the same nodes backwards -/
theorem dll_mirror {prev next : Nat → Nat} {b h t a : Nat} {xs : List Nat} :
    DLL prev next b h xs t a ↔ DLL next prev a t xs.reverse h b := by
  simp [DLL, and_comm]

theorem dll_frame {prev next : Nat → Nat} {b h t a u v w : Nat} {xs : List Nat} (hu : u ∉ xs) :
    DLL (upd prev u v) (upd next u w) b h xs t a ↔ DLL prev next b h xs t a := by
  simp only [DLL]
  rw [seg_frame hu, seg_frame (by simpa using hu)]

theorem dll_head {prev next : Nat → Nat} {b h t a x : Nat} {xs : List Nat}
    (hd : DLL prev next b h (x :: xs) t a) : h = x ∧ prev x = b := by
  refine ⟨hd.1.1, ?_⟩
  have := hd.2
  rw [List.reverse_cons, seg_snoc_iff] at this
  exact this.2.2

theorem dll_last {prev next : Nat → Nat} {b h t a x : Nat} {xs : List Nat}
    (hd : DLL prev next b h (xs ++ [x]) t a) : t = x ∧ next x = a := by
  have hm := dll_mirror.mp hd
  rw [List.reverse_append] at hm
  exact dll_head (xs := xs.reverse) (by simpa using hm)

/-! ### circular doubly linked lists (thread_queue_t) -/

/-- circular doubly linked list with explicit head and tail pointers, exactly the shape
`thread_queue.h` maintains: no duplicates; empty ⇒ `head = tail = NULL`; otherwise `head` is the
first and `tail` the last node, `tail->next = head` and `head->prev = tail`, `next`/`prev` are
inverse along `xs`.  (A list that keeps no tail pointer uses `tail := prev head`.) -/
def Circ (prev next : Nat → Nat) (head tail : Nat) (xs : List Nat) : Prop :=
  xs.Nodup ∧ DLL prev next tail head xs tail head ∧ (xs = [] → head = 0 ∧ tail = 0)

instance (prev next : Nat → Nat) (h t : Nat) (xs : List Nat) : Decidable (Circ prev next h t xs) :=
  inferInstanceAs (Decidable (_ ∧ _ ∧ _))

theorem circ_nil {prev next : Nat → Nat} : Circ prev next 0 0 [] := by simp [Circ, DLL]

theorem circ_mirror {prev next : Nat → Nat} {h t : Nat} {xs : List Nat} :
    Circ prev next h t xs ↔ Circ next prev t h xs.reverse := by
  simp only [Circ, nodup_reverse, List.reverse_eq_nil_iff]
  rw [dll_mirror (xs := xs)]
  simp [and_comm]

theorem circ_nonnull {prev next : Nat → Nat} {h t : Nat} {xs : List Nat} (hc : Circ prev next h t xs) :
    ∀ x ∈ xs, x ≠ 0 := seg_nonnull hc.2.1.1

theorem circ_head {prev next : Nat → Nat} {h t x : Nat} {xs : List Nat} (hc : Circ prev next h t (x :: xs)) :
    h = x ∧ prev x = t ∧ x ≠ 0 := by
  have := dll_head hc.2.1
  exact ⟨this.1, this.2, hc.2.1.1.2.1⟩

theorem circ_last {prev next : Nat → Nat} {h t x : Nat} {xs : List Nat} (hc : Circ prev next h t (xs ++ [x])) :
    t = x ∧ next x = h ∧ x ≠ 0 := by
  have := dll_last hc.2.1
  exact ⟨this.1, this.2, circ_nonnull hc x (by simp)⟩

theorem circ_head_null_iff {prev next : Nat → Nat} {h t : Nat} {xs : List Nat} (hc : Circ prev next h t xs) :
    h = 0 ↔ xs = [] := by
  cases xs with
  | nil => simp [(hc.2.2 rfl).1]
  | cons x r => have := circ_head hc; simp [this.1, this.2.2]

theorem circ_walk {prev next : Nat → Nat} {h t : Nat} {xs : List Nat} (hc : Circ prev next h t xs) :
    walk next h xs.length = xs := seg_walk hc.2.1.1

theorem circ_walk_back {prev next : Nat → Nat} {h t : Nat} {xs : List Nat} (hc : Circ prev next h t xs) :
    walk prev t xs.length = xs.reverse := by
  have := seg_walk hc.2.1.2
  simpa using this

theorem circ_congr {prev next prev' next' : Nat → Nat} {h t : Nat} {xs : List Nat}
    (hp : ∀ x ∈ xs, prev' x = prev x) (hn : ∀ x ∈ xs, next' x = next x) :
    Circ prev' next' h t xs ↔ Circ prev next h t xs := by
  simp only [Circ, DLL]
  rw [seg_congr hn, seg_congr (xs := xs.reverse) (by simpa using hp)]

theorem circ_singleton {prev next : Nat → Nat} {u : Nat} (hu : u ≠ 0) (hp : prev u = u) (hn : next u = u) :
    Circ prev next u u [u] := by
  simp [Circ, DLL, hu, hp, hn]

/-- **push at the head** of a non-empty circular list: the four link writes of
`thread_queue_push_head` (`tail->next = u; head->prev = u; u->prev = tail; u->next = head`) -/
theorem circ_push_head {prev next : Nat → Nat} {h t u : Nat} {xs : List Nat}
    (hc : Circ prev next h t xs) (hne : xs ≠ []) (hu : u ≠ 0) (hnm : u ∉ xs) :
    Circ (upd (upd prev h u) u t) (upd (upd next t u) u h) u t (u :: xs) := by
  obtain ⟨hnd, ⟨hf, hb⟩, _⟩ := hc
  refine ⟨List.nodup_cons.mpr ⟨hnm, hnd⟩, ⟨?_, ?_⟩, by simp⟩
  · -- forward: u, then the old list whose last link now goes to u
    obtain ⟨ini, l, rfl⟩ := exists_snoc hne
    have hl : t = l := by
      rw [List.reverse_append] at hb; exact hb.1
    subst hl
    simp only [seg_cons, upd_same]
    refine ⟨trivial, hu, ?_⟩
    rw [seg_frame hnm]
    exact seg_set_last hf (nodup_snoc.mp hnd).1
  · -- backward: the old reversed list whose last link (the old head's prev) now goes to u, then u
    rw [List.reverse_cons, seg_snoc_iff]
    refine ⟨?_, hu, by simp⟩
    rw [seg_frame (by simpa using hnm)]
    cases xs with
    | nil => exact absurd rfl hne
    | cons x r =>
      have hh : h = x := hf.1
      subst hh
      rw [List.reverse_cons] at hb ⊢
      exact seg_set_last hb (by simpa using (List.nodup_cons.mp hnd).1)

/-- **push at the tail** (mirror image of `circ_push_head`; the same four link writes) -/
theorem circ_push_tail {prev next : Nat → Nat} {h t u : Nat} {xs : List Nat}
    (hc : Circ prev next h t xs) (hne : xs ≠ []) (hu : u ≠ 0) (hnm : u ∉ xs) :
    Circ (upd (upd prev h u) u t) (upd (upd next t u) u h) h u (xs ++ [u]) := by
  have hm := circ_mirror.mp hc
  have := circ_push_head hm (by simpa using hne) hu (by simpa using hnm)
  exact (circ_mirror (xs := xs ++ [u])).mpr (by simpa using this)

/-- **unlink the first node** of a circular list with at least two nodes
(`u->prev->next = u->next; u->next->prev = u->prev; head = u->next`, then `u`'s own links are
overwritten by anything): `thread_queue_pop_head`, and `thread_queue_remove` of the head -/
theorem circ_unlink_head {prev next : Nat → Nat} {h t u : Nat} {bs : List Nat}
    (hc : Circ prev next h t (u :: bs)) (hbne : bs ≠ []) (v w : Nat) :
    Circ (upd (upd prev (next u) (prev u)) u v) (upd (upd next (prev u) (next u)) u w) (next u) t bs := by
  have hpu : prev u = t := (circ_head hc).2.1
  obtain ⟨hnd, ⟨hf, hb⟩, _⟩ := hc
  obtain ⟨hub, hndb⟩ := List.nodup_cons.mp hnd
  obtain ⟨_, hu0, hf'⟩ := hf
  rw [List.reverse_cons, seg_snoc_iff] at hb
  obtain ⟨hb', _, _⟩ := hb
  rw [hpu]
  refine ⟨hndb, ⟨?_, ?_⟩, fun e => absurd e hbne⟩
  · rw [seg_frame hub]
    obtain ⟨ini, l, rfl⟩ := exists_snoc hbne
    have hl : t = l := by rw [List.reverse_append] at hb'; exact hb'.1
    subst hl
    exact seg_set_last hf' (nodup_snoc.mp hndb).1
  · rw [seg_frame (by simpa using hub)]
    cases bs with
    | nil => exact absurd rfl hbne
    | cons y r =>
      have hy : next u = y := hf'.1
      rw [hy]
      rw [List.reverse_cons] at hb' ⊢
      exact seg_set_last hb' (by simpa using (List.nodup_cons.mp hndb).1)

/-- **unlink the last node** (mirror image): `thread_queue_pop_tail`, `remove` of the tail -/
theorem circ_unlink_tail {prev next : Nat → Nat} {h t u : Nat} {as : List Nat}
    (hc : Circ prev next h t (as ++ [u])) (hane : as ≠ []) (v w : Nat) :
    Circ (upd (upd prev (next u) (prev u)) u v) (upd (upd next (prev u) (next u)) u w) h (prev u) as := by
  have hm := circ_mirror.mp hc
  rw [List.reverse_append] at hm
  have := circ_unlink_head (bs := as.reverse) (by simpa using hm) (by simpa using hane) w v
  exact (circ_mirror (xs := as)).mpr (by simpa using this)

/-- **unlink from the middle** (`thread_queue_remove` of a node that is neither first nor last):
predecessor and successor are linked to each other, head and tail stay -/
theorem circ_unlink_mid {prev next : Nat → Nat} {h t u : Nat} {as bs : List Nat}
    (hc : Circ prev next h t (as ++ u :: bs)) (hane : as ≠ []) (hbne : bs ≠ []) (v w : Nat) :
    Circ (upd (upd prev (next u) (prev u)) u v) (upd (upd next (prev u) (next u)) u w) h t (as ++ bs) := by
  obtain ⟨hnd, ⟨hf, hb⟩, _⟩ := hc
  obtain ⟨as', p, rfl⟩ := exists_snoc hane
  obtain ⟨n, bs', rfl⟩ : ∃ n bs', bs = n :: bs' := by
    cases bs with
    | nil => exact absurd rfl hbne
    | cons n bs' => exact ⟨n, bs', rfl⟩
  rw [seg_split] at hf
  obtain ⟨hf1, hu0, hf2⟩ := hf
  have hnu : next u = n := hf2.1
  have hrev : (as' ++ [p] ++ u :: n :: bs').reverse = (n :: bs').reverse ++ u :: (p :: as'.reverse) := by simp
  rw [hrev, seg_split] at hb
  obtain ⟨hb1, _, hb2⟩ := hb
  have hpu : prev u = p := hb2.1
  rw [hnu, hpu]
  rw [hnu] at hf2
  rw [hpu] at hb2
  -- distinctness: `u`, `p`, `n` occur once in the old list
  obtain ⟨hu_not, hnd2, hp_as', hp_bs, hn_bs', hn_as⟩ :
      u ∉ as' ++ [p] ++ n :: bs' ∧ (as' ++ [p] ++ n :: bs').Nodup ∧ p ∉ as' ∧ p ∉ n :: bs' ∧ n ∉ bs' ∧ n ∉ as' ++ [p] := by
    have hnd1 : (as' ++ [p] ++ u :: n :: bs').Nodup := hnd
    simp only [List.nodup_append, List.nodup_cons, List.mem_append, List.mem_cons] at hnd1 ⊢
    grind
  refine ⟨hnd2, ⟨?_, ?_⟩, by simp⟩
  · rw [seg_frame hu_not]
    apply seg_append (b := n)
    · exact seg_set_last hf1 hp_as'
    · rw [seg_frame hp_bs]; exact hf2
  · have hrev2 : (as' ++ [p] ++ n :: bs').reverse = (bs'.reverse ++ [n]) ++ (p :: as'.reverse) := by simp
    rw [seg_frame (fun hm => hu_not (List.mem_reverse.mp hm)), hrev2]
    apply seg_append (b := p)
    · have hb1' : Seg prev t (bs'.reverse ++ [n]) u := by simpa using hb1
      exact seg_set_last hb1' (by simpa using hn_bs')
    · rw [seg_frame (by
        intro hm; apply hn_as
        rcases List.mem_cons.mp hm with e | hm
        · simp [e]
        · simp [List.mem_reverse.mp hm])]
      exact hb2

end ArgoVerif.Heap
