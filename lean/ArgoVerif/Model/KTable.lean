import ArgoVerif.Core.LTS
/-
Model.KTable — work-unit-local storage (src/include/abti_key.h, src/key.c).

One `ABTI_ktable` per work unit, created lazily by the first set:
`p_thread->p_keytable` goes NULL → LOCKED → table (CAS / release-store).  The
table has `size` bucket heads (`p_elems[key_id & (size-1)]`); every bucket is a
singly linked chain of `ABTI_ktelem {f_destructor, key_id, value, p_next}` that
is only ever extended at its tail (under `p_ktable->lock`); a set on a key that
is already present overwrites `value` in place.  Element storage is carved from
the block that holds the table (`p_extra_mem` / `extra_mem_size`) and, when that
is exhausted, from further blocks pushed on the `p_used_mem` list.
`ABTI_ktable_free` walks bucket 0..size-1, each chain in link order, calls
`f_destructor(value)` when both are non-NULL, then releases every block of
`p_used_mem`.

Representation: a chain is the list of its elements in `p_next` order; blocks
are numbered in allocation order (ghost ids) so that "freed once" can be stated.
`Val = Nat` with `0 = NULL`; destructor identity is a `Nat` with `0 = NULL`.

Part 1 is the sequential semantics (what one caller at a time observes; this
is what the differential driver executes).  Part 2 is an interleaving model of
concurrent `ABTI_ktable_set` calls on one slot at the granularity of the atomic
operations of the C code.
-/
namespace ArgoVerif.Model.KTable

abbrev Val := Nat

/-- `ABTI_key` : `id` from the global counter `g_key_id` (starts at
`ABTI_KEY_ID_END_`; smaller ids are the runtime's predefined keys), and the
destructor (`0` = NULL) -/
structure Key where
  id : Nat
  dtor : Nat
deriving Repr, DecidableEq

/-- `ABTI_ktelem`; `blk` is ghost: the block its storage was carved from -/
structure Elem where
  dtor : Nat
  keyId : Nat
  val : Val
  blk : Nat
deriving Repr, DecidableEq

inductive BlkKind where
  | mempool   -- ABTI_mem_alloc_desc / ABTI_mem_free_desc
  | malloc    -- ABTU_malloc / ABTU_free
deriving Repr, DecidableEq

/-- layout constants (instantiated from `Gen.Consts` by the driver and the tie) -/
structure Geom where
  descSize : Nat   -- ABTI_KTABLE_DESC_SIZE
  hdr : Nat        -- offsetof(ABTI_ktable, p_elems)
  slot : Nat       -- sizeof(ABTD_atomic_ptr)
  align : Nat      -- ABTU_MAX_ALIGNMENT
  elem : Nat       -- sizeof(ABTI_ktelem) rounded up to ABTU_MAX_ALIGNMENT
deriving Repr

structure Table where
  size : Nat
  b : Nat → List Elem
  used : List (Nat × BlkKind)     -- `p_used_mem` list, most recent block first
  extra : Nat                     -- `extra_mem_size`
  extraBlk : Nat                  -- ghost: block `p_extra_mem` points into
  nblk : Nat                      -- ghost: blocks obtained so far (= next block id)
  ledger : List (Nat × BlkKind)   -- ghost: every block obtained from an allocator, oldest first

def roundup (v m : Nat) : Nat := ((v + m - 1) / m) * m

def tableBytes (g : Geom) (size : Nat) : Nat := roundup (g.hdr + g.slot * size) g.align

/-- the table `ABTI_ktable_create` builds when its allocation succeeds -/
def createOk (g : Geom) (size : Nat) : Table :=
  let tb := tableBytes g size
  if tb ≤ g.descSize then
    { size := size, b := fun _ => [], used := [(0, .mempool)], extra := g.descSize - tb,
      extraBlk := 0, nblk := 1, ledger := [(0, .mempool)] }
  else
    { size := size, b := fun _ => [], used := [(0, .malloc)], extra := 0,
      extraBlk := 0, nblk := 1, ledger := [(0, .malloc)] }

/-- `ABTI_ktable_create`; `mem = false`: the allocator fails -/
def create (g : Geom) (size : Nat) (mem : Bool) : Option Table :=
  if mem then some (createOk g size) else none

/-- `ABTI_ktable_alloc_elem` for one element: new table state and the block the
storage comes from; `none` = a needed allocation failed.  The third branch (element
larger than a descriptor) leaves `p_extra_mem`/`extra_mem_size` untouched, as the C code. -/
def allocElem (g : Geom) (t : Table) (mem : Bool) : Option (Table × Nat) :=
  if g.elem ≤ t.extra then
    some ({ t with extra := t.extra - g.elem }, t.extraBlk)
  else if !mem then none
  else if g.elem ≤ g.descSize then
    some ({ t with used := (t.nblk, .mempool) :: t.used, ledger := t.ledger ++ [(t.nblk, .mempool)],
                   nblk := t.nblk + 1, extra := g.descSize - g.elem, extraBlk := t.nblk }, t.nblk)
  else
    some ({ t with used := (t.nblk, .malloc) :: t.used, ledger := t.ledger ++ [(t.nblk, .malloc)],
                   nblk := t.nblk + 1 }, t.nblk)

/-- `ABTI_ktable_get_idx`: `key_id & (size - 1)` -/
def idx (size keyId : Nat) : Nat := keyId &&& (size - 1)

def updB (f : Nat → List Elem) (i : Nat) (c : List Elem) : Nat → List Elem :=
  fun j => if j = i then c else f j

/-- overwrite `value` of the first element with this key id -/
def chainUpd (kid : Nat) (v : Val) : List Elem → List Elem
  | [] => []
  | e :: r => if e.keyId = kid then { e with val := v } :: r else e :: chainUpd kid v r

def chainHas (kid : Nat) (c : List Elem) : Bool := c.any (fun e => e.keyId == kid)

def chainGet (kid : Nat) : List Elem → Val
  | [] => 0
  | e :: r => if e.keyId = kid then e.val else chainGet kid r

/-- `ABTI_ktable_set_impl` as seen by one caller at a time.  Bool = ABT_SUCCESS -/
def setImpl (g : Geom) (t : Table) (k : Key) (v : Val) (mem : Bool) : Table × Bool :=
  let i := idx t.size k.id
  if chainHas k.id (t.b i) then
    ({ t with b := updB t.b i (chainUpd k.id v (t.b i)) }, true)
  else
    match allocElem g t mem with
    | none => (t, false)
    | some (t', blk) =>
      ({ t' with b := updB t'.b i (t'.b i ++ [{ dtor := k.dtor, keyId := k.id, val := v, blk := blk }]) }, true)

/-- lookup part of `ABTI_ktable_get` on a valid table -/
def tget (t : Table) (kid : Nat) : Val := chainGet kid (t.b (idx t.size kid))

/-- a work unit's `p_keytable` between operations: NULL or a table -/
abbrev Slot := Option Table

/-- `ABTI_ktable_set` / `ABTI_ktable_set_unsafe` without concurrency.
`memT`: table allocation succeeds, `memE`: element-block allocation succeeds.
When the table is created but the element allocation fails the (empty) table stays. -/
def slotSet (g : Geom) (size : Nat) (s : Slot) (k : Key) (v : Val) (memT memE : Bool) : Slot × Bool :=
  match s with
  | some t => let (t', ok) := setImpl g t k v memE; (some t', ok)
  | none =>
    match create g size memT with
    | none => (none, false)
    | some t => let (t', ok) := setImpl g t k v memE; (some t', ok)

/-- `ABTI_ktable_get` -/
def slotGet (s : Slot) (kid : Nat) : Val :=
  match s with
  | some t => tget t kid
  | none => 0

/-- one destructor invocation; `keyId` is ghost (the C destructor receives only `val`) -/
structure DCall where
  keyId : Nat
  dtor : Nat
  val : Val
deriving Repr, DecidableEq

def chainCalls : List Elem → List DCall
  | [] => []
  | e :: r =>
    if e.dtor ≠ 0 ∧ e.val ≠ 0 then { keyId := e.keyId, dtor := e.dtor, val := e.val } :: chainCalls r
    else chainCalls r

def callsFrom (t : Table) : Nat → Nat → List DCall
  | _, 0 => []
  | i, n + 1 => chainCalls (t.b i) ++ callsFrom t (i + 1) n

/-- destructor calls of `ABTI_ktable_free`, in call order (bucket 0.., chain order) -/
def freeCalls (t : Table) : List DCall := callsFrom t 0 t.size

/-- blocks released by `ABTI_ktable_free`, in release order, with the deallocator used -/
def freeBlocks (t : Table) : List (Nat × BlkKind) := t.used

/-- `thread_free`: key-table part.  (`thread_revive` does not touch `p_keytable`.) -/
def slotFree (s : Slot) : List DCall × List (Nat × BlkKind) :=
  match s with
  | some t => (freeCalls t, freeBlocks t)
  | none => ([], [])

/-- `ABTD_env_key_table_size`: `roundup_pow2_uint32(clamp(ABT_KEY_TABLE_SIZE, 1, UINT32_MAX))`;
the loop of `roundup_pow2_uint32` stops at bit 31, so the result is one of 2^0 … 2^31 -/
def roundupPow2 (v : Nat) : Nat :=
  if v = 0 then 0 else
  let rec go (i fuel : Nat) : Nat :=
    match fuel with
    | 0 => i
    | f + 1 => if (v - 1) >>> i = 0 then i else go (i + 1) f
  1 <<< go 0 31

def loaderSize (env : Nat) : Nat := roundupPow2 (max 1 (min env 4294967295))

/-! ### operations of one work unit's slot (refinement theorem, driver) -/

inductive Op where
  | set (k : Key) (v : Val) (memT memE : Bool)
  | get (kid : Nat)
  | revive     -- `thread_revive`: does not access `p_keytable`
  | free       -- `thread_free`: `ABTI_ktable_free` if the slot is non-NULL; the descriptor is
               -- released and a later work unit starts with `p_keytable = NULL`
deriving Repr

inductive Out where
  | setR (ok : Bool)
  | getR (v : Val)
  | reviveR
  | freeR (calls : List DCall) (blocks : List (Nat × BlkKind))
deriving Repr, DecidableEq

def step (g : Geom) (size : Nat) (s : Slot) : Op → Slot × Out
  | .set k v mT mE => let (s', ok) := slotSet g size s k v mT mE; (s', .setR ok)
  | .get kid => (s, .getR (slotGet s kid))
  | .revive => (s, .reviveR)
  | .free => (none, .freeR (slotFree s).1 (slotFree s).2)

def runOps (g : Geom) (size : Nat) (s : Slot) : List Op → Slot × List Out
  | [] => (s, [])
  | op :: ops =>
    let (s1, o) := step g size s op
    let (s2, os) := runOps g size s1 ops
    (s2, o :: os)

/-! ### many work units -/

abbrev Sys := Nat → Slot

def updS (f : Sys) (u : Nat) (s : Slot) : Sys := fun x => if x = u then s else f x

def sysStep (g : Geom) (size : Nat) (S : Sys) (u : Nat) (op : Op) : Sys × Out :=
  let (s', o) := step g size (S u) op
  (updS S u s', o)

def sysRun (g : Geom) (size : Nat) (S : Sys) : List (Nat × Op) → Sys × List Out
  | [] => (S, [])
  | (u, op) :: ops =>
    let (S1, o) := sysStep g size S u op
    let (S2, os) := sysRun g size S1 ops
    (S2, o :: os)

/-! ### canonical dumps for the differential driver -/

def Elem.dump (e : Elem) : String := s!"{e.keyId}={e.val}"

def dumpChain (c : List Elem) : String := " ".intercalate (c.map Elem.dump)

def BlkKind.tag : BlkKind → String
  | .mempool => "P"
  | .malloc => "M"

def dumpBlocks (t : Table) : String := String.join (t.used.map fun (_, k) => k.tag)

/-! ## Part 2: concurrent `ABTI_ktable_set` on one slot

`n` callers, caller `t` executes `ABTI_ktable_set(pp_ktable, key t, val t)` once.
Shared: the slot word, the (unique) table object, its spinlock.  One transition =
one atomic operation of the C code (acquire-load / weak CAS / release-store of the
slot; acquire-load of a chain link together with the comparison of the loaded
element's immutable `key_id`; store of `value`; spinlock acquire/release; the
release-store that publishes a new element).  Allocation + initialisation of a
private element is folded into the transition that decides to append. -/

inductive SlotV where
  | null | locked | valid
deriving Repr, DecidableEq

inductive Pc where
  | start                    -- about to acquire-load `*pp_ktable`
  | cas                      -- about to CAS(NULL → LOCKED)
  | creating                 -- owns LOCKED: about to create the table and release-store it
  | reload                   -- CAS failed: about to acquire-load the slot
  | spin                     -- saw LOCKED: pause, about to load again
  | walk (j : Nat)           -- set_impl without lock: about to load link j (0 = bucket head)
  | store (j : Nat)          -- key found at element j: about to write `value` (lock not held)
  | acq (j : Nat)            -- link j was NULL: about to acquire `p_ktable->lock`
  | lwalk (j : Nat)          -- lock held: about to load link j
  | lrel (j : Nat)           -- lock held, key found at element j: about to release the lock
  | pub (j : Nat) (blk : Nat) -- lock held, tail at link j, element built: about to release-store link j
  | unlock                   -- element published: about to release the lock
  | unlockFail               -- element allocation failed: about to release the lock
  | done (ok : Bool)
  | crashed                  -- `ABTI_ktable_set_impl(NULL)`: NULL dereference
deriving Repr, DecidableEq

inductive Act where
  | loadValid | loadInvalid | casOk | casFail | create | createFail
  | reloadNull | reloadLocked | reloadValid | spinLocked | spinValid | spinNull
  | walkNext | walkFound | walkEnd | store | acquire
  | lwalkNext | lwalkFound | lwalkEnd | lwalkEndFail | lrel | publish | unlock | unlockFail
deriving Repr, DecidableEq

structure Params where
  g : Geom
  size : Nat
  n : Nat
  key : Nat → Key
  val : Nat → Val
  faults : Bool       -- may allocations fail?

structure CSt where
  slot : SlotV
  tbl : Table          -- the table object (meaningful once created)
  created : Nat        -- ghost: successful `ABTI_ktable_create` calls
  lock : Option Nat    -- `p_ktable->lock` holder
  pc : Nat → Pc
  lastw : Nat → Nat    -- ghost: key id → caller whose value store was the latest

def emptyTable : Table :=
  { size := 0, b := fun _ => [], used := [], extra := 0, extraBlk := 0, nblk := 0, ledger := [] }

def CSt.init : CSt :=
  { slot := .null, tbl := emptyTable, created := 0, lock := none, pc := fun _ => .start, lastw := fun _ => 0 }

/-- the chain caller `t` works on -/
def CSt.ch (P : Params) (s : CSt) (t : Nat) : List Elem := s.tbl.b (idx P.size (P.key t).id)

def CSt.setCh (P : Params) (s : CSt) (t : Nat) (c : List Elem) : Table :=
  { s.tbl with b := updB s.tbl.b (idx P.size (P.key t).id) c }

def newElem (P : Params) (t : Nat) (blk : Nat) : Elem :=
  { dtor := (P.key t).dtor, keyId := (P.key t).id, val := P.val t, blk := blk }

inductive Step (P : Params) : CSt → Nat × Act → CSt → Prop where
  | loadValid {s t} : t < P.n → s.pc t = .start → s.slot = .valid →
      Step P s (t, .loadValid) { s with pc := upd s.pc t (.walk 0) }
  | loadInvalid {s t} : t < P.n → s.pc t = .start → s.slot ≠ .valid →
      Step P s (t, .loadInvalid) { s with pc := upd s.pc t .cas }
  | casOk {s t} : t < P.n → s.pc t = .cas → s.slot = .null →
      Step P s (t, .casOk) { s with slot := .locked, pc := upd s.pc t .creating }
  /-- weak CAS: fails when the slot is not NULL, and may fail spuriously -/
  | casFail {s t} : t < P.n → s.pc t = .cas →
      Step P s (t, .casFail) { s with pc := upd s.pc t .reload }
  | create {s t} : t < P.n → s.pc t = .creating →
      Step P s (t, .create)
        { s with slot := .valid, tbl := createOk P.g P.size, created := s.created + 1,
                 pc := upd s.pc t (.walk 0) }
  | createFail {s t} : t < P.n → s.pc t = .creating → P.faults = true →
      Step P s (t, .createFail) { s with slot := .null, pc := upd s.pc t (.done false) }
  | reloadNull {s t} : t < P.n → s.pc t = .reload → s.slot = .null →
      Step P s (t, .reloadNull) { s with pc := upd s.pc t .cas }
  | reloadLocked {s t} : t < P.n → s.pc t = .reload → s.slot = .locked →
      Step P s (t, .reloadLocked) { s with pc := upd s.pc t .spin }
  | reloadValid {s t} : t < P.n → s.pc t = .reload → s.slot = .valid →
      Step P s (t, .reloadValid) { s with pc := upd s.pc t (.walk 0) }
  | spinLocked {s t} : t < P.n → s.pc t = .spin → s.slot = .locked →
      Step P s (t, .spinLocked) s
  | spinValid {s t} : t < P.n → s.pc t = .spin → s.slot = .valid →
      Step P s (t, .spinValid) { s with pc := upd s.pc t (.walk 0) }
  /-- the spin loop exits on anything that is not LOCKED and then uses the pointer -/
  | spinNull {s t} : t < P.n → s.pc t = .spin → s.slot = .null →
      Step P s (t, .spinNull) { s with pc := upd s.pc t .crashed }
  | walkNext {s t j e} : t < P.n → s.pc t = .walk j → (s.ch P t)[j]? = some e → e.keyId ≠ (P.key t).id →
      Step P s (t, .walkNext) { s with pc := upd s.pc t (.walk (j + 1)) }
  | walkFound {s t j e} : t < P.n → s.pc t = .walk j → (s.ch P t)[j]? = some e → e.keyId = (P.key t).id →
      Step P s (t, .walkFound) { s with pc := upd s.pc t (.store j) }
  | walkEnd {s t j} : t < P.n → s.pc t = .walk j → (s.ch P t)[j]? = none →
      Step P s (t, .walkEnd) { s with pc := upd s.pc t (.acq j) }
  | store {s t j e} : t < P.n → s.pc t = .store j → (s.ch P t)[j]? = some e →
      Step P s (t, .store)
        { s with tbl := s.setCh P t ((s.ch P t).set j { e with val := P.val t }),
                 lastw := upd s.lastw (P.key t).id t, pc := upd s.pc t (.done true) }
  | acquire {s t j} : t < P.n → s.pc t = .acq j → s.lock = none →
      Step P s (t, .acquire) { s with lock := some t, pc := upd s.pc t (.lwalk j) }
  | lwalkNext {s t j e} : t < P.n → s.pc t = .lwalk j → (s.ch P t)[j]? = some e → e.keyId ≠ (P.key t).id →
      Step P s (t, .lwalkNext) { s with pc := upd s.pc t (.lwalk (j + 1)) }
  | lwalkFound {s t j e} : t < P.n → s.pc t = .lwalk j → (s.ch P t)[j]? = some e → e.keyId = (P.key t).id →
      Step P s (t, .lwalkFound) { s with pc := upd s.pc t (.lrel j) }
  | lwalkEnd {s t j tb blk} : t < P.n → s.pc t = .lwalk j → (s.ch P t)[j]? = none →
      allocElem P.g s.tbl true = some (tb, blk) →
      Step P s (t, .lwalkEnd) { s with tbl := tb, pc := upd s.pc t (.pub j blk) }
  | lwalkEndFail {s t j} : t < P.n → s.pc t = .lwalk j → (s.ch P t)[j]? = none →
      allocElem P.g s.tbl false = none → P.faults = true →
      Step P s (t, .lwalkEndFail) { s with pc := upd s.pc t .unlockFail }
  | lrel {s t j} : t < P.n → s.pc t = .lrel j →
      Step P s (t, .lrel) { s with lock := none, pc := upd s.pc t (.store j) }
  | publish {s t j blk} : t < P.n → s.pc t = .pub j blk →
      Step P s (t, .publish)
        { s with tbl := s.setCh P t (s.ch P t ++ [newElem P t blk]),
                 lastw := upd s.lastw (P.key t).id t, pc := upd s.pc t .unlock }
  | unlock {s t} : t < P.n → s.pc t = .unlock →
      Step P s (t, .unlock) { s with lock := none, pc := upd s.pc t (.done true) }
  | unlockFail {s t} : t < P.n → s.pc t = .unlockFail →
      Step P s (t, .unlockFail) { s with lock := none, pc := upd s.pc t (.done false) }

/-- executable version of `Step` (sound w.r.t. it: `Proofs.KTableRace.exec_sound`); used to
replay concrete interleavings -/
def exec (P : Params) (s : CSt) (ev : Nat × Act) : Option CSt :=
  let t := ev.1
  if ¬ t < P.n then none else
  match ev.2, s.pc t with
  | .loadValid, .start => if s.slot = .valid then some { s with pc := upd s.pc t (.walk 0) } else none
  | .loadInvalid, .start => if s.slot ≠ .valid then some { s with pc := upd s.pc t .cas } else none
  | .casOk, .cas => if s.slot = .null then some { s with slot := .locked, pc := upd s.pc t .creating } else none
  | .casFail, .cas => some { s with pc := upd s.pc t .reload }
  | .create, .creating =>
    some { s with slot := .valid, tbl := createOk P.g P.size, created := s.created + 1, pc := upd s.pc t (.walk 0) }
  | .createFail, .creating =>
    if P.faults = true then some { s with slot := .null, pc := upd s.pc t (.done false) } else none
  | .reloadNull, .reload => if s.slot = .null then some { s with pc := upd s.pc t .cas } else none
  | .reloadLocked, .reload => if s.slot = .locked then some { s with pc := upd s.pc t .spin } else none
  | .reloadValid, .reload => if s.slot = .valid then some { s with pc := upd s.pc t (.walk 0) } else none
  | .spinLocked, .spin => if s.slot = .locked then some s else none
  | .spinValid, .spin => if s.slot = .valid then some { s with pc := upd s.pc t (.walk 0) } else none
  | .spinNull, .spin => if s.slot = .null then some { s with pc := upd s.pc t .crashed } else none
  | .walkNext, .walk j =>
    match (s.ch P t)[j]? with
    | some e => if e.keyId ≠ (P.key t).id then some { s with pc := upd s.pc t (.walk (j + 1)) } else none
    | none => none
  | .walkFound, .walk j =>
    match (s.ch P t)[j]? with
    | some e => if e.keyId = (P.key t).id then some { s with pc := upd s.pc t (.store j) } else none
    | none => none
  | .walkEnd, .walk j =>
    match (s.ch P t)[j]? with
    | some _ => none
    | none => some { s with pc := upd s.pc t (.acq j) }
  | .store, .store j =>
    match (s.ch P t)[j]? with
    | some e =>
      some { s with tbl := s.setCh P t ((s.ch P t).set j { e with val := P.val t }),
                    lastw := upd s.lastw (P.key t).id t, pc := upd s.pc t (.done true) }
    | none => none
  | .acquire, .acq j =>
    match s.lock with
    | none => some { s with lock := some t, pc := upd s.pc t (.lwalk j) }
    | some _ => none
  | .lwalkNext, .lwalk j =>
    match (s.ch P t)[j]? with
    | some e => if e.keyId ≠ (P.key t).id then some { s with pc := upd s.pc t (.lwalk (j + 1)) } else none
    | none => none
  | .lwalkFound, .lwalk j =>
    match (s.ch P t)[j]? with
    | some e => if e.keyId = (P.key t).id then some { s with pc := upd s.pc t (.lrel j) } else none
    | none => none
  | .lwalkEnd, .lwalk j =>
    match (s.ch P t)[j]?, allocElem P.g s.tbl true with
    | none, some (tb, blk) => some { s with tbl := tb, pc := upd s.pc t (.pub j blk) }
    | _, _ => none
  | .lwalkEndFail, .lwalk j =>
    match (s.ch P t)[j]?, allocElem P.g s.tbl false with
    | none, none => if P.faults = true then some { s with pc := upd s.pc t .unlockFail } else none
    | _, _ => none
  | .lrel, .lrel j => some { s with lock := none, pc := upd s.pc t (.store j) }
  | .publish, .pub j blk =>
    some { s with tbl := s.setCh P t (s.ch P t ++ [newElem P t blk]),
                  lastw := upd s.lastw (P.key t).id t, pc := upd s.pc t .unlock }
  | .unlock, .unlock => some { s with lock := none, pc := upd s.pc t (.done true) }
  | .unlockFail, .unlockFail => some { s with lock := none, pc := upd s.pc t (.done false) }
  | _, _ => none

def execTrace (P : Params) : CSt → List (Nat × Act) → Option CSt
  | s, [] => some s
  | s, e :: es => match exec P s e with
    | none => none
    | some s' => execTrace P s' es

end ArgoVerif.Model.KTable
